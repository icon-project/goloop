/-
  Proofs/C01Sys — L-sys: n transcribed validator machines + the message soup.

  * `Sys` = the soup (every vote ever signed by anybody, in signing order) + one machine state per
    validator index.  `Reach n byz` = the states reachable from "every correct validator freshly
    started, empty soup" by (a) a Byzantine validator signing ANY vote, (b) a correct validator
    performing ANY crash-free event (proposal / block part of anybody — not even required to be
    signed —, timeout, BlockManager callback, or a `vote` event for a vote that is in the soup), (c) a
    correct validator being handed a block with commit votes of the soup through block sync (`sync`); the
    votes it signs during the event are appended to the soup in signing order.  Loss, delay,
    duplication and reordering are all schedules of this relation.
  * `ReachC P`: the same plus, for correct validators, `crashEvent` (death at any effect boundary of any
    event, C02's crash model; `crashSync` inside a block-sync callback) and `restart` (Start on the WALs) —
    every restart has to satisfy `P`.
  * `SysInv`: in every state reachable under `ReachC RLS` each correct machine keeps the per-machine invariant
    `M3` with `L` = the soup, the soup holds under a correct signer's name exactly what its machine signed, and
    every correct vote was all right with respect to the votes of its height in the soup BEFORE it
    (`Hist VoteOkAbs`: order, G2, G3 with exact timing) — whence G0–G3 of L-abs (`guarantees_of_sysInv`); with
    the Finalize rule of `M3` every Finalize effect of a correct validator has a commit quorum in the soup
    (`commitQ_of_finalize`).  One
    lemma (`sysInv_update`) serves every kind of machine step; it needs of the step only that it keeps `M3`
    and that the trace has grown.
  * `agreement_partial` (crash / restart, under RestoreLockSound) and its corollary `agreement_nocrash`.
  * `Sys.run` / `runOk`: a Boolean checker of concrete scripts, used for the reachable examples of Props/C01.
-/
import Goloop.Proofs.C01Restart
import Goloop.Proofs.C01Sync
import Goloop.Proofs.C01Hist
namespace Goloop.C01

structure Sys where
  /-- every vote signed so far, by anybody, in signing order -/
  soup : List VoteRec
  /-- the machine of validator `i` (only meaningful for correct `i`) -/
  st : Nat → S

/-- the votes signed between two states of one machine -/
def newVotes (s s' : S) : List VoteRec := votesOf ((sentOf s'.eff).drop (sentOf s.eff).length)

/-- validator `i` performs event `e`; what it signs goes to the soup -/
def Sys.step (sys : Sys) (i : Nat) (e : Event) : Sys :=
  ⟨sys.soup ++ newVotes (sys.st i) (vstep (sys.st i) e),
   fun j => if j = i then vstep (sys.st i) e else sys.st j⟩

/-- validator `i` is handed block `b` of height `h` with a commit vote list (precommits of round `r` by
    `signers`) through the block-sync callback -/
def Sys.syncStep (sys : Sys) (i : Nat) (h r : Nat) (b : Blk) (signers : List Nat) : Sys :=
  ⟨sys.soup ++ newVotes (sys.st i) (syncEv (sys.st i) h r b signers),
   fun j => if j = i then syncEv (sys.st i) h r b signers else sys.st j⟩

inductive Reach (n : Nat) (byz : Nat → Bool) : Sys → Prop
  | init : Reach n byz ⟨[], fun i => start { n := n, me := i }⟩
  | byzVote (sys : Sys) (v : VoteRec) : Reach n byz sys → byz v.signer = true →
      Reach n byz ⟨sys.soup ++ [v], sys.st⟩
  | event (sys : Sys) (i : Nat) (e : Event) : Reach n byz sys → byz i = false → e.noCrash →
      (∀ m, e = .vote m → m ∈ sys.soup) → Reach n byz (sys.step i e)
  | sync (sys : Sys) (i : Nat) (h r : Nat) (b : Blk) (signers : List Nat) : Reach n byz sys → byz i = false →
      (∀ v, v ∈ syncVotes h r b signers → v ∈ sys.soup) → Reach n byz (sys.syncStep i h r b signers)

/-- validator `i` starts event `e` and its process dies at effect boundary `cut` of the trace: what
    follows `cut` never happened, `k` unsynced records of every WAL survive (C02's crash model) -/
def Sys.crashStep (sys : Sys) (i : Nat) (e : Event) (cut k : Nat) : Sys :=
  ⟨sys.soup ++ newVotes (sys.st i) (crash (vstep (sys.st i) e) cut k),
   fun j => if j = i then crash (vstep (sys.st i) e) cut k else sys.st j⟩

/-- the process of validator `i` dies at effect boundary `cut` while handling a block-sync callback -/
def Sys.crashSyncStep (sys : Sys) (i : Nat) (h r : Nat) (b : Blk) (signers : List Nat) (cut k : Nat) : Sys :=
  ⟨sys.soup ++ newVotes (sys.st i) (crash (syncEv (sys.st i) h r b signers) cut k),
   fun j => if j = i then crash (syncEv (sys.st i) h r b signers) cut k else sys.st j⟩

/-- L-sys WITH crash and restart of correct validators.  `P` is the condition every restart has to
    satisfy (`RLS` for `agreement_partial`; `fun _ => True` gives all executions).
    * `crashEvent`: the process of validator `i` dies while handling event `e`, at ANY effect boundary
      `cut` of `e` (`cut` = length of the trace before `e`: the crash hits before the first effect of
      `e`, i.e. between events; `cut` ≥ length after `e`: after its last effect), any number `k` of
      unsynced WAL records survives;
    * `restart`: a stopped validator runs `Start` on its WALs (applyRoundWAL + applyLockWAL +
      applyCommitWAL + dispatch).  `SignClosed`: its last crash did not fall between the WAL write of a
      vote and handing that vote to the network (those two effect boundaries per vote are excluded). -/
inductive ReachC (P : S → Prop) (n : Nat) (byz : Nat → Bool) : Sys → Prop
  | init : ReachC P n byz ⟨[], fun i => start { n := n, me := i }⟩
  | byzVote (sys : Sys) (v : VoteRec) : ReachC P n byz sys → byz v.signer = true →
      ReachC P n byz ⟨sys.soup ++ [v], sys.st⟩
  | event (sys : Sys) (i : Nat) (e : Event) : ReachC P n byz sys → byz i = false → e.noCrash →
      (∀ m, e = .vote m → m ∈ sys.soup) → ReachC P n byz (sys.step i e)
  | sync (sys : Sys) (i : Nat) (h r : Nat) (b : Blk) (signers : List Nat) : ReachC P n byz sys →
      byz i = false → (∀ v, v ∈ syncVotes h r b signers → v ∈ sys.soup) →
      ReachC P n byz (sys.syncStep i h r b signers)
  | crashEvent (sys : Sys) (i : Nat) (e : Event) (cut k : Nat) : ReachC P n byz sys → byz i = false →
      e.noCrash → (∀ m, e = .vote m → m ∈ sys.soup) → (sys.st i).eff.length ≤ cut →
      ReachC P n byz (sys.crashStep i e cut k)
  | crashSync (sys : Sys) (i : Nat) (h r : Nat) (b : Blk) (signers : List Nat) (cut k : Nat) :
      ReachC P n byz sys → byz i = false → (∀ v, v ∈ syncVotes h r b signers → v ∈ sys.soup) →
      (sys.st i).eff.length ≤ cut → ReachC P n byz (sys.crashSyncStep i h r b signers cut k)
  | restart (sys : Sys) (i : Nat) : ReachC P n byz sys → byz i = false → (sys.st i).started = false →
      SignClosed (sys.st i).eff → P (sys.st i) → ReachC P n byz (sys.step i .start)

theorem reachC_of_reach {P : S → Prop} {n : Nat} {byz : Nat → Bool} {sys : Sys} (h : Reach n byz sys) :
    ReachC P n byz sys := by
  induction h with
  | init => exact ReachC.init
  | byzVote sys v _ hb ih => exact ReachC.byzVote sys v ih hb
  | event sys i e _ hbi hn hl ih => exact ReachC.event sys i e ih hbi hn hl
  | sync sys i h r b sg _ hbi hk ih => exact ReachC.sync sys i h r b sg ih hbi hk

/-- the first `start`, evaluated: the empty WALs replay to the fresh state of height 1, the dispatch goes through
    enterTransactionWait to `enterPropose`, which (unlocked, no proposal yet) arms the Propose callback or only the timer:
    no effect -/
theorem start_fresh_eff (n me : Nat) : (start { n := n, me := me }).eff = [] := by
  unfold start
  simp only [Bool.false_eq_true, if_false]
  simp only [S.resetForNewHeight, S.resetRound_, S.beginStep, S.endStep, validTransition,
    S.resetForNewStep, stNewHeight, stNewRound, stTransactionWait]
  -- the replay of the empty WALs: `walDurable_nil`, `applyRoundWAL_nil`, `applyLockWAL_nil`, `applyCommitWAL_nil` (Proofs/C01G1)
  simp
  rw [show fuel0 = 63 + 1 from rfl]
  unfold enterPropose
  simp [S.resetForNewStep, S.beginStep, S.endStep, validTransition, stPropose, stNewHeight, stNewRound,
    S.isPropAndPOLComplete, Cur.isComplete]
  split <;> rfl

def toVote (x : VoteRec) : Vote := ⟨x.signer, x.typ, x.round, x.val⟩

/-- the votes of height `h` in the soup, in signing order: a history of Model/C01Abs -/
def projH (h : Nat) (soup : List VoteRec) : List Vote :=
  soup.filterMap (fun x => if x.height = h then some (toVote x) else none)

theorem projH_some {h : Nat} {x : VoteRec} {v : Vote}
    (e : (if x.height = h then some (toVote x) else none) = some v) : x.height = h ∧ toVote x = v :=
  (Option.ite_none_right_eq_some.mp e).imp id Option.some.inj

theorem mem_projH {h : Nat} {soup : List VoteRec} {v : Vote} :
    v ∈ projH h soup ↔ ∃ x, x ∈ soup ∧ x.height = h ∧ toVote x = v := by
  unfold projH
  rw [List.mem_filterMap]
  constructor
  · rintro ⟨x, hx, he⟩
    exact ⟨x, hx, projH_some he⟩
  · rintro ⟨x, hx, hh, he⟩
    exact ⟨x, hx, by rw [if_pos hh, he]⟩

/-- a quorum the machine knows of is a quorum of the soup `A` once `A` holds every vote it knows -/
theorem over23_of_known {L : List VoteRec} {n : Nat} {sent : List Msg} {A : List VoteRec} {h : Nat} {t : VType}
    {r : Nat} {y : Option Blk} (hk : ∀ x, Known L sent x → x ∈ A) (hq : quorumKnown L n sent h t r y) :
    over23 n (voters n (projH h A) t r y) :=
  over23_mono (fun _ hi => mem_projH.mpr ⟨_, hk _ hi, rfl, rfl⟩) hq

structure SysInv (n : Nat) (byz : Nat → Bool) (sys : Sys) : Prop where
  /-- what a machine knows only grows with `L`: stated for every `L` that holds the soup, the invariant of a
      machine that does not move needs no argument when the soup grows -/
  mach : ∀ i, byz i = false → ∀ L, (∀ x, x ∈ sys.soup → x ∈ L) → M3 L i n (sys.st i)
  /-- the votes in the soup that carry a correct signer's name are those its machine signed (unforgeability,
      and everything signed goes to the soup) -/
  mine : ∀ i, byz i = false → ∀ x, x.signer = i → (x ∈ sys.soup ↔ Msg.vote x ∈ sentOf (sys.st i).eff)
  /-- every correct vote was all right with respect to the votes of its height signed before it -/
  hist : Hist (fun A x => byz x.signer = false → VoteOkAbs n (projH x.height A) (toVote x)) sys.soup

section
variable {n : Nat} {byz : Nat → Bool} {sys : Sys}

theorem SysInv.sub (hi : SysInv n byz sys) {i : Nat} (hbi : byz i = false) {x : VoteRec}
    (hx : Msg.vote x ∈ sentOf (sys.st i).eff) : x ∈ sys.soup :=
  (hi.mine i hbi x ((hi.mach i hbi _ fun _ h => h).inv.tr.sg _ hx).1).mpr hx

theorem sysInv_init :
    SysInv n byz ⟨[], fun i => start { n := n, me := i }⟩ := by
  refine ⟨fun i _ L _ => ?_, fun i _ x _ => ?_, Hist.nil⟩
  · -- reduce `{ soup := .., st := .. }.st i` first: left to `exact`, unification unfolds `start`
    dsimp only
    exact m3_first_start n i
  · dsimp only
    rw [start_fresh_eff]
    exact ⟨nofun, nofun⟩

theorem sysInv_byz (v : VoteRec) (hi : SysInv n byz sys)
    (hb : byz v.signer = true) : SysInv n byz ⟨sys.soup ++ [v], sys.st⟩ := by
  refine ⟨fun i hbi L hL => hi.mach i hbi L fun x hx => hL x (List.mem_append_left _ hx), fun i hbi x hx => ?_,
    hi.hist.snoc fun hbv => nomatch hb.symm.trans hbv⟩
  show x ∈ sys.soup ++ [v] ↔ _
  rw [List.mem_append, or_iff_left fun h => ?_]
  · exact hi.mine i hbi x hx
  · rw [← hx, List.mem_singleton.mp h, hb] at hbi; cases hbi

/-- A machine step: the votes signed in it go to the soup in signing order; each is checked against the
    soup before it by the trace rules of the machine (`L` = the soup before the step). -/
theorem sysInv_update {i : Nat} {s' : S} (hi : SysInv n byz sys)
    (hbi : byz i = false)
    (hm : ∀ L, (∀ x, x ∈ sys.soup → x ∈ L) → M3 L i n (sys.st i) → M3 L i n s' ∧ (sys.st i).eff <+: s'.eff) :
    SysInv n byz ⟨sys.soup ++ newVotes (sys.st i) s', fun j => if j = i then s' else sys.st j⟩ := by
  obtain ⟨hm2, hpre⟩ := hm sys.soup (fun _ h => h) (hi.mach i hbi _ fun _ h => h)
  obtain ⟨newM, hnew⟩ := sentOf_prefix hpre
  have hnv : newVotes (sys.st i) s' = votesOf newM := by
    unfold newVotes; rw [← hnew, List.drop_left]
  rw [hnv]
  have hsent : sentOf s'.eff = sentOf (sys.st i).eff ++ newM := hnew.symm
  have hsig : ∀ x, Msg.vote x ∈ sentOf s'.eff → x.signer = i := fun x hx => (hm2.inv.tr.sg _ hx).1
  -- of the votes with the name of `i`, the soup after any part `M1` of the step holds what `i` has signed by then
  have hmine : ∀ M1 x, x.signer = i → (x ∈ sys.soup ++ votesOf M1 ↔ Msg.vote x ∈ sentOf (sys.st i).eff ++ M1) :=
    fun M1 x hx => by rw [List.mem_append, List.mem_append, mem_votesOf, hi.mine i hbi x hx]
  refine ⟨fun j hbj L hL => ?_, fun j hbj x hx => ?_, hist_append.mpr ⟨hi.hist, Hist.filterMap _
    (P := fun M1 m => ∀ w, m = .vote w → VoteOkAbs n (projH w.height (sys.soup ++ votesOf M1)) (toVote w)) ?_
    (fun M1 m w hf hok _ => hok w (votesOf_some hf))⟩⟩
  · have hL' : ∀ x, x ∈ sys.soup → x ∈ L := fun x hx => hL x (List.mem_append_left _ hx)
    exact ite_pred (M3 L j n) _ _ _ (fun hj => hj ▸ (hm L hL' (hi.mach i hbi L hL')).1) (fun _ => hi.mach j hbj L hL')
  · dsimp only
    by_cases hj : j = i
    · rw [if_pos hj, hsent]
      exact hmine newM x (hx.trans hj)
    · rw [if_neg hj, List.mem_append, or_iff_left fun h => ?_]
      · exact hi.mine j hbj x hx
      · exact hj (hx.symm.trans (hsig x (hsent ▸ List.mem_append_right _ (mem_votesOf.mp h))))
  · intro M1 m M2 hM w hw
    subst hw
    have hd : sentOf s'.eff = (sentOf (sys.st i).eff ++ M1) ++ Msg.vote w :: M2 := by
      rw [hsent, hM, List.append_assoc]
    have hws : w.signer = i := hsig w (by rw [hd]; simp)
    have hknown : ∀ x, Known sys.soup (sentOf (sys.st i).eff ++ M1) x → x ∈ sys.soup ++ votesOf M1 :=
      fun x hk => hk.elim (List.mem_append_left _) fun h =>
        (hmine M1 x (hsig x (hd ▸ List.mem_append_left _ h))).mpr h
    -- a vote of the height of `w` under the name of `i` in the soup so far: signed by the machine before `w`
    have hown : ∀ v, v ∈ projH w.height (sys.soup ++ votesOf M1) → v.signer = w.signer →
        ∃ y, Msg.vote y ∈ sentOf (sys.st i).eff ++ M1 ∧ y.height = w.height ∧ toVote y = v := fun v hv hs => by
      obtain ⟨y, hy, hyh, rfl⟩ := mem_projH.mp hv
      exact ⟨y, (hmine M1 y (hs.trans hws)).mp hy, hyh, rfl⟩
    refine ⟨fun v hv hs => ?_, fun b ht hval => over23_of_known hknown (hm2.trf.g2 _ w M2 b hd ht hval),
      fun ht v b hv hs hvt hval hr hne => ?_⟩
    · obtain ⟨y, hy, hyh, rfl⟩ := hown v hv hs
      have hinc := hm2.inv.inc
      rw [hd, List.pairwise_append] at hinc
      exact round_of_key_lt (hinc.2.2 _ hy _ List.mem_cons_self) hyh
    · obtain ⟨y, hy, hyh, rfl⟩ := hown v hv hs
      obtain ⟨r'', z, c1, c2, c3, c4⟩ := hm2.trf.g3 _ w M2 hd ht y b hy hvt hval hyh hr hne
      exact ⟨r'', z, c1, c2, c3, over23_of_known hknown c4⟩

theorem m3_vstepS {L : List VoteRec} {me n : Nat} (s : S) (e : EventS) (hn : e.noCrash)
    (hl : ∀ m, m ∈ e.votes → m ∈ L) (hm : M3 L me n s) :
    M3 L me n (vstepS s e) ∧ s.eff <+: (vstepS s e).eff := by
  rcases hm.run with hs | ha
  · rw [vstepS_stopped s e hn hs]
    exact ⟨hm, List.prefix_refl _⟩
  · exact m3_of_a3 (vstepS_inv s e hm.inv) (vstepS_a3 s e hn hl (a3_rebase s.eff (List.prefix_refl _) ha))

/-- hence every crash-free run, of a running or a stopped machine -/
theorem m3_run {L : List VoteRec} {me n : Nat} (s : S) (evs : List Event) (hn : ∀ e ∈ evs, e.noCrash)
    (hl : ∀ m, Event.vote m ∈ evs → m ∈ L) (hm : M3 L me n s) : M3 L me n (run s evs) :=
  run_foldl s evs ▸ List.foldlRecOn evs vstep hm fun s hs e he =>
    (m3_vstepS s (.ev e) (hn e he) (fun m hm => hl m (EventS.ev_votes hm ▸ he)) hs).1

theorem m3_crash_step {L : List VoteRec} {me n : Nat} {s s' : S} (cut k : Nat)
    (hm : M3 L me n s' ∧ s.eff <+: s'.eff) (hp : s.eff.length ≤ cut) :
    M3 L me n (crash s' cut k) ∧ s.eff <+: (crash s' cut k).eff :=
  ⟨m3_crash s' cut k hm.1, (List.prefix_take_iff.mpr ⟨hm.2, hp⟩).trans (List.prefix_append _ _)⟩

theorem reachC_sysInv (hr : ReachC RLS n byz sys) :
    SysInv n byz sys := by
  induction hr with
  | init => exact sysInv_init
  | byzVote sys v _ hb ih => exact sysInv_byz v ih hb
  | event sys i e _ hbi hn hl ih =>
    exact sysInv_update ih hbi fun L hL =>
      m3_vstepS _ (.ev e) hn fun m hm => hL m (hl m (EventS.ev_votes hm))
  | sync sys i h r b sg _ hbi hk ih =>
    exact sysInv_update ih hbi fun L hL =>
      m3_vstepS _ (.sync h r b sg) trivial fun m hm => hL m (hk m hm)
  | crashEvent sys i e cut k _ hbi hn hl hp ih =>
    exact sysInv_update ih hbi fun L hL hm => m3_crash_step cut k
      (m3_vstepS _ (.ev e) hn (fun m hm => hL m (hl m (EventS.ev_votes hm))) hm) hp
  | crashSync sys i h r b sg cut k _ hbi hk hp ih =>
    exact sysInv_update ih hbi fun L hL hm => m3_crash_step cut k
      (m3_vstepS _ (.sync h r b sg) trivial (fun m hm => hL m (hk m hm)) hm) hp
  | restart sys i _ hbi hns hsc hP ih =>
    exact sysInv_update ih hbi fun L _ => m3_start _ hns hsc hP

theorem guarantees_of_sysInv (hi : SysInv n byz sys) (h : Nat) :
    Guarantees n byz (projH h sys.soup) :=
  guarantees_of_hist (hi.hist.filterMap _ fun A x w hf hok hb => by
    obtain ⟨hxh, rfl⟩ := projH_some hf
    exact hxh ▸ hok hb)

theorem commitQ_of_finalize (hi : SysInv n byz sys)
    (i : Nat) (hbi : byz i = false) (h : Nat) (b : Blk) (hf : (h, b) ∈ finalizedOf (sys.st i).eff) :
    ∃ r, commitQ n (projH h sys.soup) r b := by
  obtain ⟨r, hq⟩ := (hi.mach i hbi sys.soup fun _ h => h).trf.tr.fin_mem hf
  exact ⟨r, over23_of_known (fun x hk => hk.elim id (hi.sub hbi)) hq⟩

end

theorem agreement_partial (n : Nat) (byz : Nat → Bool) (hb : fewByz n byz) (sys : Sys)
    (hr : ReachC RLS n byz sys) (i j : Nat) (hi : byz i = false) (hj : byz j = false) (h : Nat) (b b' : Blk)
    (h1 : (h, b) ∈ finalizedOf (sys.st i).eff) (h2 : (h, b') ∈ finalizedOf (sys.st j).eff) : b = b' := by
  have inv := reachC_sysInv hr
  obtain ⟨r1, c1⟩ := commitQ_of_finalize inv i hi h b h1
  obtain ⟨r2, c2⟩ := commitQ_of_finalize inv j hj h b' h2
  exact agreement_abs n byz (projH h sys.soup) hb (guarantees_of_sysInv inv h) r1 b r2 b' c1 c2

theorem agreement_nocrash (n : Nat) (byz : Nat → Bool) (hb : fewByz n byz) (sys : Sys)
    (hr : Reach n byz sys) (i j : Nat) (hi : byz i = false) (hj : byz j = false) (h : Nat) (b b' : Blk)
    (h1 : (h, b) ∈ finalizedOf (sys.st i).eff) (h2 : (h, b') ∈ finalizedOf (sys.st j).eff) : b = b' :=
  agreement_partial n byz hb sys (reachC_of_reach hr) i j hi hj h b b' h1 h2

inductive Step where
  | byz (v : VoteRec)
  | ev (i : Nat) (e : Event)
  | sync (i : Nat) (h r : Nat) (b : Blk) (signers : List Nat)

def Sys.next (sys : Sys) : Step → Sys
  | .byz v => ⟨sys.soup ++ [v], sys.st⟩
  | .ev i e => sys.step i e
  | .sync i h r b sg => sys.syncStep i h r b sg

def Sys.run (sys : Sys) : List Step → Sys
  | [] => sys
  | st :: t => Sys.run (sys.next st) t

/-- the event is enabled: a correct validator, a crash-free event whose vote (if it is a vote event) is
    in the soup -/
def evOk (byz : Nat → Bool) (sys : Sys) (i : Nat) (e : Event) : Bool :=
  !byz i && decide e.noCrash &&
    (match e with
     | .vote m => decide (m ∈ sys.soup)
     | _ => true)

theorem evOk_spec {byz : Nat → Bool} {sys : Sys} {i : Nat} {e : Event} (h : evOk byz sys i e = true) :
    byz i = false ∧ e.noCrash ∧ ∀ m, e = .vote m → m ∈ sys.soup := by
  unfold evOk at h
  simp only [Bool.and_eq_true, Bool.not_eq_true'] at h
  refine ⟨h.1.1, of_decide_eq_true h.1.2, ?_⟩
  intro m hm
  subst hm
  simpa using h.2

/-- the sync step is enabled: a correct validator, the commit votes are in the soup -/
def syncOk (byz : Nat → Bool) (sys : Sys) (i h r : Nat) (b : Blk) (signers : List Nat) : Bool :=
  !byz i && (syncVotes h r b signers).all (fun v => decide (v ∈ sys.soup))

theorem syncOk_spec {byz : Nat → Bool} {sys : Sys} {i h r : Nat} {b : Blk} {signers : List Nat}
    (hk : syncOk byz sys i h r b signers = true) :
    byz i = false ∧ ∀ v, v ∈ syncVotes h r b signers → v ∈ sys.soup := by
  unfold syncOk at hk
  simp only [Bool.and_eq_true, Bool.not_eq_true', List.all_eq_true, decide_eq_true_eq] at hk
  exact hk

def Step.ok (byz : Nat → Bool) (sys : Sys) : Step → Bool
  | .byz v => byz v.signer
  | .ev i e => evOk byz sys i e
  | .sync i h r b sg => syncOk byz sys i h r b sg

def Sys.runOk (byz : Nat → Bool) (sys : Sys) : List Step → Bool
  | [] => true
  | st :: t => st.ok byz sys && Sys.runOk byz (sys.next st) t

def sys0 (n : Nat) : Sys := ⟨[], fun i => start { n := n, me := i }⟩

theorem reach_run (n : Nat) (byz : Nat → Bool) (sys : Sys) (steps : List Step) (hr : Reach n byz sys)
    (hok : sys.runOk byz steps = true) : Reach n byz (sys.run steps) := by
  induction steps generalizing sys with
  | nil => exact hr
  | cons st t ih =>
    unfold Sys.runOk at hok
    simp only [Bool.and_eq_true] at hok
    unfold Sys.run
    apply ih _ _ hok.2
    cases st with
    | byz v => exact Reach.byzVote sys v hr hok.1
    | ev i e =>
      obtain ⟨h1, h2, h3⟩ := evOk_spec hok.1
      exact Reach.event sys i e hr h1 h2 h3
    | sync i h r b sg =>
      obtain ⟨h1, h2⟩ := syncOk_spec hok.1
      exact Reach.sync sys i h r b sg hr h1 h2

inductive StepC where
  | byz (v : VoteRec)
  | ev (i : Nat) (e : Event)
  | sync (i : Nat) (h r : Nat) (b : Blk) (signers : List Nat)
  | crashEv (i : Nat) (e : Event) (cut k : Nat)
  | restart (i : Nat)

def Sys.nextC (sys : Sys) : StepC → Sys
  | .byz v => ⟨sys.soup ++ [v], sys.st⟩
  | .ev i e => sys.step i e
  | .sync i h r b sg => sys.syncStep i h r b sg
  | .crashEv i e cut k => sys.crashStep i e cut k
  | .restart i => sys.step i .start

def Sys.runC (sys : Sys) : List StepC → Sys
  | [] => sys
  | st :: t => Sys.runC (sys.nextC st) t

def signClosedB (eff : List Eff) : Bool :=
  eff.all (fun e => match e with
    | .write .round (.msg (.vote v)) => decide (Msg.vote v ∈ sentOf eff)
    | _ => true)

theorem signClosed_of_B {eff : List Eff} (h : signClosedB eff = true) : SignClosed eff := by
  intro v hv
  unfold signClosedB at h
  rw [List.all_eq_true] at h
  have := h _ hv
  simpa using this

def StepC.ok (byz : Nat → Bool) (sys : Sys) : StepC → Bool
  | .byz v => byz v.signer
  | .ev i e => evOk byz sys i e
  | .sync i h r b sg => syncOk byz sys i h r b sg
  | .crashEv i e cut _ => evOk byz sys i e && decide ((sys.st i).eff.length ≤ cut)
  | .restart i => !byz i && !(sys.st i).started && signClosedB (sys.st i).eff && decide (RLS (sys.st i))

def Sys.runOkC (byz : Nat → Bool) (sys : Sys) : List StepC → Bool
  | [] => true
  | st :: t => st.ok byz sys && Sys.runOkC byz (sys.nextC st) t

theorem reachC_run (n : Nat) (byz : Nat → Bool) (sys : Sys) (steps : List StepC) (hr : ReachC RLS n byz sys)
    (hok : sys.runOkC byz steps = true) : ReachC RLS n byz (sys.runC steps) := by
  induction steps generalizing sys with
  | nil => exact hr
  | cons st t ih =>
    unfold Sys.runOkC at hok
    simp only [Bool.and_eq_true] at hok
    unfold Sys.runC
    apply ih _ _ hok.2
    cases st with
    | byz v => exact ReachC.byzVote sys v hr hok.1
    | ev i e =>
      obtain ⟨h1, h2, h3⟩ := evOk_spec hok.1
      exact ReachC.event sys i e hr h1 h2 h3
    | sync i h r b sg =>
      obtain ⟨h1, h2⟩ := syncOk_spec hok.1
      exact ReachC.sync sys i h r b sg hr h1 h2
    | crashEv i e cut k =>
      have h := hok.1
      unfold StepC.ok at h
      simp only [Bool.and_eq_true, decide_eq_true_eq] at h
      obtain ⟨h1, h2, h3⟩ := evOk_spec h.1
      exact ReachC.crashEvent sys i e cut k hr h1 h2 h3 h.2
    | restart i =>
      have h := hok.1
      unfold StepC.ok at h
      simp only [Bool.and_eq_true, Bool.not_eq_true', decide_eq_true_eq] at h
      exact ReachC.restart sys i hr h.1.1.1 h.1.1.2 (signClosed_of_B h.1.2) h.2

end Goloop.C01
