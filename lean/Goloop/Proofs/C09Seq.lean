/-
  Proofs/C09Seq: the sequential reference, cut into per-transaction prefixes (`seqState`, `P`),
  and `runSeq` in terms of them; before them `Supported`, the blocks the theorems on `Sim` are about.
-/
import Goloop.Proofs.C09
import Goloop.Base.List
namespace Goloop.C09.Proofs
open Goloop.C09

/-- the blocks the code supports (and the harness generates) -/
structure Supported (txs : List Tx) : Prop where
  /-- no world READ lock request (no handler of the repository makes one) -/
  noWorldRead : ∀ t ∈ txs, ∀ r ∈ t.reqs, ¬ (r.acct = none ∧ r.lock = .read)
  /-- a world write locker accesses the state before it commits (ctx.UpdateSystemInfo()) -/
  worldTouches : ∀ i, i < txs.length → (lkAt txs i).world = 2 → (txAt txs i).prog ≠ []
  /-- writes go to accounts the transaction may write or did not declare (nil) -/
  valid : ∀ i, i < txs.length → validTx (lkAt txs i) (txAt txs i) = true

variable {txs : List Tx}

theorem world_cases (hs : Supported txs) {i : Nat} (h : i < txs.length) :
    (lkAt txs i).world = 0 ∨ (lkAt txs i).world = 2 := by
  rw [lkAt_world h]
  apply worldLockOf_noRead
  intro r hr
  rw [txAt_lt h] at hr
  exact hs.noWorldRead _ (List.getElem_mem h) r hr

theorem stepOn_length (i : Nat) (decl : Nat → Bool) (st : Step) (store : List Nat) (l : Local) :
    (stepOn i decl st store l).1.length = store.length := by
  -- one case per path through `stepOn`, in the order of its text: undeclared, read, write
  fun_cases stepOn i decl st store l with
  | case1 | case2 => rfl
  | case3 => exact List.length_set

theorem stepOn_read (i : Nat) (decl : Nat → Bool) (b : Nat) (store : List Nat) (l : Local) :
    (stepOn i decl (.r b) store l).1 = store := by
  unfold stepOn
  split <;> rfl

theorem stepOn_getD_other (i : Nat) (decl : Nat → Bool) (st : Step) (store : List Nat) (l : Local) (a : Nat)
    (h : st.acct ≠ a) : (stepOn i decl st store l).1.getD a 0 = store.getD a 0 := by
  fun_cases stepOn i decl st store l with
  | case1 | case2 => rfl
  | case3 b => exact (getD_set ..).trans (if_neg fun e => h e.1)

/-- A step of the event system (which takes every account it gets to as declared) and the step of the
    sequential run on a declared account, from stores that agree on the account: the same local state
    and, the stores being equally long, stores that agree wherever they agreed before. -/
theorem stepOn_agree (i : Nat) (decl : Nat → Bool) (st : Step) (store store' : List Nat) (l : Local)
    (hd : decl st.acct = true) (hv : store.getD st.acct 0 = store'.getD st.acct 0) :
    (stepOn i (fun _ => true) st store l).2 = (stepOn i decl st store' l).2 ∧
      (store.length = store'.length → ∀ a, store.getD a 0 = store'.getD a 0 →
        (stepOn i (fun _ => true) st store l).1.getD a 0 = (stepOn i decl st store' l).1.getD a 0) := by
  unfold stepOn
  simp only [hd, Bool.not_true, Bool.false_eq_true, if_false]
  cases st with
  | r b =>
    have hv' : store.getD b 0 = store'.getD b 0 := hv
    exact ⟨by simp only [hv'], fun _ _ ha => ha⟩
  | w b =>
    refine ⟨rfl, fun hl a ha => ?_⟩
    rw [getD_set, getD_set, hl, ha]

theorem stepOn_undeclared (i : Nat) (decl : Nat → Bool) (st : Step) (store : List Nat) (l : Local)
    (hd : decl st.acct = false) :
    stepOn i decl st store l = (store, { l with obs := l.obs ++ [none] }) := by
  simp [stepOn, hd]

def partialRun (i : Nat) (lk : Locks) (prog : List Step) (store : List Nat) (k : Nat) : List Nat × Local :=
  (prog.take k).foldl (fun (p : List Nat × Local) st => stepOn i (declaredBy lk) st p.1 p.2) (store, ⟨0, []⟩)

theorem partialRun_full (i : Nat) (lk : Locks) (prog : List Step) (store : List Nat) (k : Nat)
    (h : prog.length ≤ k) : partialRun i lk prog store k = runTxSeq i lk prog store := by
  unfold partialRun runTxSeq
  rw [List.take_of_length_le h]

theorem partialRun_length (i : Nat) (lk : Locks) (prog : List Step) (store : List Nat) (k : Nat) :
    (partialRun i lk prog store k).1.length = store.length :=
  List.foldlRecOn (motive := fun (p : List Nat × Local) => p.1.length = store.length) _ _ rfl
    fun _ hp _ _ => (stepOn_length ..).trans hp

/-- store before transaction `i` in the sequential execution -/
def seqState (txs : List Tx) (init : List Nat) : Nat → List Nat
  | 0 => init
  | i + 1 => (runTxSeq i (lkAt txs i) (txAt txs i).prog (seqState txs init i)).1

/-- sequential run of transaction `i` after its first `k` steps -/
def P (txs : List Tx) (init : List Nat) (i k : Nat) : List Nat × Local :=
  partialRun i (lkAt txs i) (txAt txs i).prog (seqState txs init i) k

theorem P_succ (init : List Nat) {i k : Nat} {st : Step} (h : (txAt txs i).prog[k]? = some st) :
    P txs init i (k + 1) = stepOn i (declaredBy (lkAt txs i)) st (P txs init i k).1 (P txs init i k).2 := by
  unfold P partialRun
  rw [List.take_add_one, h]
  simp [List.foldl_append]

theorem P_full (txs : List Tx) (init : List Nat) (i k : Nat) (h : (txAt txs i).prog.length ≤ k) :
    (P txs init i k).1 = seqState txs init (i + 1) := by
  unfold P
  rw [partialRun_full _ _ _ _ _ h]
  rfl

theorem seqState_length (txs : List Tx) (init : List Nat) (i : Nat) : (seqState txs init i).length = init.length := by
  induction i with
  | zero => rfl
  | succ i ih =>
    rw [← P_full txs init i _ (Nat.le_refl _)]
    unfold P
    rw [partialRun_length]; exact ih

theorem P_length (txs : List Tx) (init : List Nat) (i k : Nat) : (P txs init i k).1.length = init.length := by
  unfold P; rw [partialRun_length, seqState_length]

/-- A step through anything but the live store (undeclared account, read-only copy) leaves the
    sequential store as it is: a write through a read-only copy is not `valid`. -/
theorem stepOn_quiet (hs : Supported txs) {i : Nat} (h : i < txs.length) {st : Step}
    (hmem : st ∈ (txAt txs i).prog) (hq : ∀ d, access (lkAt txs i) st.acct ≠ .rw d)
    (hw : access (lkAt txs i) st.acct ≠ .worldW) (store : List Nat) (l : Local) :
    (stepOn i (declaredBy (lkAt txs i)) st store l).1 = store := by
  cases st with
  | r b => exact stepOn_read ..
  | w b =>
    have hv : (match access (lkAt txs i) b with | .ro _ => false | .roBase => false | _ => true) = true :=
      List.all_eq_true.mp (hs.valid i h) _ hmem
    have hd : declaredBy (lkAt txs i) b = false := by
      unfold declaredBy
      cases hc : access (lkAt txs i) b <;> rw [hc] at hv
      · exact absurd hc hw
      · exact absurd hc (hq _)
      · cases hv
      · cases hv
      · decide
    rw [stepOn_undeclared _ _ _ _ _ hd]

theorem P_untouched (hs : Supported txs) (init : List Nat) {i : Nat} (h : i < txs.length) {a : Nat}
    (hq : ∀ d, access (lkAt txs i) a ≠ .rw d) (hw : access (lkAt txs i) a ≠ .worldW) (k : Nat) :
    (P txs init i k).1.getD a 0 = (seqState txs init i).getD a 0 := by
  refine List.foldlRecOn (motive := fun (p : List Nat × Local) => p.1.getD a 0 = (seqState txs init i).getD a 0) _ _ rfl
    fun p hp st hst => ?_
  by_cases hsa : st.acct = a
  · subst hsa
    rw [stepOn_quiet hs h (List.mem_of_mem_take hst) hq hw]; exact hp
  · rw [stepOn_getD_other _ _ _ _ _ a hsa]; exact hp

theorem P_nonwriter (hs : Supported txs) (init : List Nat) {i : Nat} (h : i < txs.length) {a : Nat}
    (hw : writer txs i a = false) (k : Nat) :
    (P txs init i k).1.getD a 0 = (seqState txs init i).getD a 0 := by
  have hacc := access_spec h a
  refine P_untouched hs init h (fun d hc => ?_) (fun hc => ?_) k <;> rw [hc] at hacc
  · rw [hacc.2] at hw; cases hw
  · rw [writer_of_world h hacc] at hw; cases hw

theorem seqState_const (hs : Supported txs) (init : List Nat) (a lo : Nat) :
    ∀ hi, lo ≤ hi → hi ≤ txs.length → (∀ j, lo ≤ j → j < hi → writer txs j a = false) →
      (seqState txs init lo).getD a 0 = (seqState txs init hi).getD a 0 := by
  intro hi
  induction hi with
  | zero =>
    intro h _ _
    rw [Nat.le_zero.mp h]
  | succ hi ih =>
    intro hle hlen hnw
    by_cases heq : lo = hi + 1
    · subst heq; rfl
    · have hlo : lo ≤ hi := Nat.le_of_lt_succ (Nat.lt_of_le_of_ne hle heq)
      rw [← P_full txs init hi _ (Nat.le_refl _), P_nonwriter hs init hlen (hnw hi hlo (Nat.lt_succ_self hi))]
      exact ih hlo (Nat.le_of_succ_le hlen) (fun j h1 h2 => hnw j h1 (Nat.lt_succ_of_lt h2))

theorem runSeqFrom_spec (txs : List Tx) (init : List Nat) : ∀ k i, i + k = txs.length →
    runSeqFrom i ((txs.zip (build txs)).drop i) (seqState txs init i) =
      (seqState txs init txs.length,
       (List.range' i k).map (fun j => (P txs init j (txAt txs j).prog.length).2.obs)) := by
  intro k
  induction k with
  | zero =>
    intro i hi
    subst hi
    rw [List.drop_eq_nil_of_le (by simp [build_length])]
    simp [runSeqFrom]
  | succ k ih =>
    intro i hi
    have hlt : i < txs.length := hi ▸ Nat.lt_add_of_pos_right (Nat.succ_pos k)
    have hlz : i < (txs.zip (build txs)).length := by simpa [build_length] using hlt
    rw [List.drop_eq_getElem_cons hlz]
    simp only [List.getElem_zip, runSeqFrom]
    rw [← txAt_lt hlt, ← lkAt_lt hlt]
    have e1 : (runTxSeq i (lkAt txs i) (txAt txs i).prog (seqState txs init i)).1 = seqState txs init (i + 1) := rfl
    rw [e1, ih (i + 1) ((Nat.add_right_comm i 1 k).trans hi)]
    simp only [List.range'_succ, List.map_cons]
    congr 2
    unfold P
    rw [partialRun_full _ _ _ _ _ (Nat.le_refl _)]

theorem runSeq_eq (nacc : Nat) (txs : List Tx) :
    runSeq nacc txs = (seqState txs (initBal nacc) txs.length,
      (List.range txs.length).map (fun j => (P txs (initBal nacc) j (txAt txs j).prog.length).2.obs)) := by
  unfold runSeq
  have := runSeqFrom_spec txs (initBal nacc) txs.length 0 (Nat.zero_add _)
  simp only [List.drop_zero, seqState] at this
  rw [this, List.range_eq_range']

theorem stepOn_obs (i : Nat) (decl : Nat → Bool) (st : Step) (store : List Nat) (l : Local) :
    l.obs <+: (stepOn i decl st store l).2.obs := by
  fun_cases stepOn i decl st store l with
  | case1 | case2 => exact List.prefix_append _ _
  | case3 => exact List.prefix_refl _

theorem partialRun_obs_prefix (i : Nat) (lk : Locks) (prog : List Step) (store : List Nat) (k k' : Nat)
    (h : k ≤ k') : (partialRun i lk prog store k).2.obs <+: (partialRun i lk prog store k').2.obs := by
  unfold partialRun
  -- the longer run continues the shorter one, and no step takes an observation back
  rw [← List.take_append_drop k (prog.take k'), List.take_take, Nat.min_eq_left h, List.foldl_append]
  exact List.foldlRecOn (motive := fun (p : List Nat × Local) => _ <+: p.2.obs) _ _ (List.prefix_refl _)
    fun _ hp _ _ => hp.trans (stepOn_obs ..)

end Goloop.C09.Proofs
