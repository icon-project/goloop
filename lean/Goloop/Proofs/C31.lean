import Goloop.Model.C31
import Goloop.Base.BigEndian
namespace Goloop.C31.Proofs
open Goloop Goloop.C31

/-- the AEAD laws assumed by the faithfulness theorem -/
structure Aead.Lawful (A : Aead) : Prop where
  len : ∀ k n p, (A.sealF k n p).length = p.length + A.overhead
  opens : ∀ k n p, A.openF k n (A.sealF k n p) = some p

/-- two turns of the encoder loop of Base/BigEndian -/
theorem beNat_be16 (v : Nat) (h : v < 65536) : beNat (be16 v) = v :=
  beNat_snoc_digit (pre := [_]) (beNat_snoc_digit (pre := [])
    (Nat.div_eq_of_lt (Nat.div_lt_of_lt_mul (show v < 256 * 256 from h))).symm)

theorem be16_length (v : Nat) : (be16 v).length = 2 := rfl

/-- the frames `Write(b)` cuts `b` into -/
def splitFrames : Nat → Bytes → List Bytes
  | 0, _ => []
  | fuel + 1, b => if b.isEmpty then [] else b.take frameSize :: splitFrames fuel (b.drop frameSize)

def encFrames (A : Aead) (key : Bytes) : Bytes → List Bytes → Bytes
  | _, [] => []
  | n, f :: fs => encodeFrame A key n f ++ encFrames A key (incNonce n) fs

/-- the nonce after `k` frames; it steps the start nonce, as `encFrames` and `writeLoop` do, where `nonceAt` of
    the model steps the result -/
def advance : Nat → Bytes → Bytes
  | 0, n => n
  | k + 1, n => advance k (incNonce n)

theorem advance_add (a b : Nat) (n : Bytes) : advance (a + b) n = advance b (advance a n) := by
  fun_induction advance a n with
  | case1 => rw [Nat.zero_add]
  | case2 a n ih => rw [Nat.succ_add]; exact ih

theorem encFrames_append (A : Aead) (key : Bytes) (fs gs : List Bytes) (n : Bytes) :
    encFrames A key n (fs ++ gs) = encFrames A key n fs ++ encFrames A key (advance fs.length n) gs := by
  fun_induction encFrames A key n fs with
  | case1 => rfl
  | case2 n f fs ih => simp only [List.cons_append, encFrames, ih, List.append_assoc]; rfl

theorem splitFrames_flatten (fuel : Nat) (b : Bytes) : b.length ≤ fuel → (splitFrames fuel b).flatten = b := by
  fun_induction splitFrames fuel b with
  | case1 => exact fun h => (List.length_eq_zero_iff.mp (Nat.le_zero.mp h)).symm
  | case2 _ _ hb => exact fun _ => (List.isEmpty_iff.mp hb).symm
  | case3 fuel b _ ih =>
    intro h
    rw [List.flatten_cons, ih (by
      rw [List.length_drop]
      exact Nat.sub_le_of_le_add (Nat.le_trans h (Nat.add_le_add_left (show 1 ≤ frameSize by decide) fuel))), List.take_append_drop]

theorem splitFrames_good (fuel : Nat) (b : Bytes) : ∀ f ∈ splitFrames fuel b, f ≠ [] ∧ f.length ≤ frameSize := by
  fun_induction splitFrames fuel b with
  | case1 | case2 => nofun
  | case3 fuel b hb ih =>
    exact List.forall_mem_cons.mpr ⟨⟨fun e => hb (List.isEmpty_iff.mpr ((List.take_eq_nil_iff.mp e).resolve_left nofun)),
      List.length_take_le _ _⟩, ih⟩

theorem writeLoop_spec (A : Aead) (fuel : Nat) (st : St) (b : Bytes) (acc : List Bytes) :
    (writeLoop A fuel st b acc).1 = { st with nonce := advance (splitFrames fuel b).length st.nonce } ∧
    (writeLoop A fuel st b acc).2.flatten = acc.flatten ++ encFrames A st.key st.nonce (splitFrames fuel b) := by
  fun_induction writeLoop A fuel st b acc with
  | case1 => exact ⟨rfl, (List.append_nil _).symm⟩
  | case2 _ _ _ _ hb => rw [splitFrames, if_pos hb]; exact ⟨rfl, (List.append_nil _).symm⟩
  | case3 _ _ _ _ hb fr ih =>
    rw [splitFrames, if_neg hb]
    refine ⟨ih.1, ih.2.trans ?_⟩
    rw [List.flatten_append, List.append_assoc, List.flatten_cons, List.flatten_nil, List.append_nil]
    rfl

def framesOf (writes : List Bytes) : List Bytes := (writes.map (fun b => splitFrames b.length b)).flatten

theorem framesOf_flatten (writes : List Bytes) : (framesOf writes).flatten = writes.flatten := by
  induction writes with
  | nil => simp [framesOf]
  | cons b bs ih =>
    simp only [framesOf, List.map_cons, List.flatten_cons, List.flatten_append] at ih ⊢
    rw [splitFrames_flatten _ _ (Nat.le_refl _), ih]

theorem framesOf_good (writes : List Bytes) : ∀ f ∈ framesOf writes, f ≠ [] ∧ f.length ≤ frameSize := by
  intro f hf
  simp only [framesOf, List.mem_flatten, List.mem_map] at hf
  obtain ⟨l, ⟨b, _, rfl⟩, hfl⟩ := hf
  exact splitFrames_good _ _ f hfl

theorem writeMany_spec (A : Aead) : ∀ (writes : List Bytes) (st : St),
    (writeMany A st writes).2 = encFrames A st.key st.nonce (framesOf writes)
  | [], st => rfl
  | b :: bs, st => by
    obtain ⟨hw, hf⟩ : (write A st b).1 = _ ∧ (write A st b).2.flatten = _ := writeLoop_spec A b.length st b []
    show (write A st b).2.flatten ++ (writeMany A (write A st b).1 bs).2 = _
    rw [hw, writeMany_spec A bs, hf, show framesOf (b :: bs) = splitFrames b.length b ++ framesOf bs from rfl, encFrames_append]
    rfl

theorem read_remain (A : Aead) (key n rem wire : Bytes) (h : rem ≠ []) (buflen : Nat) :
    read A ⟨key, n, rem⟩ wire buflen = .ok (rem.take buflen, ⟨key, n, rem.drop buflen⟩, wire) := by
  simp only [read, ne_eq, h, not_false_eq_true, if_true]

theorem read_short (A : Aead) (key n wire : Bytes) (buf : Nat) (h : wire.length < headerSize) :
    read A ⟨key, n, []⟩ wire buf = .error .eof := by
  simp only [read, ne_eq, not_true_eq_false, if_false, h, if_true]

/-- on a wire that starts with two length bytes and two more bytes; the latter do not occur on the right -/
theorem read_wire (A : Aead) (key n hdr pad body : Bytes) (buf : Nat) (h1 : hdr.length = 2) (h2 : pad.length = 2) :
    read A ⟨key, n, []⟩ (hdr ++ (pad ++ body)) buf =
      if body.length < beNat hdr + A.overhead then .error .eof
      else match A.openF key n (body.take (beNat hdr + A.overhead)) with
        | none => .error .auth
        | some plain =>
          .ok (plain.take buf, ⟨key, incNonce n, plain.drop buf⟩, body.drop (beNat hdr + A.overhead)) := by
  have w1 : (hdr ++ (pad ++ body)).take 2 = hdr := List.take_left' h1
  have w2 : (hdr ++ (pad ++ body)).drop headerSize = body := by
    rw [show headerSize = 2 + 2 from rfl, ← List.drop_drop, List.drop_left' h1, List.drop_left' h2]
  have w3 : ¬ (hdr ++ (pad ++ body)).length < headerSize := by
    rw [List.length_append, List.length_append, h1, h2, ← Nat.add_assoc]
    exact Nat.not_lt.mpr (Nat.le_add_right 4 _)
  simp only [read, ne_eq, not_true_eq_false, if_false, w1, w2, w3]
  rfl

theorem read_ok (A : Aead) (key n wire : Bytes) (buf : Nat) (r : Bytes × St × Bytes)
    (h : read A ⟨key, n, []⟩ wire buf = .ok r) :
    ∃ hdr pad body plain, hdr.length = 2 ∧ pad.length = 2 ∧ wire = hdr ++ (pad ++ body) ∧
      beNat hdr + A.overhead ≤ body.length ∧
      A.openF key n (body.take (beNat hdr + A.overhead)) = some plain ∧
      r = (plain.take buf, ⟨key, incNonce n, plain.drop buf⟩, body.drop (beNat hdr + A.overhead)) := by
  revert h
  fun_cases read A ⟨key, n, []⟩ wire buf with
  | case1 hr => exact absurd rfl hr
  | case2 | case3 | case4 => nofun
  | case5 _ hl len body hb plain ho =>
    have hl : 4 ≤ wire.length := Nat.le_of_not_lt hl
    have hw : wire = wire.take 2 ++ ((wire.drop 2).take 2 ++ body) := by
      rw [show body = (wire.drop 2).drop 2 from (List.drop_drop (i := 2) (j := 2)).symm, List.take_append_drop, List.take_append_drop]
    exact fun h => ⟨_, _, body, plain, List.length_take_of_le (Nat.le_trans (by decide) hl),
      List.length_take_of_le (by rw [List.length_drop]; exact Nat.le_sub_of_add_le hl), hw, Nat.le_of_not_lt hb, ho,
      (Except.ok.inj h).symm⟩

theorem read_frame (A : Aead) (hA : Aead.Lawful A) (key n f rest : Bytes) (hf : f.length ≤ frameSize) (buflen : Nat) :
    read A ⟨key, n, []⟩ (encodeFrame A key n f ++ rest) buflen =
      .ok (f.take buflen, ⟨key, incNonce n, f.drop buflen⟩, rest) := by
  have hl := hA.len key n f
  simp only [encodeFrame, List.append_assoc]
  rw [read_wire A key n _ _ _ _ rfl rfl, beNat_be16 _ (Nat.lt_of_le_of_lt hf (by decide)),
    if_neg (hl ▸ not_length_append_lt _ _), List.take_left' hl, List.drop_left' hl, hA.opens]

/-- an honest `Read` with something left to deliver takes it from the chunk in progress: the rest of the last
    frame if there is one, else the next frame -/
theorem read_honest (A : Aead) (hA : Aead.Lawful A) (key n rem : Bytes) (fs : List Bytes)
    (hfs : ∀ f ∈ fs, f ≠ [] ∧ f.length ≤ frameSize) (h : rem ≠ [] ∨ fs ≠ []) :
    ∃ c n' fs', c ≠ [] ∧ rem ++ fs.flatten = c ++ fs'.flatten ∧ (∀ f ∈ fs', f ≠ [] ∧ f.length ≤ frameSize) ∧
      ∀ buf, read A ⟨key, n, rem⟩ (encFrames A key n fs) buf =
        .ok (c.take buf, ⟨key, n', c.drop buf⟩, encFrames A key n' fs') := by
  by_cases hr : rem = []
  · subst hr
    match fs, h with
    | f :: fs', _ =>
      exact ⟨f, incNonce n, fs', (hfs f List.mem_cons_self).1, rfl, fun g hg => hfs g (List.mem_cons_of_mem _ hg),
        fun buf => read_frame A hA key n f _ (hfs f List.mem_cons_self).2 buf⟩
  · exact ⟨rem, n, fs, hr, rfl, hfs, fun buf => read_remain A key n rem _ hr buf⟩

/-- `pend`: what was written and no `Read` has returned yet -/
theorem readMany_honest (A : Aead) (hA : Aead.Lawful A) (key : Bytes) : ∀ (bufs : List Nat) (fs : List Bytes) (n rem : Bytes),
    (∀ f ∈ fs, f ≠ [] ∧ f.length ≤ frameSize) →
    let r := readMany A ⟨key, n, rem⟩ (encFrames A key n fs) bufs
    ∃ pend, r.outs.flatten ++ pend = rem ++ fs.flatten ∧ (r.err = none ∨ (r.err = some .eof ∧ pend = [])) ∧
      ((∀ b ∈ bufs, 0 < b) → (rem ++ fs.flatten).length ≤ bufs.length → pend = [])
  | [], fs, n, rem, _ => ⟨rem ++ fs.flatten, rfl, Or.inl rfl, fun _ h => List.length_eq_zero_iff.mp (Nat.le_zero.mp h)⟩
  | buf :: bufs, fs, n, rem, hfs => by
    by_cases h : rem ≠ [] ∨ fs ≠ []
    · obtain ⟨c, n', fs', hc, hcat, hfs', hread⟩ := read_honest A hA key n rem fs hfs h
      obtain ⟨pend, e1, e2, e3⟩ := readMany_honest A hA key bufs fs' n' (c.drop buf) hfs'
      rw [hcat]
      simp only [readMany, hread buf]
      refine ⟨pend, ?_, e2, fun hb hlen => e3 (fun b hb' => hb b (List.mem_cons_of_mem _ hb')) ?_⟩
      · rw [List.flatten_cons, List.append_assoc, e1, ← List.append_assoc, List.take_append_drop]
      · -- a non-empty buffer takes at least one byte of the non-empty `c`, so one `Read` fewer does for the rest
        rw [List.length_append, List.length_cons] at hlen
        rw [List.length_append, List.length_drop]
        exact Nat.le_of_lt_succ (Nat.lt_of_lt_of_le (Nat.add_lt_add_right
          (Nat.sub_lt (List.length_pos_iff.mpr hc) (hb buf List.mem_cons_self)) _) hlen)
    · have hr : rem = [] := Decidable.not_not.mp fun hr => h (Or.inl hr)
      have hf : fs = [] := Decidable.not_not.mp fun hf => h (Or.inr hf)
      subst hr hf
      refine ⟨[], ?_⟩
      simp only [readMany, encFrames, read_short A key n [] buf (by decide)]
      exact ⟨rfl, Or.inr ⟨trivial, trivial⟩, fun _ _ => trivial⟩

/-- idealised ciphertext integrity for one direction: under the j-th nonce (j up to the number of frames
    sent; the nonce counter is periodic, so this presupposes fewer than 256^nonceSize frames) the only byte
    string that opens is the j-th frame the sender sealed, and it opens to that frame's plaintext; under
    the nonce after the last frame nothing opens. -/
def Auth (A : Aead) (key n0 : Bytes) (frames : List Bytes) : Prop :=
  ∀ (j : Nat), j ≤ frames.length → ∀ (c p : Bytes), A.openF key (advance j n0) c = some p →
    ∃ h : j < frames.length, c = A.sealF key (advance j n0) frames[j] ∧ p = frames[j]

theorem inc_advance (j : Nat) (n : Bytes) : incNonce (advance j n) = advance (j + 1) n :=
  (advance_add j 1 n).symm

theorem readMany_prefix (A : Aead) (key n0 : Bytes) (frames : List Bytes) (hauth : Auth A key n0 frames) :
    ∀ (bufs : List Nat) (j : Nat) (rem wire : Bytes), j ≤ frames.length →
      (readMany A ⟨key, advance j n0, rem⟩ wire bufs).outs.flatten <+: rem ++ (frames.drop j).flatten
  | [], j, rem, wire, _ => List.nil_prefix
  | buf :: bufs, j, rem, wire, hjl => by
    rw [readMany]
    fun_cases read A ⟨key, advance j n0, rem⟩ wire buf with
    | case2 | case3 | case4 => exact List.nil_prefix
    | case1 hr =>
      simp only [List.flatten_cons]
      rw [← List.take_append_drop buf rem, List.append_assoc, List.take_append_drop]
      exact (List.prefix_append_right_inj _).mpr (readMany_prefix A key n0 frames hauth bufs j (rem.drop buf) wire hjl)
    | case5 hr _ len body _ plain ho =>
      obtain rfl : rem = [] := Decidable.not_not.mp hr
      obtain ⟨hj, _, hp⟩ := hauth j hjl _ plain ho
      simp only [inc_advance, List.flatten_cons, List.nil_append]
      rw [List.drop_eq_getElem_cons hj, List.flatten_cons, ← hp, ← List.take_append_drop buf plain,
        List.append_assoc, List.take_append_drop]
      exact (List.prefix_append_right_inj _).mpr (readMany_prefix A key n0 frames hauth bufs (j + 1) _ _ hj)
end Goloop.C31.Proofs
