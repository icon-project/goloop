/-
  Proofs/C11: `InvQ` speaks of `seqQ` = cached then queued lists of a group, so that a flush changes
  it only by the evicted prefix; `commitTracker` is `publish`, then queueing or that same flush.
-/
import Goloop.Model.C11
import Goloop.Base.Cases
namespace Goloop.C11.Proofs
open Goloop Goloop.C11

theorem window_iff (bts th ts : Int) :
    windowCheck bts th ts = .ok ↔ (bts - th < ts ∧ ts ≤ bts + th) := by
  unfold windowCheck checkTxTimestamp
  rw [guard_iff TsVerdict.noConfusion, guard_iff TsVerdict.noConfusion, Int.not_le, Int.not_lt]
  exact and_congr_right fun _ => and_iff_left rfl

/-- lists of group `g` that were committed and are not yet evicted: cached, then queued -/
def seqQ (m : Manager) (q : Bool → List TxList) (g : Bool) : List TxList := (m.cache g).lists ++ q g

/-- what `loc.id = ""` in `commitTracker` leaves between an earlier list `a` and a later one `b`: the
    ids of `b` are blanked in `a`, so evicting `a` takes no locator of `b` away (`hkeep` in `flushAndCache_inv`) -/
def Rel (a b : TxList) : Prop := ∀ k ∈ a.live, k ∉ b.ids

structure WT (gOf : Id → Bool) (g : Bool) (x : TxList) : Prop where
  grp : x.normal = g
  live_sub : ∀ k ∈ x.live, k ∈ x.ids
  typed : ∀ k ∈ x.ids, gOf k = g
  -- a list with `ts = 0` does not raise `maxTSInDB` when it is evicted (`ptr.ts != 0 &&` in
  -- `addListAndClearOldInLock`), so it must hold nothing: the hypothesis on `Reach.add`
  ts0 : x.ts = 0 → x.ids = []

structure InvQ (gOf : Id → Bool) (m : Manager) (q : Bool → List TxList) : Prop where
  wt : ∀ g, ∀ x ∈ seqQ m q g, WT gOf g x
  pw : ∀ g, (seqQ m q g).Pairwise Rel
  indb : ∀ g, ∀ C ∈ (m.cache g).lists, ∀ k ∈ C.live, k ∈ m.db
  inloc : ∀ g, ∀ x ∈ seqQ m q g, ∀ k ∈ x.ids, k ∈ m.locators
  -- a logged list is still cached or queued (`inloc` then finds its ids among the locators), or evicted:
  -- its window ends at or below `maxTS`, so `has` does not answer from `maxTSInDB < ts` without the database
  logd : ∀ L ∈ m.log,
    (∃ lv, { L with live := lv } ∈ seqQ m q L.normal) ∨
    (∀ k ∈ L.ids, (k ∈ m.locators ∨ k ∈ m.db) ∧ L.ts + L.th ≤ (m.cache L.normal).maxTS)

theorem has_of_inv {gOf : Id → Bool} {m : Manager} {q : Bool → List TxList} (c : Cfg)
    (hc : c.f5c = true) (h : InvQ gOf m q) {L : TxList} (hL : L ∈ m.log) {k : Id} (hk : k ∈ L.ids)
    {ts : Int} (hts : ts ≤ L.ts + L.th) : m.has c L.normal k ts = true := by
  unfold Manager.has
  by_cases hloc : k ∈ m.locators
  · rw [if_pos hloc]
  · simp only [hloc, if_false, hc, if_true]
    rcases h.logd L hL with ⟨lv, hx⟩ | hev
    · exact absurd (h.inloc _ _ hx k hk) hloc
    · obtain ⟨hor, hb⟩ := hev k hk
      rw [if_neg (fun h2 => Int.not_lt.mpr (Int.le_trans hts hb) h2.2)]
      exact decide_eq_true (hor.resolve_left hloc)

/-- `r` is what `evictLoop` returns from `(cl, locs, mx)`: a prefix `ev` of the cached lists is
    gone; a locator goes only if it is live in `ev`; the maximum does not fall and covers the window
    of every evicted list with `ts ≠ 0`. -/
def Evicted (cl : List TxList) (locs : List Id) (mx : Int) (r : List TxList × List Id × Int) : Prop :=
  ∃ ev, cl = ev ++ r.1 ∧ (∀ k ∈ locs, k ∈ r.2.1 ∨ ∃ p ∈ ev, k ∈ p.live) ∧
    mx ≤ r.2.2 ∧ (∀ p ∈ ev, p.ts ≠ 0 → p.ts + p.th ≤ r.2.2)

theorem evictLoop_spec (listMin : Int) (cl : List TxList) (locs : List Id) (mx : Int) :
    Evicted cl locs mx (evictLoop listMin cl locs mx) := by
  fun_induction evictLoop listMin cl locs mx with
  | case1 | case2 => exact ⟨[], rfl, fun _ h => .inl h, Int.le_refl _, fun _ hp => (List.not_mem_nil hp).elim⟩
  | case3 p rest locs mx _ ih =>
    obtain ⟨ev, h1, h2, h3, h4⟩ := ih
    have hmx := ite_pred (fun x => mx ≤ x ∧ (p.ts ≠ 0 → p.ts + p.th ≤ x))
      (p.ts ≠ 0 ∧ mx < p.ts + p.th) (p.ts + p.th) mx
      (fun hc => ⟨Int.le_of_lt hc.2, fun _ => Int.le_refl _⟩)
      (fun hc => ⟨Int.le_refl _, fun hne => Int.not_lt.mp (fun hlt => hc ⟨hne, hlt⟩)⟩)
    refine ⟨p :: ev, congrArg (p :: ·) h1, fun k hk => ?_, Int.le_trans hmx.1 h3, fun p' hp' hne => ?_⟩
    · by_cases hkp : k ∈ p.live
      · exact .inr ⟨p, List.mem_cons_self, hkp⟩
      · exact (h2 k (List.mem_filter.mpr ⟨hk, by simpa using hkp⟩)).imp_right
          fun ⟨p', hp', hk'⟩ => ⟨p', List.mem_cons_of_mem _ hp', hk'⟩
    · rcases List.mem_cons.mp hp' with rfl | hin
      · exact Int.le_trans (hmx.2 hne) h3
      · exact h4 p' hin hne

theorem cache_setCache (m : Manager) (g g' : Bool) (c : Cache) :
    (m.setCache g c).cache g' = if g' = g then c else m.cache g' := by
  cases g <;> cases g' <;> rfl

theorem setCache_fields (m : Manager) (g : Bool) (c : Cache) :
    (m.setCache g c).db = m.db ∧ (m.setCache g c).log = m.log ∧
    (m.setCache g c).pending = m.pending ∧ (m.setCache g c).locators = m.locators := by
  cases g <;> exact ⟨rfl, rfl, rfl, rfl⟩

theorem flushAndCache_fields (m : Manager) (l : TxList) :
    ∃ r, Evicted (m.cache l.normal).lists m.locators (m.cache l.normal).maxTS r ∧
      (m.flushAndCache l).locators = r.2.1 ∧ (m.flushAndCache l).db = m.db ++ l.live ∧
      (m.flushAndCache l).log = m.log ∧
      (∀ g', (m.flushAndCache l).cache g' =
        if g' = l.normal then ⟨r.1 ++ [l], r.2.2⟩ else m.cache g') :=
  have hs := setCache_fields { m with db := m.db ++ l.live } l.normal
  ⟨_, evictLoop_spec (l.ts - l.th) _ _ _, rfl, (hs _).1, (hs _).2.1,
    fun g' => cache_setCache { m with db := m.db ++ l.live } l.normal g' _⟩

theorem mem_ite_singleton {α : Type} {c : Prop} [Decidable c] {a x : α} :
    x ∈ (if c then [a] else []) ↔ c ∧ x = a :=
  List.mem_ite_nil_right.trans (and_congr_right fun _ => List.mem_singleton)

theorem flushAndCache_inv {gOf : Id → Bool} {m : Manager} {q : Bool → List TxList}
    (h : InvQ gOf m q) {g : Bool} {l : TxList} {rest : List TxList} (hq : q g = l :: rest)
    {q' : Bool → List TxList} (hq' : ∀ g', q' g' = if g' = g then rest else q g') :
    InvQ gOf (m.flushAndCache l) q' := by
  have hlwt : WT gOf g l := h.wt g l (List.mem_append_right _ (hq ▸ List.mem_cons_self))
  obtain ⟨r, ⟨ev, hev1, hev2, hev3, hev4⟩, hloc, hdb, hlog, hcache⟩ := flushAndCache_fields m l
  rw [hlwt.grp] at hcache hev1 hev3
  -- `l` goes from the head of the queue to the end of the cache: the sequence loses only `ev`
  have hseq : ∀ g', seqQ m q g' =
      (if g' = g then ev else []) ++ seqQ (m.flushAndCache l) q' g' := by
    intro g'
    by_cases hg : g' = g <;> simp [seqQ, hcache, hq', hg, hev1, hq]
  have hsub : ∀ g' x, x ∈ seqQ (m.flushAndCache l) q' g' → x ∈ seqQ m q g' :=
    fun g' x hx => hseq g' ▸ List.mem_append_right _ hx
  have hev_mem : ∀ p ∈ ev, p ∈ seqQ m q g := fun p hp => by
    rw [hseq g, if_pos rfl]; exact List.mem_append_left _ hp
  have hpw := fun g' => List.pairwise_append.mp (hseq g' ▸ h.pw g')
  have hmax : ∀ g', (m.cache g').maxTS ≤ ((m.flushAndCache l).cache g').maxTS := fun g' => by
    rw [hcache g']
    exact ite_pred (fun c : Cache => (m.cache g').maxTS ≤ c.maxTS) _ _ _ (fun hg => hg ▸ hev3)
      (fun _ => Int.le_refl _)
  have hkeep : ∀ g', ∀ x ∈ seqQ (m.flushAndCache l) q' g', ∀ k ∈ x.ids,
      k ∈ (m.flushAndCache l).locators := by
    intro g' x hx k hk
    refine hloc ▸ (hev2 k (h.inloc g' x (hsub g' x hx) k hk)).resolve_right fun ⟨p, hp, hkp⟩ => ?_
    -- both hold `k`, so they are of one group, where the evicted list comes first
    have hp' := h.wt g p (hev_mem p hp)
    obtain rfl : g' = g := ((h.wt g' x (hsub g' x hx)).typed k hk).symm.trans
      (hp'.typed k (hp'.live_sub k hkp))
    exact (hpw g').2.2 p (List.mem_ite_nil_right.mpr ⟨rfl, hp⟩) x hx k hkp hk
  have hdrop : ∀ k, k ∈ m.locators →
      k ∈ (m.flushAndCache l).locators ∨ k ∈ (m.flushAndCache l).db := fun k hk =>
    (hev2 k hk).imp (hloc ▸ ·) fun ⟨p, hp, hkp⟩ =>
      hdb ▸ List.mem_append_left _ (h.indb g p (hev1 ▸ List.mem_append_left _ hp) k hkp)
  refine ⟨fun g' x hx => h.wt g' x (hsub g' x hx), fun g' => (hpw g').2.1, ?_, hkeep, ?_⟩
  · intro g' C hC k hk
    rw [hdb]
    rw [hcache g'] at hC
    by_cases hg : g' = g
    · rw [if_pos hg] at hC
      rcases List.mem_append.mp hC with hC | hC
      · exact List.mem_append_left _ (h.indb g C (hev1 ▸ List.mem_append_right _ hC) k hk)
      · exact List.mem_append_right _ (List.mem_singleton.mp hC ▸ hk)
    · rw [if_neg hg] at hC
      exact List.mem_append_left _ (h.indb g' C hC k hk)
  · intro L hL
    rw [hlog] at hL
    rcases h.logd L hL with ⟨lv, hx⟩ | hevd
    · rw [hseq] at hx
      rcases List.mem_append.mp hx with hxe | hxr
      · obtain ⟨rfl, hxv⟩ := List.mem_ite_nil_right.mp hxe
        refine .inr fun k hk => ?_
        have hne : L.ts ≠ 0 := fun h0 =>
          List.not_mem_nil ((h.wt _ _ (hev_mem _ hxv)).ts0 h0 ▸ hk : k ∈ [])
        refine ⟨hdrop k (h.inloc _ _ (hev_mem _ hxv) k hk), ?_⟩
        rw [hcache, if_pos rfl]
        exact hev4 { L with live := lv } hxv hne
      · exact .inl ⟨lv, hxr⟩
    · exact .inr fun k hk => ⟨(hevd k hk).1.elim (hdrop k)
        (fun h1 => .inr (hdb ▸ List.mem_append_left _ h1)), Int.le_trans (hevd k hk).2 (hmax _)⟩

/-- the `m1` of `commitTracker` -/
def publish (m : Manager) (l : TxList) : Manager :=
  { m with
    locators := m.locators ++ l.ids
    pending := m.pending.map (TxList.blank l.ids)
    cacheP := m.cacheP.blank l.ids
    cacheN := m.cacheN.blank l.ids
    log := m.log ++ [l] }

theorem mem_blank_live {ks : List Id} {x : TxList} {k : Id} :
    k ∈ (TxList.blank ks x).live ↔ (k ∈ x.live ∧ k ∉ ks) := by
  simp [TxList.blank]

theorem publish_cache (m : Manager) (l : TxList) (g : Bool) :
    (publish m l).cache g = (m.cache g).blank l.ids := by
  cases g <;> rfl

theorem publish_inv {gOf : Id → Bool} {m : Manager} {q : Bool → List TxList} (h : InvQ gOf m q)
    {l : TxList} (hl : WT gOf l.normal l) {q' : Bool → List TxList}
    (hq' : ∀ g, q' g = (q g).map (TxList.blank l.ids) ++ if g = l.normal then [l] else []) :
    InvQ gOf (publish m l) q' := by
  have hseq : ∀ g, seqQ (publish m l) q' g =
      (seqQ m q g).map (TxList.blank l.ids) ++ (if g = l.normal then [l] else []) := fun g => by
    simp [seqQ, hq', publish_cache, Cache.blank]
  have hmem : ∀ g x', x' ∈ seqQ (publish m l) q' g ↔
      (∃ x ∈ seqQ m q g, TxList.blank l.ids x = x') ∨ (g = l.normal ∧ x' = l) := fun g x' => by
    rw [hseq, List.mem_append, List.mem_map, mem_ite_singleton]
  refine ⟨?_, ?_, ?_, ?_, ?_⟩
  · intro g x' hx'
    rcases (hmem g x').mp hx' with ⟨x, hx, rfl⟩ | ⟨hg, rfl⟩
    · have hw := h.wt g x hx
      exact ⟨hw.grp, fun k hk => hw.live_sub k (mem_blank_live.mp hk).1, hw.typed, hw.ts0⟩
    · exact hg ▸ hl
  · intro g
    rw [hseq, List.pairwise_append, List.pairwise_map]
    refine ⟨(h.pw g).imp fun hab k hk => hab k (mem_blank_live.mp hk).1,
      ite_both (List.Pairwise Rel) (List.pairwise_singleton ..) .nil, ?_⟩
    intro a ha b hb k hk
    obtain ⟨x, _, rfl⟩ := List.mem_map.mp ha
    rw [(mem_ite_singleton.mp hb).2]
    exact (mem_blank_live.mp hk).2
  · intro g C' hC' k hk
    rw [publish_cache] at hC'
    obtain ⟨C, hC, rfl⟩ := List.mem_map.mp hC'
    exact h.indb g C hC k (mem_blank_live.mp hk).1
  · intro g x' hx' k hk
    rcases (hmem g x').mp hx' with ⟨x, hx, rfl⟩ | ⟨_, rfl⟩
    · exact List.mem_append_left _ (h.inloc g x hx k hk)
    · exact List.mem_append_right _ hk
  · intro L hL
    rcases List.mem_append.mp hL with hL' | hL'
    · rcases h.logd L hL' with ⟨lv, hx⟩ | hev
      · exact .inl ⟨lv.filter fun k => !(l.ids.contains k), (hmem _ _).mpr (.inl ⟨_, hx, rfl⟩)⟩
      · exact .inr fun k hk => ⟨(hev k hk).1.imp_left (List.mem_append_left _),
          publish_cache m l _ ▸ (hev k hk).2⟩
    · obtain rfl := List.mem_singleton.mp hL'
      exact .inl ⟨L.live, (hmem _ _).mpr (.inr ⟨rfl, rfl⟩)⟩

theorem InvQ_pending {gOf : Id → Bool} {m : Manager} {q : Bool → List TxList} (h : InvQ gOf m q)
    (ps : List TxList) : InvQ gOf { m with pending := ps } q :=
  ⟨h.wt, h.pw, h.indb, h.inloc, h.logd⟩

/-- queue of the normal group = `m.pending`, patch lists are never queued -/
def pendQ (m : Manager) : Bool → List TxList := fun g => if g then m.pending else []

def MInv (gOf : Id → Bool) (m : Manager) : Prop := InvQ gOf m (pendQ m)

theorem flushAndCache_pending (m : Manager) (l : TxList) : (m.flushAndCache l).pending = m.pending :=
  (setCache_fields ..).2.2.1

/-- a manager freshly constructed over any database content (node start / restart) -/
theorem MInv_fresh (gOf : Id → Bool) (d : List Id) : MInv gOf { db := d } := by
  have hs : ∀ g, seqQ ({ db := d } : Manager) (pendQ { db := d }) g = [] := by
    intro g; cases g <;> rfl
  have hc : ∀ g, (({ db := d } : Manager).cache g) = {} := by intro g; cases g <;> rfl
  refine ⟨?_, ?_, ?_, ?_, fun _ hL => (List.not_mem_nil hL).elim⟩
  · intro g x hx; rw [hs] at hx; cases hx
  · intro g; rw [hs]; exact .nil
  · intro g C hC; rw [hc] at hC; cases hC
  · intro g x hx; rw [hs] at hx; cases hx

theorem MInv_commitTracker {gOf : Id → Bool} {m : Manager} (h : MInv gOf m) (l : TxList)
    (hl : WT gOf l.normal l) : MInv gOf (m.commitTracker l) := by
  fun_cases Manager.commitTracker m l with
  | case1 m1 hg =>
    exact InvQ_pending (publish_inv h hl fun g' => by cases g' <;> simp [pendQ, m1, hg]) _
  | case2 m1 hg =>
    -- `l` is in flight: published, neither queued nor cached yet
    have hp := publish_inv h hl (q' := fun g' => if g' then m1.pending else [l])
      fun g' => by cases g' <;> simp [pendQ, m1, hg]
    exact flushAndCache_inv hp (g := false) (rest := []) rfl
      fun g' => by cases g' <;> simp [pendQ, flushAndCache_pending]

theorem MInv_flushStep {gOf : Id → Bool} {m : Manager} (h : MInv gOf m) : MInv gOf m.flushStep := by
  fun_cases Manager.flushStep m with
  | case1 => exact h
  | case2 l rest hp =>
    exact flushAndCache_inv (InvQ_pending h rest) (g := true) (show pendQ m true = l :: rest from hp)
      fun g' => by cases g' <;> simp [pendQ, flushAndCache_pending]

/-- `Anc s i j`: tracker `j` is reached from tracker `i` along the parent pointers (reflexive) -/
inductive Anc (s : State) : Nat → Nat → Prop
  | refl (i : Nat) : Anc s i i
  | step {i p j : Nat} {t : Tracker} : s.trackers[i]? = some t → t.parent = some p → Anc s p j → Anc s i j

/-- the parent of a tracker was created before it and belongs to the same group -/
def WF (s : State) : Prop :=
  ∀ (i : Nat) (t : Tracker) (p : Nat), s.trackers[i]? = some t → t.parent = some p →
    p < i ∧ ∃ tp, s.trackers[p]? = some tp ∧ tp.normal = t.normal

theorem getElem?_lt {α : Type} {l : List α} {i : Nat} {x : α} (h : l[i]? = some x) : i < l.length :=
  (List.getElem?_eq_some_iff.mp h).1

/-- the timestamp bound under which a tracker looks into its own block -/
def ownBound (c : Cfg) (t : Tracker) (ts : Int) : Prop :=
  if c.f5 then ts ≤ t.ts + t.th else ts < t.ts + t.th

theorem not_beyond_iff (c : Cfg) (t : Tracker) (ts : Int) :
    (if c.f5 then decide (ts > t.ts + t.th) else decide (ts ≥ t.ts + t.th)) = false ↔ ownBound c t ts := by
  unfold ownBound
  cases c.f5
  · exact decide_eq_false_iff_not.trans Int.not_le
  · exact decide_eq_false_iff_not.trans Int.not_lt

theorem trackerHasF_succ (c : Cfg) (hb : c.f5b = true) (s : State) (fuel i : Nat) (k : Id)
    (ts : Int) (t : Tracker) (hi : s.trackers[i]? = some t) :
    trackerHasF c s (fuel + 1) i k ts = true ↔
      (ownBound c t ts ∧ t.committed = false ∧ k ∈ t.ids) ∨
      (match t.parent with
        | some p => trackerHasF c s fuel p k ts
        | none => s.mgr.has c t.normal k ts) = true := by
  rw [trackerHasF, hi, hb]
  show (if _ then true else _) = true ↔ _
  rw [Bool.if_true_left, Bool.or_eq_true, decide_eq_true_iff, Bool.and_eq_true, Bool.and_eq_true,
    Bool.not_eq_true', Bool.not_eq_true', not_beyond_iff, List.contains_iff_mem, and_assoc]
  exact Iff.rfl

/-- what `addLoop` returns from `acc`, failing or not: it has recorded a prefix `pre` of the offered
    transactions, the record stays free of duplicates, none recorded that the parent has (unless
    forced); the verdict is `true` only if that prefix is everything offered -/
def Added (c : Cfg) (s : State) (t : Tracker) (force : Bool) (txs : List (Id × Int)) (acc : List Id)
    (r : List Id × Bool) : Prop :=
  ∃ pre, r.1 = acc ++ pre.map (·.1) ∧ pre <+: txs ∧ (r.2 = true → pre = txs) ∧
    (acc.Nodup → r.1.Nodup) ∧ (force = false → ∀ x ∈ pre, parentHas c s t x.1 x.2 = false)

theorem addLoop_spec (c : Cfg) (s : State) (t : Tracker) (force : Bool) (txs : List (Id × Int))
    (acc : List Id) : Added c s t force txs acc (addLoop c s t force txs acc) := by
  fun_induction addLoop c s t force txs acc with
  | case1 acc => exact ⟨[], (List.append_nil _).symm, List.nil_prefix, fun _ => rfl, fun h => h, fun _ _ hx => nomatch hx⟩
  | case2 | case3 => exact ⟨[], (List.append_nil _).symm, List.nil_prefix, nofun, fun h => h, fun _ _ hx => nomatch hx⟩
  | case4 id ts rest acc h1 h2 ih =>
    obtain ⟨pre, e, hp, hall, hnd, hpar⟩ := ih
    refine ⟨(id, ts) :: pre, by rw [e, List.append_assoc]; rfl, (List.prefix_cons_inj _).mpr hp,
      fun h => congrArg _ (hall h),
      fun ha => hnd (List.nodup_append.mpr ⟨ha, List.pairwise_singleton _ _, ?_⟩), fun hf x hx => ?_⟩
    · intro a ha b hb hab
      exact h1 (List.contains_iff_mem.mpr (List.mem_singleton.mp hb ▸ hab ▸ ha))
    · rcases List.mem_cons.mp hx with rfl | hx
      · rw [hf] at h2; exact Bool.eq_false_iff.mpr h2
      · exact hpar hf x hx

/-- the list that `Commit` hands to `commitTracker` for `t` is well-typed -/
def TI (gOf : Id → Bool) (t : Tracker) : Prop := WT gOf t.normal ⟨t.normal, t.ts, t.th, t.ids, t.ids⟩

structure SInv (gOf : Id → Bool) (s : State) : Prop where
  wf : WF s
  ti : ∀ t ∈ s.trackers, TI gOf t
  mi : MInv gOf s.mgr

theorem WF_set {s : State} (h : WF s) {i : Nat} {tn : Tracker}
    (hsh : ∀ t, s.trackers[i]? = some t →
      tn.normal = t.normal ∧ (tn.parent = t.parent ∨ tn.parent = none))
    (m : Manager) : WF { mgr := m, trackers := s.trackers.set i tn } := by
  intro j t' p hj hp
  -- the tracker that was at `j`: same group, same parent
  obtain ⟨t, ht, hn, hpt⟩ : ∃ t, s.trackers[j]? = some t ∧ t'.normal = t.normal ∧ t.parent = some p := by
    rw [List.getElem?_set'] at hj
    split at hj
    · obtain ⟨t, ht, rfl⟩ := Option.map_eq_some_iff.mp hj
      subst j
      obtain ⟨hn, hpar | hpar⟩ := hsh t ht
      · exact ⟨t, ht, hn, hpar ▸ hp⟩
      · cases hpar.symm.trans hp
    · exact ⟨t', hj, rfl, hp⟩
  obtain ⟨hlt, tp, htp, hnp⟩ := h j t p ht hpt
  refine ⟨hlt, ?_⟩
  show ∃ tp', (s.trackers.set i tn)[p]? = some tp' ∧ tp'.normal = t'.normal
  rw [List.getElem?_set']
  by_cases hip : i = p
  · subst hip
    rw [if_pos rfl, htp]
    exact ⟨tn, rfl, ((hsh tp htp).1.trans hnp).trans hn.symm⟩
  · rw [if_neg hip]; exact ⟨tp, htp, hnp.trans hn.symm⟩

theorem SInv_set {gOf : Id → Bool} {s : State} (h : SInv gOf s) (i : Nat) (tn : Tracker)
    (hti : TI gOf tn)
    (hsh : ∀ t, s.trackers[i]? = some t →
      tn.normal = t.normal ∧ (tn.parent = t.parent ∨ tn.parent = none))
    {m : Manager} (hm : MInv gOf m) : SInv gOf { mgr := m, trackers := s.trackers.set i tn } :=
  ⟨WF_set h.wf hsh m, fun t' ht' => (List.mem_or_eq_of_mem_set ht').elim (h.ti t') (· ▸ hti), hm⟩

theorem SInv_snoc {gOf : Id → Bool} {s : State} (h : SInv gOf s) (tn : Tracker)
    (hids : tn.ids = [])
    (hpar : ∀ p, tn.parent = some p → ∃ tp, s.trackers[p]? = some tp ∧ tp.normal = tn.normal) :
    SInv gOf { s with trackers := s.trackers ++ [tn] } := by
  have old : ∀ {p : Nat} {tp : Tracker}, s.trackers[p]? = some tp →
      (s.trackers ++ [tn])[p]? = some tp :=
    fun htp => (List.getElem?_append_left (getElem?_lt htp)).trans htp
  refine ⟨fun i t p hi hp => ?_, fun t ht => ?_, h.mi⟩
  · rcases Nat.lt_or_ge i s.trackers.length with hil | hil
    · rw [List.getElem?_append_left hil] at hi
      obtain ⟨hlt, tp, htp, hn⟩ := h.wf i t p hi hp
      exact ⟨hlt, tp, old htp, hn⟩
    · -- the new tracker, at an index beyond the old ones
      rw [List.getElem?_append_right hil] at hi
      obtain rfl := List.mem_singleton.mp (List.mem_of_getElem? hi)
      obtain ⟨tp, htp, hn⟩ := hpar p hp
      exact ⟨Nat.lt_of_lt_of_le (getElem?_lt htp) hil, tp, old htp, hn⟩
  · rcases List.mem_append.mp ht with ht | ht
    · exact h.ti t ht
    · obtain rfl := List.mem_singleton.mp ht
      exact ⟨rfl, fun _ hk => hk, fun k hk => absurd (hids ▸ hk) List.not_mem_nil, fun _ => hids⟩

theorem SInv_newRoot {gOf : Id → Bool} {s : State} (h : SInv gOf s) (g : Bool) (ts th : Int) :
    SInv gOf (s.newRoot g ts th) :=
  SInv_snoc h ⟨g, ts, th, [], false, none⟩ rfl (by intro p hp; cases hp)

theorem SInv_newChild {gOf : Id → Bool} {s s' : State} (h : SInv gOf s) {p : Nat} {ts th : Int}
    (hc : s.newChild p ts th = some s') : SInv gOf s' := by
  revert hc
  fun_cases State.newChild s p ts th with
  | case1 => nofun
  | case2 t => rintro ⟨⟩; exact SInv_newRoot h _ _ _
  | case3 t hp =>
    rintro ⟨⟩
    exact SInv_snoc h ⟨t.normal, ts, th, [], false, some p⟩ rfl
      (by intro p' hp'; cases hp'; exact ⟨t, hp, rfl⟩)

theorem add_cases (c : Cfg) (s : State) (i : Nat) (txs : List (Id × Int)) (force : Bool) :
    ((s.add c i txs force).1 = s ∧ ∀ n, (s.add c i txs force).2 ≠ .ok n) ∨
    ∃ t, s.trackers[i]? = some t ∧
      (s.add c i txs force).1 = s.setTracker i { t with ids := (addLoop c s t force txs []).1 } ∧
      ((s.add c i txs force).2 = if (addLoop c s t force txs []).2 then
        .ok (addLoop c s t force txs []).1.length else .dup (addLoop c s t force txs []).1.length) := by
  fun_cases State.add c s i txs force with
  | case1 | case2 | case3 => exact .inl ⟨rfl, nofun⟩
  | case4 t hi => exact .inr ⟨t, hi, rfl, rfl⟩

theorem add_mgr (c : Cfg) (s : State) (i : Nat) (txs : List (Id × Int)) (force : Bool) :
    (s.add c i txs force).1.mgr = s.mgr := by
  rcases add_cases c s i txs force with ⟨h, _⟩ | ⟨t, _, h, _⟩ <;> rw [h]
  rfl

theorem SInv_add {gOf : Id → Bool} (c : Cfg) {s : State} (h : SInv gOf s) (i : Nat)
    (txs : List (Id × Int)) (force : Bool)
    (htyped : ∀ t, s.trackers[i]? = some t → (∀ x ∈ txs, gOf x.1 = t.normal) ∧ (t.ts = 0 → txs = [])) :
    SInv gOf (s.add c i txs force).1 := by
  rcases add_cases c s i txs force with ⟨he, _⟩ | ⟨t, hi, he, _⟩ <;> rw [he]
  · exact h
  · obtain ⟨hty, hts0⟩ := htyped t hi
    refine SInv_set h i _ ⟨rfl, fun _ hk => hk, fun k hk => ?_, fun h0 => ?_⟩
      (fun t1 ht1 => by rw [hi] at ht1; cases ht1; exact ⟨rfl, .inl rfl⟩) h.mi
    · obtain ⟨pre, e, hp, -⟩ := addLoop_spec c s t force txs []
      obtain ⟨x, hx, rfl⟩ := List.mem_map.mp (e ▸ hk : k ∈ [] ++ pre.map (·.1))
      exact hty x (hp.subset hx)
    · rw [hts0 h0]; rfl

theorem SInv_commitF {gOf : Id → Bool} (fuel : Nat) (s : State) (i : Nat) (h : SInv gOf s) :
    SInv gOf (s.commitF fuel i) := by
  induction fuel generalizing i with
  | zero => exact h
  | succ fuel ih =>
    unfold State.commitF
    split
    · exact h
    · rename_i t0 hi
      -- the last step of `Commit`, on `s1` = `s` with the ancestors committed
      extract_lets s1 t
      have h1 : SInv gOf s1 := by
        unfold s1; split
        · exact ih _
        · exact h
      have hti : TI gOf t := by
        unfold t
        cases ht : s1.trackers[i]? with
        | none => exact h.ti t0 (List.mem_of_getElem? hi)
        | some t' => exact h1.ti t' (List.mem_of_getElem? ht)
      have hn : ∀ t1, s1.trackers[i]? = some t1 → t.normal = t1.normal := fun t1 ht1 =>
        congrArg (fun o => (Option.getD o t0).normal) ht1
      split
      · exact SInv_set h1 i { t with parent := none } hti (fun t1 ht1 => ⟨hn t1 ht1, .inr rfl⟩) h1.mi
      · exact SInv_set h1 i { t with parent := none, committed := true } hti (fun t1 ht1 => ⟨hn t1 ht1, .inr rfl⟩)
          (MInv_commitTracker h1.mi _ hti)

theorem SInv_empty {gOf : Id → Bool} {m : Manager} (hm : MInv gOf m) :
    SInv gOf { mgr := m, trackers := [] } :=
  ⟨fun _ _ _ hi => (nomatch hi), fun _ hi => (nomatch hi), hm⟩

theorem SInv_restart (gOf : Id → Bool) (s : State) : SInv gOf s.restart :=
  SInv_empty (MInv_fresh gOf s.mgr.db)

theorem SInv_init (gOf : Id → Bool) : SInv gOf State.init := SInv_empty (MInv_fresh gOf [])

end Goloop.C11.Proofs
