/-
  Proofs/C05 — the commit vote list model: the item loop of `VerifyBlock` (`loop_spec`: what it
  accepts and returns); recovery of signers against a validator list.
-/
import Goloop.Model.C05
namespace Goloop.C05.Proofs
open Goloop.C05

theorem getElem?_set_of_ne {α : Type} {a b : α} (hab : b ≠ a) {l : List α} {idx i : Nat} :
    (l.set idx a)[i]? = some b ↔ (l[i]? = some b ∧ i ≠ idx) := by
  by_cases h : idx = i
  · subst h
    rw [List.getElem?_set, if_pos rfl]
    refine ⟨fun e => ?_, fun e => absurd rfl e.2⟩
    by_cases hl : idx < l.length
    · rw [if_pos hl] at e; exact absurd (Option.some.inj e).symm hab
    · rw [if_neg hl] at e; cases e
  · rw [List.getElem?_set_ne h]
    exact ⟨fun e => ⟨e, Ne.symm h⟩, And.left⟩

theorem replicate_get_self {α : Type} (a : α) (n i : Nat) : (List.replicate n a)[i]? = some a ↔ i < n :=
  ⟨fun h => Nat.lt_of_lt_of_eq (List.getElem?_eq_some_iff.1 h).1 List.length_replicate,
    List.getElem?_replicate_of_lt⟩

/-- The item loop by one induction: when it succeeds, that it does not panic when `IndexOf` honours
    its contract (indices below the length of the bitmap), and the bitmap it returns. -/
theorem loop_spec {Item : Type} (signerOf : Item → Option Nat) (items : List Item) (vset : List Bool) :
    ((∃ out, loop signerOf items vset = some (some out)) ↔
      ((∀ it ∈ items, ∃ i, signerOf it = some i ∧ vset[i]? = some false) ∧ (items.map signerOf).Nodup)) ∧
    ((∀ it ∈ items, ∀ i, signerOf it = some i → i < vset.length) → loop signerOf items vset ≠ none) ∧
    ∀ out, loop signerOf items vset = some (some out) →
      out.length = vset.length ∧ out.count true = vset.count true + items.length ∧
      ∀ i, out[i]? = some true ↔ (vset[i]? = some true ∨ ∃ it ∈ items, signerOf it = some i) := by
  fun_induction loop signerOf items vset with
  | case1 vset =>
    refine ⟨⟨fun _ => ⟨nofun, List.nodup_nil⟩, fun _ => ⟨vset, rfl⟩⟩, fun _ => nofun, fun out h => ?_⟩
    cases h
    exact ⟨rfl, rfl, fun i => ⟨Or.inl, fun h => h.elim id fun he => he.elim fun _ h' => absurd h'.1 List.not_mem_nil⟩⟩
  | case2 it rest vset hs =>
    exact ⟨⟨nofun, fun h => (h.1 it List.mem_cons_self).elim fun _ e => nomatch hs.symm.trans e.1⟩, fun _ => nofun, nofun⟩
  | case3 it rest vset idx hs hv =>
    refine ⟨⟨nofun, fun h => ?_⟩, fun h => ?_, nofun⟩
    · obtain ⟨i, e, h2⟩ := h.1 it List.mem_cons_self
      cases hs.symm.trans e
      cases hv.symm.trans h2
    · rw [List.getElem?_eq_getElem (h it List.mem_cons_self idx hs)] at hv
      cases hv
  | case4 it rest vset idx hs hv =>
    refine ⟨⟨nofun, fun h => ?_⟩, fun _ => nofun, nofun⟩
    obtain ⟨i, e, h2⟩ := h.1 it List.mem_cons_self
    cases hs.symm.trans e
    cases hv.symm.trans h2
  | case5 it rest vset idx hs hv ih =>
    -- bit `idx` is set before the rest is walked: for the rest, "`some false` at `i`" now also says `i ≠ idx`
    -- (`getElem?_set_of_ne`), which is the head's part of `Nodup`
    rw [List.forall_mem_cons, List.forall_mem_cons, List.map_cons, List.nodup_cons]
    obtain ⟨ih1, ih2, ih3⟩ := ih
    obtain ⟨hlt, hget⟩ := List.getElem?_eq_some_iff.1 hv
    refine ⟨ih1.trans ⟨?_, ?_⟩, fun h => ih2 fun it' hit' i hi => ?_, fun out h => ?_⟩
    · rintro ⟨hall, hnd⟩
      refine ⟨⟨⟨idx, hs, hv⟩, fun it' hit' => ?_⟩, fun hmem => ?_, hnd⟩
      · obtain ⟨i, h1, h2⟩ := hall it' hit'
        exact ⟨i, h1, ((getElem?_set_of_ne Bool.false_ne_true).1 h2).1⟩
      · obtain ⟨it', hit', he⟩ := List.mem_map.1 hmem
        obtain ⟨i, h1, h2⟩ := hall it' hit'
        exact ((getElem?_set_of_ne Bool.false_ne_true).1 h2).2 (Option.some.inj (h1.symm.trans (he.trans hs)))
    · rintro ⟨⟨_, hall⟩, hnm, hnd⟩
      refine ⟨fun it' hit' => ?_, hnd⟩
      obtain ⟨i, h1, h2⟩ := hall it' hit'
      refine ⟨i, h1, (getElem?_set_of_ne Bool.false_ne_true).2 ⟨h2, fun e => hnm ?_⟩⟩
      exact List.mem_map.2 ⟨it', hit', by rw [h1, e, hs]⟩
    · rw [List.length_set]
      exact h.2 it' hit' i hi
    · obtain ⟨h1, h2, h3⟩ := ih3 out h
      refine ⟨h1.trans List.length_set, ?_, fun i => ?_⟩
      · rw [h2, List.count_set hlt, hget]
        exact Nat.add_right_comm ..
      · rw [h3 i]
        by_cases hi : idx = i
        · subst hi
          exact ⟨fun _ => Or.inr ⟨it, List.mem_cons_self, hs⟩, fun _ => Or.inl (List.getElem?_set_self hlt)⟩
        · rw [List.getElem?_set_ne hi]
          refine or_congr_right ⟨?_, ?_⟩
          · rintro ⟨x, hx, e⟩
            exact ⟨x, List.mem_cons_of_mem _ hx, e⟩
          · rintro ⟨x, hx, e⟩
            rcases List.mem_cons.1 hx with rfl | hx
            · exact absurd (Option.some.inj (hs.symm.trans e)) hi
            · exact ⟨x, hx, e⟩

theorem verifyBlock_ok_iff {Item : Type} (signerOf : Item → Option Nat) (n : Nat) (items : List Item)
    (voted : List Bool) :
    verifyBlock signerOf false n items = Res.ok voted ↔
      loop signerOf items (List.replicate n false) = some (some voted) ∧
        enoughVote items.length n = true := by
  fun_cases verifyBlock signerOf false n items with
  | case1 h | case2 h => cases h
  | case3 _ hl | case4 _ hl => exact ⟨Res.noConfusion, fun h => nomatch hl.symm.trans h.1⟩
  | case5 _ vset hl he => rw [hl]; exact ⟨fun h => ⟨by cases h; rfl, he⟩, fun h => by cases h.1; rfl⟩
  | case6 _ vset hl he => exact ⟨Res.noConfusion, fun h => absurd h.2 he⟩

theorem findKey_some {vals : List Nat} {k i : Nat} (h : vals.findIdx? (· == k) = some i) :
    ∃ hi : i < vals.length, vals[i] = k := by
  obtain ⟨hi, hp, _⟩ := List.findIdx?_eq_some_iff_getElem.1 h
  exact ⟨hi, eq_of_beq hp⟩

theorem findKey_mem {vals : List Nat} {k : Nat} (h : k ∈ vals) : ∃ i, vals.findIdx? (· == k) = some i :=
  -- `vals.idxOf? k` unfolds to `vals.findIdx? (· == k)`, so the library's lemma on `idxOf?` applies to `hf`
  Option.ne_none_iff_exists'.1 fun hf => List.idxOf?_eq_none_iff.1 hf h

theorem signerIn_some_iff (vals : List Nat) (th tb tr : Nat) (s : Sig) :
    (∃ i, signerIn vals th tb tr s = some i ∧ i < vals.length) ↔
      (s.key ∈ vals ∧ s.height = th ∧ s.blockId = tb ∧ s.round = tr) := by
  unfold signerIn
  simp only [Option.ite_none_right_eq_some]
  constructor
  · rintro ⟨i, ⟨ht, hi⟩, _⟩
    obtain ⟨hlt, e⟩ := findKey_some hi
    exact ⟨e ▸ List.getElem_mem hlt, ht⟩
  · rintro ⟨hm, ht⟩
    obtain ⟨i, hi⟩ := findKey_mem hm
    exact ⟨i, ⟨ht, hi⟩, (findKey_some hi).1⟩

theorem nodup_map_congr {α β γ : Type} (f : α → β) (g : α → γ) (l : List α)
    (h : ∀ x ∈ l, ∀ y ∈ l, f x = f y ↔ g x = g y) : (l.map f).Nodup ↔ (l.map g).Nodup := by
  rw [List.Nodup, List.Nodup, List.pairwise_map, List.pairwise_map]
  exact List.Pairwise.iff_of_mem fun {a b} ha hb => not_congr (h a ha b hb)

theorem signerIn_inj (vals : List Nat) (th tb tr : Nat) (s s' : Sig)
    (hs : s.key ∈ vals ∧ s.height = th ∧ s.blockId = tb ∧ s.round = tr)
    (hs' : s'.key ∈ vals ∧ s'.height = th ∧ s'.blockId = tb ∧ s'.round = tr) :
    signerIn vals th tb tr s = signerIn vals th tb tr s' ↔ s.key = s'.key := by
  unfold signerIn
  rw [if_pos hs.2, if_pos hs'.2]
  constructor
  · intro e
    obtain ⟨i, hi⟩ := findKey_mem hs.1
    rw [hi] at e
    obtain ⟨h1, e1⟩ := findKey_some hi
    obtain ⟨h2, e2⟩ := findKey_some e.symm
    rw [← e1, ← e2]
  · intro e; rw [e]

end Goloop.C05.Proofs
