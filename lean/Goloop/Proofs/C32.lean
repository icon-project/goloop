import Goloop.Model.C32
namespace Goloop.C32.Proofs
open Goloop Goloop.C32

variable {PK : Type}

theorem frozen (c : Crypto PK) (cfg : Config) (s : PeerSt) (m : Msg)
    (h : s.closed = true ∨ s.handed = true) : onPacket c cfg s m = (s, []) := by
  unfold onPacket
  rw [if_pos h]

/-- `checkWait` lets `sub` pass if nothing is awaited, or `sub` is and is not yet being processed; it changes `wait` only -/
theorem checkWait_some (s s1 : PeerSt) (sub : Sub) (h : checkWait s sub = some s1) :
    (s.wait = none ∨ s.wait = some (sub, false)) ∧ ∃ w1, s1 = { s with wait := w1 } := by
  revert h
  fun_cases checkWait s sub with
  | case1 hw => exact fun h => ⟨.inl hw, s.wait, (Option.some.inj h).symm⟩
  | case2 w processing hw hc =>
    rw [Bool.and_eq_true, Bool.not_eq_true', beq_iff_eq] at hc
    obtain ⟨rfl, rfl⟩ := hc
    exact fun h => ⟨.inr hw, _, (Option.some.inj h).symm⟩
  | case3 => nofun

theorem open_or_frozen (s : PeerSt) :
    (s.closed = true ∨ s.handed = true) ∨ (s.closed = false ∧ s.handed = false) := by
  cases s.closed <;> cases s.handed <;> simp

theorem onPacket_open (c : Crypto PK) (cfg : Config) (s : PeerSt) (m : Msg)
    (hcl : s.closed = false) (hn : s.handed = false) :
    onPacket c cfg s m =
      match m.sub with
      | none => (close s, [])
      | some sub =>
        match checkWait s sub with
        | none => (close s, [])
        | some s1 => dispatch c cfg s1 m := by
  unfold onPacket
  rw [if_neg (by simp [hcl, hn])]
  rfl

/-- every state `onPacket` can leave a peer in, by how it comes about: untouched (it was closed or handed over
    before); closed; secret set and now waiting for the signature message; handed over after a verified signature.
    `checkWait` touches `wait` only, which both good outcomes overwrite, so they are updates of `s` itself. -/
theorem onPacket_cases (P : PeerSt → Prop) (c : Crypto PK) (cfg : Config) (s : PeerSt) (m : Msg)
    (hfrozen : P s)
    (hclose : ∀ t, t.handed = false → P (close t))
    (hsec : s.closed = false → s.handed = false → ∀ sub x w, s.wait = none ∨ s.wait = some (sub, false) →
      (sub = .secReq ∧ w = .sigReq) ∨ (sub = .secResp ∧ w = .sigResp) →
      P { s with extra := some x, wait := some (w, false) })
    (hsig : s.closed = false → s.handed = false → ∀ sub pub sig id, s.wait = none ∨ s.wait = some (sub, false) →
      (sub = .sigReq ∧ m = .signatureRequest pub sig ∧ id ≠ cfg.self) ∨
        (sub = .sigResp ∧ m = .signatureResponse pub sig false) →
      verifySignature c pub sig (s.extra.getD []) = .ok id →
      P { s with id := some id, wait := none, handed := true }) :
    P (onPacket c cfg s m).1 := by
  rcases open_or_frozen s with hfr | ⟨hcl, hn⟩
  · rw [frozen c cfg s m hfr]; exact hfrozen
  specialize hsec hcl hn
  specialize hsig hcl hn
  fun_cases onPacket c cfg s m with
  | case1 => exact hfrozen  -- not reached: the frozen case went at the `rcases` above
  | case2 | case3 => exact hclose s hn
  | case4 _ sub hsub s1 hcw =>
    obtain ⟨hw, w1, rfl⟩ := checkWait_some s s1 sub hcw
    fun_cases dispatch c cfg _ m with
    | case1 | case2 => exact hclose _ hn
    | case3 suites aeads param =>
      cases hsub
      fun_cases handleSecureRequest cfg _ suites aeads param with
      | case1 | case2 => exact hclose _ hn
      | case3 _ _ _ _ _ x => exact hsec _ x _ hw (.inl ⟨rfl, rfl⟩)
    | case4 suite aead param e =>
      cases hsub
      fun_cases handleSecureResponse cfg _ suite aead param e with
      | case1 | case2 => exact hclose _ hn
      | case3 _ x => exact hsec _ x _ hw (.inr ⟨rfl, rfl⟩)
    | case5 pub sig =>
      cases hsub
      fun_cases handleSignatureRequest c cfg _ pub sig with
      | case1 | case2 | case3 | case4 => exact hclose _ hn
      | case5 id hv hself => exact hsig _ pub sig id hw (.inl ⟨rfl, rfl, hself⟩) hv
    | case6 pub sig e =>
      cases hsub
      fun_cases handleSignatureResponse c _ pub sig e with
      | case1 | case3 => exact hclose _ hn
      | case2 he id hv => exact hsig _ pub sig id hw (.inr ⟨rfl, by rw [Bool.eq_false_iff.mpr he]⟩) hv

theorem run_frozen (c : Crypto PK) (cfg : Config) :
    ∀ (ms : List Msg) (s : PeerSt), s.closed = true ∨ s.handed = true → run c cfg s ms = s
  | [], _, _ => rfl
  | m :: ms, s, h => by rw [run, frozen c cfg s m h]; exact run_frozen c cfg ms s h

theorem verifySignature_ok_iff (c : Crypto PK) (pub sig content id : Bytes) :
    verifySignature c pub sig content = .ok id ↔
      ∃ pk rs, c.parsePub pub = some pk ∧ parseSig sig = some rs ∧
        c.verify rs (c.sha3 content) pk = true ∧ id = c.idOf pk := by
  unfold verifySignature
  cases hp : c.parsePub pub with
  | none => simp
  | some pk =>
    cases hs : parseSig sig with
    | none => simp
    | some rs =>
      cases hv : c.verify rs (c.sha3 content) pk with
      | false => simp [hv]
      | true =>
        simp only [hv, Bool.not_true, Bool.false_eq_true, if_false]
        constructor
        · intro h; injection h with h; exact ⟨pk, rs, rfl, rfl, hv, h.symm⟩
        · rintro ⟨pk', rs', h1, h2, _, h4⟩
          injection h1 with h1; subst h1; rw [h4]

def Carries (m : Msg) (pub sig : Bytes) : Prop :=
  m = .signatureRequest pub sig ∨ m = .signatureResponse pub sig false

/-- what a handed-over peer `s` says of the `(pub, sig)` it received; the last clause is the `selfAddress` test,
    which only `handleSignatureRequest` (the accepting side) makes -/
def Verified (c : Crypto PK) (cfg : Config) (s : PeerSt) (pub sig : Bytes) : Prop :=
  ∃ x pk rs, s.extra = some x ∧ c.parsePub pub = some pk ∧ parseSig sig = some rs ∧
    c.verify rs (c.sha3 x) pk = true ∧ s.id = some (c.idOf pk) ∧
    (s.inbound = true → c.idOf pk ≠ cfg.self)

/-- a peer is never both closed and handed over; while the handshake runs it has no id and awaits a
    message; only the connecting side awaits a response, and whoever awaits the signature message has
    the session secret. -/
def Inv (s : PeerSt) : Prop :=
  ¬ (s.closed = true ∧ s.handed = true) ∧
  (s.closed = false → s.handed = false → s.id = none ∧ ∃ w b, s.wait = some (w, b) ∧
    (w = .secResp ∨ w = .sigResp → s.inbound = false) ∧
    (w = .sigReq ∨ w = .sigResp → s.extra.isSome = true))

theorem inv_onPeer (inbound : Bool) : Inv (onPeer inbound).1 := by
  cases inbound
  · exact ⟨fun h => (nomatch h.1), fun _ _ => ⟨rfl, .secResp, false, rfl, fun _ => rfl, fun h => h.elim nofun nofun⟩⟩
  · exact ⟨fun h => (nomatch h.1), fun _ _ =>
      ⟨rfl, .secReq, false, rfl, fun h => h.elim nofun nofun, fun h => h.elim nofun nofun⟩⟩

/-- what `Inv` says of the open peer once `checkWait` has let `sub` pass -/
theorem Inv.awaited {s : PeerSt} (hinv : Inv s) (hcl : s.closed = false) (hn : s.handed = false) {sub : Sub}
    (hw : s.wait = none ∨ s.wait = some (sub, false)) :
    (sub = .secResp ∨ sub = .sigResp → s.inbound = false) ∧
    (sub = .sigReq ∨ sub = .sigResp → s.extra.isSome = true) := by
  obtain ⟨_, w, b, hwb, h⟩ := hinv.2 hcl hn
  rw [hwb] at hw
  rcases hw with hw | hw <;> cases hw
  exact h

theorem inv_step (c : Crypto PK) (cfg : Config) (s : PeerSt) (m : Msg) (hinv : Inv s) :
    Inv (onPacket c cfg s m).1 := by
  refine onPacket_cases Inv c cfg s m hinv
    (fun t ht => ⟨fun h => Bool.noConfusion (ht.symm.trans h.2), fun h => nomatch h⟩) ?_
    (fun hcl _ _ _ _ _ _ _ _ => ⟨fun h => Bool.noConfusion (hcl.symm.trans h.1), fun _ h => nomatch h⟩)
  intro hcl hn sub x w hw hsw
  refine ⟨fun h => Bool.noConfusion (hcl.symm.trans h.1),
    fun _ _ => ⟨(hinv.2 hcl hn).1, w, false, rfl, ?_, fun _ => rfl⟩⟩
  rcases hsw with ⟨rfl, rfl⟩ | ⟨rfl, rfl⟩
  · exact fun h => h.elim nofun nofun
  · exact fun _ => (hinv.awaited hcl hn hw).1 (.inl rfl)

theorem Inv.id {s : PeerSt} (h : Inv s) (hid : s.id.isSome = true) : s.closed = true ∨ s.handed = true := by
  rcases open_or_frozen s with hf | ⟨h1, h2⟩
  · exact hf
  · rw [(h.2 h1 h2).1] at hid; cases hid

theorem step_handed (c : Crypto PK) (cfg : Config) (s : PeerSt) (m : Msg)
    (hinv : Inv s) (hn : s.handed = false) (hh : (onPacket c cfg s m).1.handed = true) :
    ∃ pub sig, Carries m pub sig ∧ Verified c cfg (onPacket c cfg s m).1 pub sig := by
  refine onPacket_cases (fun r => r.handed = true → ∃ pub sig, Carries m pub sig ∧ Verified c cfg r pub sig)
    c cfg s m (fun h => ?_) (fun t ht h => ?_) (fun _ _ _ _ _ _ _ h => ?_) ?_ hh
  · exact Bool.noConfusion (hn.symm.trans h)
  · exact Bool.noConfusion (ht.symm.trans h)
  · exact Bool.noConfusion (hn.symm.trans h)
  · intro hcl _ sub pub sig id hw hm hv _
    have hside := hinv.awaited hcl hn hw
    obtain ⟨x, hx⟩ := Option.isSome_iff_exists.mp (hside.2 (hm.imp And.left And.left))
    rw [hx] at hv
    obtain ⟨pk, rs, h1, h2, h3, h4⟩ := (verifySignature_ok_iff c pub sig x id).mp hv
    refine ⟨pub, sig, hm.imp (·.2.1) (·.2), x, pk, rs, hx, h1, h2, h3, by rw [h4], fun hi => ?_⟩
    rcases hm with ⟨_, _, hself⟩ | ⟨hs, _⟩
    · exact h4 ▸ hself
    · rw [hside.1 (.inr hs)] at hi; cases hi

theorem run_handed (c : Crypto PK) (cfg : Config) :
    ∀ (ms : List Msg) (s : PeerSt), Inv s → s.handed = false →
      (run c cfg s ms).handed = true →
      ∃ m ∈ ms, ∃ pub sig, Carries m pub sig ∧ Verified c cfg (run c cfg s ms) pub sig
  | [], s, _, hn, hh => by rw [run, hn] at hh; cases hh
  | m :: ms, s, hinv, hn, hh => by
    simp only [run] at hh ⊢
    cases hstep : (onPacket c cfg s m).1.handed with
    | true =>
      obtain ⟨pub, sig, hc, hv⟩ := step_handed c cfg s m hinv hn hstep
      rw [run_frozen c cfg ms _ (Or.inr hstep)]
      exact ⟨m, List.mem_cons_self, pub, sig, hc, hv⟩
    | false =>
      obtain ⟨m', hm', rest⟩ := run_handed c cfg ms _ (inv_step c cfg s m hinv) hstep hh
      exact ⟨m', List.mem_cons_of_mem _ hm', rest⟩

theorem inv_run (c : Crypto PK) (cfg : Config) :
    ∀ (ms : List Msg) (s : PeerSt), Inv s → Inv (run c cfg s ms)
  | [], _, h => h
  | m :: ms, s, h => inv_run c cfg ms _ (inv_step c cfg s m h)

theorem run_append (c : Crypto PK) (cfg : Config) :
    ∀ (ms ms' : List Msg) (s : PeerSt), run c cfg s (ms ++ ms') = run c cfg (run c cfg s ms) ms'
  | [], _, _ => rfl
  | m :: ms, ms', s => by simp only [List.cons_append, run]; exact run_append c cfg ms ms' _

end Goloop.C32.Proofs
