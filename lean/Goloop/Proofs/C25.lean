/-
  Bit strings, their numbers and bytes; the 32 bit accumulator writer (`packAcc_eq`).  LZW: one
  list `E` of (code, prefix, suffix) entries describes the writer's table and the reader's
  dictionary; `encLoop_spec` runs writer (`Inv E e code`) and reader (`decOf E e`) in lock step.
-/
import Goloop.Model.C25
namespace Goloop.C25.Proofs
open Goloop Goloop.C25

theorem length_bitsMSB (w v : Nat) : (bitsMSB w v).length = w := by
  induction w generalizing v with
  | zero => rfl
  | succ n ih => simp [bitsMSB, ih]

theorem natOfBits_lt (l : List Bool) : natOfBits l < 2 ^ l.length := by
  induction l with
  | nil => exact Nat.one_pos
  | cons b t ih =>
    rw [natOfBits, List.length_cons, Nat.pow_succ, Nat.mul_two]
    exact Nat.add_lt_add_of_le_of_lt 
      (Nat.le_trans (Nat.mul_le_mul_right _ b.toNat_le) (Nat.le_of_eq (Nat.one_mul _))) ih

theorem natOfBits_append (a b : List Bool) :
    natOfBits (a ++ b) = natOfBits a * 2 ^ b.length + natOfBits b := by
  induction a with
  | nil => simp [natOfBits]
  | cons x t ih =>
    simp only [List.cons_append, natOfBits, List.length_append, ih, Nat.pow_add]
    rw [Nat.add_mul, Nat.mul_assoc, Nat.add_assoc]

theorem bool_toNat_mod (n : Nat) : (n % 2 == 1).toNat = n % 2 := by
  rcases Nat.mod_two_eq_zero_or_one n with h | h <;> simp [h]

theorem natOfBits_bitsMSB (w c : Nat) : natOfBits (bitsMSB w c) = c % 2 ^ w := by
  induction w generalizing c with
  | zero => simp [bitsMSB, natOfBits, Nat.mod_one]
  | succ n ih =>
    rw [bitsMSB, natOfBits, length_bitsMSB, ih, bool_toNat_mod, Nat.mod_mod, Nat.mod_pow_succ,
      Nat.add_comm, Nat.mul_comm]

theorem bitsMSB_natOfBits (l : List Bool) : bitsMSB l.length (natOfBits l) = l := by
  induction l with
  | nil => rfl
  | cons b t ih =>
    have hr := natOfBits_lt t
    rw [List.length_cons, bitsMSB, natOfBits, Nat.mul_comm, Nat.mul_add_div (Nat.two_pow_pos _),
      Nat.mul_add_mod, Nat.div_eq_of_lt hr, Nat.mod_eq_of_lt hr, ih]
    cases b <;> rfl

theorem readAcc_append (l rest : List Bool) (acc : Nat) :
    readAcc l.length acc (l ++ rest) = some (acc * 2 ^ l.length + natOfBits l, rest) := by
  induction l generalizing acc with
  | nil => simp [readAcc, natOfBits]
  | cons b t ih =>
    rw [List.cons_append, List.length_cons, readAcc, ih, natOfBits, Nat.pow_succ, Nat.add_mul,
      Nat.mul_comm 2, Nat.mul_assoc, Nat.add_assoc, Nat.mul_comm 2]

theorem readCode_bits (w c : Nat) (rest : List Bool) (h : c < 2 ^ w) :
    readCode w (bitsMSB w c ++ rest) = some (c, rest) := by
  have := readAcc_append (bitsMSB w c) rest 0
  rwa [length_bitsMSB, natOfBits_bitsMSB, Nat.mod_eq_of_lt h, Nat.zero_mul, Nat.zero_add] at this

theorem toNat_byteOfBits (l : List Bool) (h : l.length ≤ 8) : (byteOfBits l).toNat = natOfBits l := by
  rw [byteOfBits, UInt8.toNat_ofNat']
  exact Nat.mod_eq_of_lt
    (Nat.lt_of_lt_of_le (natOfBits_lt l) (Nat.pow_le_pow_right (Nat.succ_pos 1) h))

theorem byte_bits (l : List Bool) (h : l.length = 8) : bitsMSB 8 (byteOfBits l).toNat = l := by
  have := bitsMSB_natOfBits l
  rwa [h, ← toNat_byteOfBits l (Nat.le_of_eq h)] at this

theorem length_pad8 (l : List Bool) (h : l.length ≤ 8) : (pad8 l).length = 8 := by
  rw [pad8, List.length_append, List.length_replicate, Nat.add_sub_cancel' h]

theorem pad8_full (l : List Bool) (h : l.length = 8) : pad8 l = l := by
  rw [pad8, h]; exact List.append_nil l

theorem bytesOfBits_nil : bytesOfBits [] = [] := by
  rw [bytesOfBits]; rfl

theorem bytesOfBits_cons (b : Bool) (t : List Bool) :
    bytesOfBits (b :: t) = byteOfBits (pad8 ((b :: t).take 8)) :: bytesOfBits ((b :: t).drop 8) := by
  rw [bytesOfBits]; rfl

theorem bytesOfBits_append8 (t r : List Bool) (h : t.length = 8) :
    bytesOfBits (t ++ r) = byteOfBits t :: bytesOfBits r := by
  cases t with
  | nil => cases h
  | cons b t' =>
    rw [List.cons_append, bytesOfBits_cons, ← List.cons_append, List.take_left' h, List.drop_left' h,
      pad8_full _ h]

theorem bytesOfBits_short (l : List Bool) (h0 : l ≠ []) (h : l.length ≤ 8) :
    bytesOfBits l = [byteOfBits (pad8 l)] := by
  cases l with
  | nil => exact absurd rfl h0
  | cons b t =>
    rw [bytesOfBits_cons, List.take_of_length_le h, List.drop_eq_nil_of_le h, bytesOfBits_nil]

theorem bitsOfBytes_cons (b : UInt8) (bs : Bytes) :
    bitsOfBytes (b :: bs) = bitsMSB 8 b.toNat ++ bitsOfBytes bs := by
  simp [bitsOfBytes]

theorem chunk8_induction {P : List Bool → Prop} (short : ∀ l, l.length < 8 → P l)
    (step : ∀ t r, t.length = 8 → P r → P (t ++ r)) (l : List Bool) : P l := by
  generalize hn : l.length = n
  induction n using Nat.strongRecOn generalizing l with
  | _ n ih =>
    by_cases h : l.length < 8
    · exact short l h
    · rw [← List.take_append_drop 8 l]
      exact step _ _ (by rw [List.length_take]; exact Nat.min_eq_left (Nat.le_of_not_lt h))
        (ih _ (by rw [List.length_drop, ← hn]; exact Nat.sub_lt_self (by decide) (Nat.le_of_not_lt h)) _ rfl)

theorem bitsOfBytes_bytesOfBits (bits : List Bool) :
    ∃ k, bitsOfBytes (bytesOfBits bits) = bits ++ List.replicate k false := by
  induction bits using chunk8_induction with
  | short l hl =>
    by_cases h0 : l = []
    · exact ⟨0, by rw [h0, bytesOfBits_nil]; rfl⟩
    · refine ⟨8 - l.length, ?_⟩
      rw [bytesOfBits_short l h0 (Nat.le_of_lt hl), bitsOfBytes_cons,
        byte_bits _ (length_pad8 l (Nat.le_of_lt hl))]
      exact List.append_nil _
  | step t r ht ih =>
    obtain ⟨k, hk⟩ := ih
    exact ⟨k, by
      rw [bytesOfBits_append8 t r ht, bitsOfBytes_cons, byte_bits t ht, hk, List.append_assoc]⟩

theorem bitsOf_cons (cw : Nat × Nat) (cs : List (Nat × Nat)) :
    bitsOf (cw :: cs) = bitsMSB cw.2 cw.1 ++ bitsOf cs := by simp [bitsOf]

theorem bitsOf_append (a b : List (Nat × Nat)) : bitsOf (a ++ b) = bitsOf a ++ bitsOf b := by
  simp [bitsOf]

theorem bitsOf_nil : bitsOf [] = [] := rfl

/-- the 32 bit accumulator holding the pending bit string `q` left-aligned. -/
def acc (q : List Bool) : Nat := natOfBits q * 2 ^ (32 - q.length)

theorem left_aligned_lt (q : List Bool) {n : Nat} (h : q.length ≤ n) :
    natOfBits q * 2 ^ (n - q.length) < 2 ^ n := by
  rw [← Nat.pow_sub_mul_pow 2 h, Nat.mul_comm]
  exact Nat.mul_lt_mul_of_pos_left (natOfBits_lt q) (Nat.two_pow_pos _)

theorem acc_append8 (t r : List Bool) (ht : t.length = 8) (hr : r.length ≤ 24) :
    acc (t ++ r) >>> 24 = natOfBits t ∧ (acc (t ++ r) <<< 8) % 2 ^ 32 = acc r := by
  -- `acc (t ++ r)` is the byte `t` above 24 bits that hold `r` left-aligned
  have hX : natOfBits r * 2 ^ (24 - r.length) < 2 ^ 24 := left_aligned_lt r hr
  have ha : acc (t ++ r) = natOfBits t * 2 ^ 24 + natOfBits r * 2 ^ (24 - r.length) := by
    rw [acc, natOfBits_append, List.length_append, ht,
      show 32 - (8 + r.length) = 24 - r.length from Nat.sub_add_eq 32 8 _,
      Nat.add_mul, Nat.mul_assoc, Nat.mul_comm (2 ^ r.length), Nat.pow_sub_mul_pow 2 hr]
  rw [ha]
  constructor
  · rw [Nat.shiftRight_eq_div_pow, Nat.mul_comm, Nat.mul_add_div (Nat.two_pow_pos 24),
      Nat.div_eq_of_lt hX, Nat.add_zero]
  · rw [Nat.shiftLeft_eq, Nat.add_mul, Nat.mul_assoc, ← Nat.pow_add, Nat.mul_comm (natOfBits t),
      Nat.mul_add_mod, Nat.mod_eq_of_lt (Nat.mul_lt_mul_of_pos_right hX (Nat.two_pow_pos 8)), acc,
      show 32 - r.length = 24 - r.length + 8 from Nat.sub_add_comm (m := 8) hr, Nat.pow_add,
      Nat.mul_assoc]

theorem drain_chunk (t r : List Bool) (ht : t.length = 8) (hr : r.length ≤ 24) (out : Bytes) :
    drain (acc (t ++ r)) (t ++ r).length out = drain (acc r) r.length (byteOfBits t :: out) := by
  obtain ⟨htop, hshl⟩ := acc_append8 t r ht hr
  have h8 : 8 ≤ (t ++ r).length := by rw [List.length_append, ht]; exact Nat.le_add_right 8 _
  rw [drain, if_pos h8, htop, hshl, List.length_append, ht, Nat.add_sub_cancel_left]
  rfl

/-- accumulator state `s` after the bit string `W` has been written: some `p` of fewer than 8 bits
    is pending, the bytes before it are out.  Said for every continuation `rest`, so that the
    byte boundary inside `W` is never computed. -/
def Rep (s : BitW) (W : List Bool) : Prop :=
  ∃ p, s.nBits = p.length ∧ p.length < 8 ∧ s.bits = acc p ∧
    ∀ rest, s.out.reverse ++ bytesOfBits (p ++ rest) = bytesOfBits (W ++ rest)

theorem drain_spec (W q : List Bool) : q.length ≤ 32 → ∀ out : Bytes,
    (∀ rest, out.reverse ++ bytesOfBits (q ++ rest) = bytesOfBits (W ++ rest)) →
    Rep (drain (acc q) q.length out) W := by
  induction q using chunk8_induction with
  | short l hl =>
    intro _ out h
    rw [drain, if_neg (Nat.not_le_of_lt hl)]
    exact ⟨l, rfl, hl, rfl, h⟩
  | step t r ht ih =>
    intro hq out h
    rw [List.length_append, ht] at hq
    have hr := Nat.le_sub_of_add_le' hq
    rw [drain_chunk t r ht hr]
    refine ih (Nat.le_trans hr (by decide)) (byteOfBits t :: out) fun rest => ?_
    rw [← h, List.append_assoc, bytesOfBits_append8 _ _ ht, List.reverse_cons, List.append_assoc]
    rfl

theorem acc_write (p : List Bool) (c w : Nat) (hc : c < 2 ^ w) (hl : p.length + w ≤ 32) :
    (acc p ||| c <<< (32 - w - p.length)) % 2 ^ 32 = acc (p ++ bitsMSB w c) := by
  -- the low `32 - |p|` bits of `acc p` are zero and `c < 2 ^ w` lies within them, so `|||` adds
  have e : acc p ||| c <<< (32 - w - p.length) = acc (p ++ bitsMSB w c) := by
    obtain ⟨s, hs⟩ : ∃ s, 32 - p.length = w + s :=
      ⟨_, (Nat.add_sub_cancel' (Nat.le_sub_of_add_le' hl)).symm⟩
    rw [acc, acc, natOfBits_append, natOfBits_bitsMSB, Nat.mod_eq_of_lt hc, List.length_append,
      length_bitsMSB, Nat.sub_right_comm 32 w, Nat.sub_add_eq, hs, Nat.add_sub_cancel_left,
      Nat.pow_add, ← Nat.mul_assoc,
      ← Nat.shiftLeft_eq, ← Nat.shiftLeft_eq, ← Nat.shiftLeft_eq, ← Nat.shiftLeft_or_distrib,
      ← Nat.shiftLeft_add_eq_or_of_lt hc]
  rw [e]
  exact Nat.mod_eq_of_lt (left_aligned_lt _ (by rw [List.length_append, length_bitsMSB]; exact hl))

theorem write_spec (s : BitW) (W : List Bool) (h : Rep s W) (c w : Nat) (hc : c < 2 ^ w)
    (hw : w ≤ 24) : Rep (writeMSB s c w) (W ++ bitsMSB w c) := by
  obtain ⟨p, hl, hn, hb, hout⟩ := h
  have hq : (p ++ bitsMSB w c).length = p.length + w := by rw [List.length_append, length_bitsMSB]
  have h32 := Nat.add_le_add (Nat.le_of_lt hn) hw
  unfold writeMSB
  rw [hb, hl, acc_write p c w hc h32, ← hq]
  exact drain_spec _ (p ++ bitsMSB w c) (hq ▸ h32) s.out fun rest => by
    rw [List.append_assoc, hout, List.append_assoc]

theorem natOfBits_pad8 (l : List Bool) : natOfBits (pad8 l) = natOfBits l * 2 ^ (8 - l.length) := by
  have : ∀ k, natOfBits (List.replicate k false) = 0 := by
    intro k
    induction k with
    | zero => rfl
    | succ k ih => rw [List.replicate_succ, natOfBits, ih]; exact Nat.zero_mul _
  rw [pad8, natOfBits_append, this, List.length_replicate]; rfl

theorem close_spec (s : BitW) (W : List Bool) (h : Rep s W) : closeMSB s = bytesOfBits W := by
  obtain ⟨p, hl, hn, hb, hout⟩ := h
  have hW := hout []
  rw [List.append_nil, List.append_nil] at hW
  rw [← hW]
  by_cases h0 : p = []
  · subst h0
    rw [closeMSB, hl, bytesOfBits_nil, List.append_nil]; rfl
  · have hpos : s.nBits > 0 := by rw [hl]; exact List.length_pos_iff.mpr h0
    have htop : s.bits >>> 24 = natOfBits (pad8 p) := by
      rw [hb, acc, natOfBits_pad8,
        show 32 - p.length = 8 - p.length + 24 from Nat.sub_add_comm (m := 24) (Nat.le_of_lt hn),
        Nat.pow_add,
        ← Nat.mul_assoc, Nat.shiftRight_eq_div_pow, Nat.mul_div_cancel _ (Nat.two_pow_pos 24)]
    rw [closeMSB, if_pos hpos, List.reverse_cons, htop, bytesOfBits_short p h0 (Nat.le_of_lt hn)]
    rfl

theorem fold_spec (cs : List (Nat × Nat)) (hcs : ∀ cw ∈ cs, cw.1 < 2 ^ cw.2 ∧ cw.2 ≤ 24)
    (s : BitW) (W : List Bool) (h : Rep s W) :
    closeMSB (cs.foldl (fun s cw => writeMSB s cw.1 cw.2) s) = bytesOfBits (W ++ bitsOf cs) := by
  induction cs generalizing s W with
  | nil => rw [List.foldl_nil, bitsOf_nil, List.append_nil, close_spec s W h]
  | cons cw cs ih =>
    obtain ⟨h1, h2⟩ := hcs cw List.mem_cons_self
    rw [List.foldl_cons, ih (fun c hc => hcs c (List.mem_cons_of_mem _ hc)) _ _
      (write_spec s W h cw.1 cw.2 h1 h2), bitsOf_cons, List.append_assoc]

theorem packAcc_eq (cs : List (Nat × Nat)) (hcs : ∀ cw ∈ cs, cw.1 < 2 ^ cw.2 ∧ cw.2 ≤ 24) :
    packAcc cs = bytesOfBits (bitsOf cs) :=
  fold_spec cs hcs ⟨0, 0, []⟩ [] ⟨[], rfl, by decide, rfl, fun _ => rfl⟩

/-- `Dec.dict`: (code, prefix, suffix) entries, newest first -/
abbrev Dict := List (Nat × Nat × UInt8)

/-- the writer's table as determined by a reader-style dictionary. -/
def tableOf : Dict → List (Nat × Nat)
  | [] => []
  | (k, p, x) :: D => (p * 256 + x.toNat, k) :: tableOf D

def ValidCode (D : Dict) (c : Nat) : Prop :=
  c < 256 ∨ (258 ≤ c ∧ c < 258 + D.length)

/-- entries are numbered 258, 259, … and every prefix is a literal or an older entry. -/
def Wf : Dict → Prop
  | [] => True
  | (k, p, _) :: D => k = 258 + D.length ∧ ValidCode D p ∧ Wf D

theorem ValidCode.lt {D : Dict} {c : Nat} (h : ValidCode D c) :
    c < 258 + D.length :=
  h.elim (fun h => Nat.lt_of_lt_of_le h (Nat.le_trans (by decide) (Nat.le_add_right 258 _))) (·.2)

theorem expandAcc_eq (D : Dict) (c : Nat) (acc : Bytes) :
    expandAcc D c acc = expand D c ++ acc := by
  induction D generalizing c acc with
  | nil => rfl
  | cons e D ih =>
    obtain ⟨k, p, x⟩ := e
    by_cases h : c = k
    · simp only [expand, expandAcc, h, if_true]
      rw [ih p (x :: acc), ih p [x]]; simp
    · simp only [expand, expandAcc, h, if_false]
      rw [ih c acc, ih c []]; simp

theorem expand_cons_eq (k p : Nat) (x : UInt8) (D : Dict) :
    expand ((k, p, x) :: D) k = expand D p ++ [x] := by
  rw [expand, expandAcc, if_pos rfl, expandAcc_eq]

theorem expand_cons_ne {k p : Nat} {x : UInt8} {D : Dict} {c : Nat}
    (h : c ≠ k) : expand ((k, p, x) :: D) c = expand D c := by
  rw [expand, expandAcc, if_neg h]; rfl

theorem expand_lit (D : Dict) (c : Nat) (hw : Wf D) (hc : c < 256) :
    expand D c = [UInt8.ofNat c] := by
  fun_induction Wf D with
  | case1 => rfl
  | case2 k p x D ih =>
    rw [expand_cons_ne (by omega)]
    exact ih hw.2.2

theorem expand_byte (D : Dict) (hw : Wf D) (x : UInt8) :
    expand D x.toNat = [x] := by
  rw [expand_lit D _ hw x.toNat_lt, UInt8.ofNat_toNat]

theorem head_expand (D : Dict) (c : Nat) :
    ∃ t, expand D c = UInt8.ofNat (headOf D c) :: t := by
  fun_induction headOf D c with
  | case1 c => exact ⟨[], rfl⟩
  | case2 p x D k ih =>
    obtain ⟨t, ht⟩ := ih
    exact ⟨t ++ [x], by rw [expand_cons_eq, ht]; rfl⟩
  | case3 k p x D c h ih => rw [expand_cons_ne h]; exact ih

theorem key_inj (c p : Nat) (x y : UInt8) (h : c * 256 + x.toNat = p * 256 + y.toNat) :
    c = p ∧ x = y := by
  have hd (a : Nat) (b : UInt8) : (a * 256 + b.toNat) / 256 = a := by
    rw [Nat.mul_comm, Nat.mul_add_div (by decide), Nat.div_eq_of_lt b.toNat_lt, Nat.add_zero]
  obtain rfl : c = p := by rw [← hd c x, h, hd p y]
  exact ⟨rfl, UInt8.toNat_inj.mp (Nat.add_left_cancel h)⟩

theorem lookup_tableOf (D : Dict) (c v : Nat) (x : UInt8) (hw : Wf D)
    (h : (tableOf D).lookup (c * 256 + x.toNat) = some v) :
    c < 258 + D.length ∧ 258 ≤ v ∧ v < 258 + D.length ∧ expand D v = expand D c ++ [x] := by
  -- the bound on `c` is for the induction: a newer entry has a larger code, so `expand D c` skips it
  fun_induction tableOf D with
  | case1 => cases h
  | case2 k p y D ih =>
    obtain ⟨rfl, hp, hw'⟩ := hw
    rw [List.lookup_cons] at h
    by_cases hkey : c * 256 + x.toNat = p * 256 + y.toNat
    · obtain ⟨rfl, rfl⟩ := key_inj _ _ _ _ hkey
      rw [beq_self_eq_true] at h
      cases h
      refine ⟨Nat.lt_succ_of_lt hp.lt, Nat.le_add_right _ _, Nat.lt_succ_self _, ?_⟩
      rw [expand_cons_eq, expand_cons_ne (Nat.ne_of_lt hp.lt)]
    · rw [beq_false_of_ne hkey] at h
      obtain ⟨h1, h2, h3, h4⟩ := ih hw' h
      refine ⟨Nat.lt_succ_of_lt h1, h2, Nat.lt_succ_of_lt h3, ?_⟩
      rw [expand_cons_ne (Nat.ne_of_lt h3), expand_cons_ne (Nat.ne_of_lt h1), h4]

theorem eof_lt (w : Nat) (h : 9 ≤ w) : 257 < 2 ^ w :=
  Nat.lt_of_lt_of_le (by decide) (Nat.pow_le_pow_right (by decide) h)

theorem decLoop_clear (f : Nat) (d : Dec) (rest : List Bool) (h : 9 ≤ d.width) :
    decLoop (f + 1) d (bitsMSB d.width 256 ++ rest) = decLoop f decInit rest := by
  simp [decLoop, readCode_bits d.width 256 rest (Nat.lt_trans (Nat.lt_succ_self 256) (eof_lt _ h))]

theorem decLoop_eof (f : Nat) (d : Dec) (rest : List Bool) (h : 9 ≤ d.width) :
    decLoop (f + 1) d (bitsMSB d.width 257 ++ rest) = [] := by
  simp [decLoop, readCode_bits d.width 257 rest (eof_lt _ h)]

section
variable (f : Nat) {d : Dec} {bits rest : List Bool} {code : Nat}
  (hr : readCode d.width bits = some (code, rest))
include hr

theorem decLoop_lit (hc : code < 256) :
    decLoop (f + 1) d bits =
      UInt8.ofNat code :: decLoop f (advance (save d (UInt8.ofNat code)) code) rest := by
  simp [decLoop, hr, hc]

/-- an entry code, also the one the reader is about to define (`code = d.hi`, KwKwK): if `x` is the
    first byte of the expansion in the dictionary that has `x` saved, the reader emits that
    expansion and saves `x`. -/
theorem decLoop_entry {l : Nat} {x : UInt8} {t : Bytes} (hc : 258 ≤ code) (hhi : code ≤ d.hi)
    (hl : d.last = some l) (hx : expand (save d x).dict code = x :: t) :
    decLoop (f + 1) d bits = x :: t ++ decLoop f (advance (save d x) code) rest := by
  have ⟨h1, h2, h3⟩ : ¬ code < 256 ∧ ¬ code = 256 ∧ ¬ code = 257 := by omega
  have hd : (save d x).dict = (d.hi, l, x) :: d.dict := by rw [save, hl]
  rw [hd] at hx
  rw [decLoop, hr, ← hx]
  by_cases he : code = d.hi
  · obtain ⟨t', ht'⟩ := head_expand d.dict l
    rw [he, expand_cons_eq, ht'] at hx
    simp only [h1, h2, h3, hhi, if_pos he, hl, if_false, if_true, expandAcc_eq]
    rw [(List.cons.inj hx).1, he, expand_cons_eq]
  · obtain ⟨t', ht'⟩ := head_expand d.dict code
    rw [expand_cons_ne he, ht'] at hx
    simp only [h1, h2, h3, hhi, he, if_false, if_true]
    rw [(List.cons.inj hx).1, expand_cons_ne he]

end

/-- width and overflow after `incHi`. -/
def grow (e : Enc) : Nat × Nat := bump (e.hi + 1) e.width e.overflow

/-- The reader that has consumed everything the writer has emitted: its dictionary is `E` minus
    the newest entry, whose suffix byte the reader will only learn from the next code. -/
def decOf (E : Dict) (e : Enc) : Dec :=
  { dict := E.tail, hi := e.hi, width := e.width, overflow := e.overflow,
    last := E.head?.map (·.2.1) }

/-- reader state after it has also consumed the pending code of a writer in state `e`. -/
def d1 (E : Dict) (e : Enc) (code : Nat) : Dec :=
  { dict := E, hi := e.hi + 1, width := (grow e).1, overflow := (grow e).2, last := some code }

/-- `E` is the writer's dictionary in reader form, `code` its pending code.  `head`: the first byte
    of the pending expansion is the suffix of the newest entry, so the reader that saves it has
    all of `E`. -/
structure Inv (E : Dict) (e : Enc) (code : Nat) : Prop where
  tbl : e.table = tableOf E
  wf : Wf E
  ehi : e.hi + 1 = 258 + E.length
  ov : e.overflow = 2 ^ e.width
  wlo : 9 ≤ e.width
  whi : e.width ≤ 12
  hilt : e.hi < e.overflow
  hi94 : e.hi ≤ 4094  -- `incHi` clears the table once `hi + 1 = maxCode = 4095` (writer.go)
  valid : ValidCode E code
  head : ∀ s t, expand E code = s :: t → save (decOf E e) s = { decOf E e with dict := E }

theorem inv_init (x : UInt8) : Inv [] encInit x.toNat where
  tbl := rfl
  wf := trivial
  ehi := rfl
  ov := rfl
  wlo := by decide
  whi := by decide
  hilt := by decide
  hi94 := by decide
  valid := Or.inl x.toNat_lt
  head := fun _ _ _ => rfl

theorem code_lt_pow {E e code} (h : Inv E e code) : code < 2 ^ e.width := by
  rw [← h.ov]
  exact Nat.lt_of_le_of_lt (Nat.le_of_lt_succ (Nat.lt_of_lt_of_eq h.valid.lt h.ehi.symm)) h.hilt

theorem grow_cases {E e code} (h : Inv E e code) :
    (e.hi + 1 = e.overflow ∧ e.width < 12 ∧ grow e = (e.width + 1, e.overflow * 2)) ∨
    (e.hi + 1 < e.overflow ∧ grow e = (e.width, e.overflow)) := by
  by_cases hb : e.hi + 1 = e.overflow
  · refine Or.inl ⟨hb, Nat.lt_of_le_of_ne h.whi ?_, if_pos hb⟩
    -- at width 12 the overflow is 4096, but `hi` stays below 4095
    have h3 := h.ov; have h5 := h.hi94
    rintro h12; rw [h12] at h3; omega
  · exact Or.inr ⟨Nat.lt_of_le_of_ne h.hilt hb, if_neg hb⟩

theorem grow_width {E e code} (h : Inv E e code) :
    9 ≤ (grow e).1 ∧ (grow e).1 ≤ 12 ∧ (grow e).2 = 2 ^ (grow e).1 ∧
    e.hi + 1 < (grow e).2 := by
  rcases grow_cases h with ⟨hb, hw, hg⟩ | ⟨hb, hg⟩ <;> rw [hg]
  · exact ⟨Nat.le_succ_of_le h.wlo, hw, by rw [h.ov, Nat.pow_succ],
      by rw [← hb, Nat.mul_two]; exact Nat.lt_add_of_pos_right (Nat.succ_pos _)⟩
  · exact ⟨h.wlo, h.whi, h.ov, hb⟩

theorem advance_eq {E e c} (h : Inv E e c) (D : Dict) (code : Nat) :
    advance { decOf E e with dict := D } code = d1 D e code := by
  unfold advance d1
  rcases grow_cases h with ⟨hb, hw, hg⟩ | ⟨hb, hg⟩ <;> rw [hg]
  · simp only [decOf, hb, Nat.le_refl, if_true, Nat.ne_of_lt hw, if_false, h.ov, Nat.pow_succ]
  · simp only [decOf, Nat.not_le_of_lt hb, if_false]

/-- holds in the KwKwK case too, where `code` is the entry the reader does not have yet -/
theorem decStep {E e code} (h : Inv E e code) (f : Nat) (rest : List Bool) :
    decLoop (f + 1) (decOf E e) (bitsMSB e.width code ++ rest) =
      expand E code ++ decLoop f (d1 E e code) rest := by
  have hr : readCode (decOf E e).width (bitsMSB e.width code ++ rest) = some (code, rest) :=
    readCode_bits _ _ _ (code_lt_pow h)
  by_cases hc : code < 256
  · have hx := expand_lit E code h.wf hc
    rw [decLoop_lit f hr hc, h.head _ _ hx, advance_eq h, hx]
    rfl
  · have hv := h.valid.resolve_left hc
    obtain ⟨t, hx⟩ := head_expand E code
    have hs := h.head _ t hx
    cases E with
    | nil => exact absurd hv.2 (Nat.not_lt_of_le hv.1)
    | cons en D =>
      rw [decLoop_entry f hr hv.1 (Nat.le_of_lt_succ (Nat.lt_of_lt_of_eq hv.2 h.ehi.symm)) rfl
        (by rw [hs]; exact hx), hs, advance_eq h, hx]

theorem inv_hit {E e code} (h : Inv E e code) {x : UInt8} {v : Nat}
    (hl : e.table.lookup (code * 256 + x.toNat) = some v) :
    Inv E e v ∧ expand E v = expand E code ++ [x] := by
  rw [h.tbl] at hl
  obtain ⟨_, hv1, hv2, hexp⟩ := lookup_tableOf E code v x h.wf hl
  refine ⟨{ h with valid := Or.inr ⟨hv1, hv2⟩, head := fun s t hs => ?_ }, hexp⟩
  obtain ⟨t', ht'⟩ := head_expand E code
  rw [hexp, ht'] at hs
  exact (List.cons.inj hs).1 ▸ h.head _ t' ht'

/-- the writer after a miss on `key` that did not fill the table. -/
def next (e : Enc) (key : Nat) : Enc :=
  { table := (key, e.hi + 1) :: e.table, hi := e.hi + 1, width := (grow e).1, overflow := (grow e).2 }

theorem inv_next {E e code} (h : Inv E e code) (x : UInt8) (h95 : ¬ e.hi + 1 = 4095) :
    Inv ((e.hi + 1, code, x) :: E) (next e (code * 256 + x.toNat)) x.toNat := by
  obtain ⟨b1, b2, b3, b4⟩ := grow_width h
  have hwf : Wf ((e.hi + 1, code, x) :: E) := ⟨h.ehi, h.valid, h.wf⟩
  exact {
    tbl := congrArg (_ :: ·) h.tbl
    wf := hwf
    ehi := congrArg (· + 1) h.ehi
    ov := b3
    wlo := b1
    whi := b2
    hilt := b4
    hi94 := Nat.lt_of_le_of_ne h.hi94 fun e' => h95 (congrArg (· + 1) e')
    valid := Or.inl x.toNat_lt
    head := fun s t hs => by
      rw [expand_byte _ hwf x] at hs
      cases hs
      rfl }

theorem fuel_succ {w c F : Nat} {rest : List Bool} (hw : 0 < w)
    (h : (bitsMSB w c ++ rest).length < F) : ∃ f, F = f + 1 ∧ rest.length < f := by
  rw [List.length_append, length_bitsMSB, Nat.add_comm] at h
  have h1 : rest.length + 1 < F := Nat.lt_of_le_of_lt (Nat.add_le_add_left hw _) h
  exact ⟨F - 1, (Nat.sub_add_cancel (Nat.zero_lt_of_lt h1)).symm, Nat.lt_sub_of_add_lt h1⟩

/-- codes that fit their widths (9..12) and that a reader in state `d`, given more fuel than there
    are bits (a code takes at least one bit and one unit of fuel: `fuel_succ`), decodes to `out`
    whatever padding follows (for `roundtrip`: the zero fill of the last byte). -/
def Decodes (cs : List (Nat × Nat)) (d : Dec) (out : Bytes) : Prop :=
  (∀ cw ∈ cs, cw.1 < 2 ^ cw.2 ∧ 9 ≤ cw.2 ∧ cw.2 ≤ 12) ∧
  ∀ (F : Nat) (pad : List Bool), (bitsOf cs ++ pad).length < F →
    decLoop F d (bitsOf cs ++ pad) = out

section
variable (d : Dec) (h9 : 9 ≤ d.width) (h12 : d.width ≤ 12)
include h9 h12

theorem decodes_eof : Decodes [(257, d.width)] d [] := by
  refine ⟨?_, fun F pad hF => ?_⟩
  · rw [List.forall_mem_singleton]
    exact ⟨eof_lt _ h9, h9, h12⟩
  · rw [bitsOf_cons, bitsOf_nil, List.append_nil] at hF ⊢
    obtain ⟨f, rfl, -⟩ := fuel_succ (Nat.zero_lt_of_lt h9) hF
    exact decLoop_eof f d pad h9

theorem decodes_clear {cs : List (Nat × Nat)} {out : Bytes} (h : Decodes cs decInit out) :
    Decodes ((256, d.width) :: cs) d out := by
  refine ⟨?_, fun F pad hF => ?_⟩
  · rw [List.forall_mem_cons]
    exact ⟨⟨Nat.lt_trans (Nat.lt_succ_self 256) (eof_lt _ h9), h9, h12⟩, h.1⟩
  · rw [bitsOf_cons, List.append_assoc] at hF ⊢
    obtain ⟨f, rfl, hf⟩ := fuel_succ (Nat.zero_lt_of_lt h9) hF
    rw [decLoop_clear f d _ h9]
    exact h.2 f pad hf

end

theorem decodes_step {E e code} (h : Inv E e code) {cs : List (Nat × Nat)} {out : Bytes}
    (hd : Decodes cs (d1 E e code) out) :
    Decodes ((code, e.width) :: cs) (decOf E e) (expand E code ++ out) := by
  refine ⟨?_, fun F pad hF => ?_⟩
  · rw [List.forall_mem_cons]
    exact ⟨⟨code_lt_pow h, h.wlo, h.whi⟩, hd.1⟩
  · rw [bitsOf_cons, List.append_assoc] at hF ⊢
    obtain ⟨f, rfl, hf⟩ := fuel_succ (Nat.zero_lt_of_lt h.wlo) hF
    rw [decStep h f, hd.2 f pad hf]

/-- What the writer emits from state `e` with pending `code` and remaining input `xs` is decoded
    by the reader to the pending expansion followed by `xs`. -/
theorem encLoop_spec (xs : Bytes) : ∀ E e code, Inv E e code →
    Decodes (encLoop e code xs) (decOf E e) (expand E code ++ xs) := by
  induction xs with
  | nil =>
    intro E e code h
    obtain ⟨g9, g12, -, -⟩ := grow_width h
    rw [encLoop]
    fun_cases incHi e with
    | case1 =>
      -- `Close` with the table full: pending code, clear code, eof at width 9
      exact decodes_step h (decodes_clear (d1 E e code) g9 g12
        (decodes_eof decInit (by decide) (by decide)))
    | case2 =>
      -- `Close`: pending code, eof at the width after `incHi`
      exact decodes_step h (decodes_eof (d1 E e code) g9 g12)
  | cons x xs ih =>
    intro E e code h
    rw [encLoop]
    cases hlk : e.table.lookup (code * 256 + x.toNat) with
    | some v =>
      obtain ⟨h', hexp⟩ := inv_hit h hlk
      have hi := ih E e v h'
      rw [hexp, List.append_assoc] at hi
      exact hi
    | none =>
      obtain ⟨g9, g12, -, -⟩ := grow_width h
      fun_cases incHi e with
      | case1 =>
        -- miss with the table full: pending code, clear code, then from the initial state
        have hi := ih [] encInit x.toNat (inv_init x)
        rw [expand_byte [] trivial] at hi
        exact decodes_step h (decodes_clear (d1 E e code) g9 g12 hi)
      | case2 _ _ h95 =>
        -- miss: pending code, then from `next e key`, to which the reader's `d1` belongs
        have hn := inv_next h x h95
        have hi := ih _ _ _ hn
        rw [expand_byte _ hn.wf] at hi
        exact decodes_step h hi

theorem encCodes_spec (x : UInt8) (xs : Bytes) :
    Decodes (encCodes (x :: xs)) decInit (x :: xs) := by
  have := encLoop_spec xs [] encInit x.toNat (inv_init x)
  rwa [expand_byte [] trivial] at this

theorem encCodes_fit (s : Bytes) : ∀ cw ∈ encCodes s, cw.1 < 2 ^ cw.2 ∧ 9 ≤ cw.2 ∧ cw.2 ≤ 12 := by
  cases s with
  | nil => nofun
  | cons x xs => exact (encCodes_spec x xs).1

theorem encCodes_fit_acc (s : Bytes) : ∀ cw ∈ encCodes s, cw.1 < 2 ^ cw.2 ∧ cw.2 ≤ 24 :=
  fun cw h => ⟨(encCodes_fit s cw h).1, Nat.le_trans (encCodes_fit s cw h).2.2 (by decide)⟩

theorem compress_eq_bits (s : Bytes) : compress s = bytesOfBits (bitsOf (encCodes s)) :=
  packAcc_eq _ (encCodes_fit_acc s)

theorem compress_nil : compress [] = [] := rfl

theorem encLoop_init_head (x : UInt8) (xs : Bytes) :
    ∃ rest, encLoop encInit x.toNat xs = (x.toNat, 9) :: rest := by
  cases xs with
  | nil => exact ⟨_, rfl⟩
  | cons y ys => exact ⟨_, rfl⟩

theorem bitsOf_encCodes_cons (x : UInt8) (xs : Bytes) :
    ∃ t, bitsOf (encCodes (x :: xs)) = false :: t := by
  obtain ⟨rest, h⟩ := encLoop_init_head x xs
  have : x.toNat / 2 ^ 8 % 2 = 0 := by rw [Nat.div_eq_of_lt x.toNat_lt]
  exact ⟨_, by rw [encCodes, h, bitsOf_cons, bitsMSB, this]; rfl⟩

theorem roundtrip (s : Bytes) : decompress (compress s) = s := by
  cases s with
  | nil => rfl
  | cons x xs =>
    obtain ⟨t, ht⟩ := bitsOf_encCodes_cons x xs
    obtain ⟨k, hk⟩ := bitsOfBytes_bytesOfBits (bitsOf (encCodes (x :: xs)))
    have hne : ¬ (bytesOfBits (bitsOf (encCodes (x :: xs)))).isEmpty = true := by
      rw [ht, bytesOfBits_cons]; exact Bool.false_ne_true
    rw [compress_eq_bits, decompress, if_neg hne, hk]
    -- `decompress` gives the reader one unit of fuel more than there are bits
    exact (encCodes_spec x xs).2 _ _ (Nat.lt_succ_self _)

end Goloop.C25.Proofs
