/-
  Proofs/C04 — the vote set model behind Props/C04.

  `Good cs f`: the counter list `cs` tabulates a recount function `f`; the two counter loops of
  `add` change the table as they change `f` (`dec_good`, `inc_good`); writing a slot is emptying it
  and filling it, so both recounts are taken relative to the emptied slot (`countSlots_set`).
  `Inv s`: the counters tabulate the recount of the slots, `count`/`mask` describe the filled
  slots, the `maxIndex` cache is unset or what the argmax loop computes.  `Later s t`: what one
  operation, hence any run, maintains.
-/
import Goloop.Model.C04
import Goloop.Base.Quorum
namespace Goloop.C04.Proofs
open Goloop.C04

structure Good (cs : List Counter) (f : Nat → Nat) : Prop where
  nodup : (cs.map (·.d)).Nodup
  sound : ∀ c ∈ cs, 0 < c.cnt ∧ c.cnt = f c.d
  complete : ∀ d, 0 < f d → ∃ c ∈ cs, c.d = d

theorem Good.congr {cs : List Counter} {f g : Nat → Nat} (h : Good cs f) (e : ∀ x, f x = g x) : Good cs g := by
  rw [← funext e]; exact h

theorem Good.perm {cs cs' : List Counter} {f : Nat → Nat} (h : Good cs f) (p : cs'.Perm cs) : Good cs' f :=
  ⟨(p.map _).nodup_iff.2 h.nodup, fun c hc => h.sound c (p.mem_iff.1 hc),
   fun d hd => (h.complete d hd).elim fun c hc => ⟨c, p.mem_iff.2 hc.1, hc.2⟩⟩

theorem good_cons {c : Counter} {l : List Counter} {f : Nat → Nat} :
    Good (c :: l) f ↔ (∀ x ∈ l, x.d ≠ c.d) ∧ 0 < c.cnt ∧ c.cnt = f c.d ∧
      Good l (fun x => if x = c.d then 0 else f x) := by
  constructor
  · intro h
    have hn := List.nodup_cons.1 h.nodup
    have hc : ∀ x ∈ l, x.d ≠ c.d := fun x hx e => hn.1 (List.mem_map.2 ⟨x, hx, e⟩)
    refine ⟨hc, (h.sound c List.mem_cons_self).1, (h.sound c List.mem_cons_self).2, hn.2, ?_, ?_⟩
    · intro x hx
      rw [if_neg (hc x hx)]
      exact h.sound x (List.mem_cons_of_mem _ hx)
    · intro d hd
      by_cases e : d = c.d
      · rw [if_pos e] at hd; cases hd
      · rw [if_neg e] at hd
        obtain ⟨y, hy, ey⟩ := h.complete d hd
        rcases List.mem_cons.1 hy with rfl | hy
        · exact absurd ey.symm e
        · exact ⟨y, hy, ey⟩
  · rintro ⟨hc, h1, h2, h⟩
    refine ⟨List.nodup_cons.2 ⟨fun hm => ?_, h.nodup⟩, ?_, ?_⟩
    · obtain ⟨x, hx, e⟩ := List.mem_map.1 hm
      exact hc x hx e
    · intro x hx
      rcases List.mem_cons.1 hx with rfl | hx
      · exact ⟨h1, h2⟩
      · have := h.sound x hx
        rwa [if_neg (hc x hx)] at this
    · intro d hd
      by_cases e : d = c.d
      · exact ⟨c, List.mem_cons_self, e.symm⟩
      · obtain ⟨y, hy, ey⟩ := h.complete d (by rw [if_neg e]; exact hd)
        exact ⟨y, List.mem_cons_of_mem _ hy, ey⟩

/-- The count of counter `c` becomes `k`. `k = 0`: the counter goes (Go's swap-remove, up to order, `decCounter_perm`);
    `k > 0`: it is overwritten. The decrement and the increment of a counter that exists are both instances. -/
theorem Good.replace {a b : List Counter} {c : Counter} {f : Nat → Nat} (h : Good (a ++ c :: b) f) (k : Nat) :
    Good (if k = 0 then a ++ b else a ++ { c with cnt := k } :: b) (fun x => if x = c.d then k else f x) := by
  obtain ⟨hne, _, _, hl⟩ := good_cons.1 (h.perm List.perm_middle.symm)
  by_cases hk : k = 0
  · rw [if_pos hk, hk]; exact hl
  · rw [if_neg hk]
    apply Good.perm ?_ List.perm_middle
    exact good_cons.2 ⟨hne, Nat.pos_of_ne_zero hk, (if_pos rfl).symm,
      hl.congr fun x => ite_congr rfl (fun _ => rfl) fun e => (if_neg e).symm⟩

theorem findCounter_none {cs : List Counter} {d : Nat} (h : findCounter cs d = none) :
    ∀ x ∈ cs, x.d ≠ d := by
  intro x hx
  exact ne_of_beq_false (List.findIdx?_eq_none_iff.1 h x hx)

theorem findCounter_some {cs : List Counter} {d i : Nat} (h : findCounter cs d = some i) :
    ∃ a c b, cs = a ++ c :: b ∧ a.length = i ∧ c.d = d := by
  obtain ⟨hi, hp, _⟩ := List.findIdx?_eq_some_iff_getElem.1 h
  refine ⟨cs.take i, cs[i], cs.drop (i + 1), ?_, ?_, eq_of_beq hp⟩
  · rw [List.getElem_cons_drop hi, List.take_append_drop]
  · exact List.length_take_of_le (Nat.le_of_lt hi)

theorem getElem?_split {α : Type} (a b : List α) (c : α) : (a ++ c :: b)[a.length]? = some c := by
  rw [List.getElem?_append_right (Nat.le_refl _), Nat.sub_self]; rfl

theorem set_getElem? {α : Type} {l : List α} {i : Nat} {x : α} (h : l[i]? = some x) : l.set i x = l := by
  obtain ⟨hi, rfl⟩ := List.getElem?_eq_some_iff.1 h
  exact List.set_getElem_self hi

theorem set_split {α : Type} (a b : List α) (c y : α) : (a ++ c :: b).set a.length y = a ++ y :: b := by
  rw [List.set_append_right _ _ (Nat.le_refl _), Nat.sub_self]; rfl

/-- the swap-remove of Go (`cs[i] = cs[last]; cs = cs[:last]`) removes entry `i`, up to order -/
theorem swapRemove_perm {α : Type} (a b : List α) (c l : α)
    (hl : (a ++ c :: b).getLast? = some l) :
    ((a ++ c :: b).set a.length l).dropLast.Perm (a ++ b) := by
  rw [set_split, List.dropLast_append_cons]
  apply List.Perm.append_left
  rcases List.eq_nil_or_concat b with rfl | ⟨ys, z, rfl⟩
  · exact List.Perm.refl _
  · rw [List.concat_eq_append] at hl ⊢
    rw [← List.cons_append, ← List.append_assoc, List.getLast?_concat] at hl
    cases hl
    rw [← List.cons_append, List.dropLast_concat]
    exact (List.perm_append_singleton _ _).symm

theorem decCounter_perm {a b : List Counter} {c : Counter}
    (hf : findCounter (a ++ c :: b) c.d = some a.length) :
    (decCounter (a ++ c :: b) c.d).Perm
      (if c.cnt - 1 = 0 then a ++ b else a ++ { c with cnt := c.cnt - 1 } :: b) := by
  unfold decCounter
  rw [hf]
  simp only [getElem?_split]
  by_cases h0 : c.cnt - 1 = 0
  · rw [if_pos h0, if_pos h0]
    cases hl : (a ++ c :: b).getLast? with
    | none => exact absurd (List.getLast?_eq_none_iff.1 hl) (List.append_ne_nil_of_right_ne_nil _ (List.cons_ne_nil _ _))
    | some l => exact swapRemove_perm a b c l hl
  · rw [if_neg h0, if_neg h0, set_split]

theorem incCounter_found {a b : List Counter} {c : Counter}
    (hf : findCounter (a ++ c :: b) c.d = some a.length) :
    incCounter (a ++ c :: b) c.d = a ++ { c with cnt := c.cnt + 1 } :: b := by
  unfold incCounter
  rw [hf]
  simp only [getElem?_split, set_split]

/-- `g` is the recount after one vote for `d` has gone -/
theorem dec_good {cs : List Counter} {f g : Nat → Nat} {d : Nat} (h : Good cs f)
    (hfg : ∀ x, f x = g x + if d = x then 1 else 0) : Good (decCounter cs d) g := by
  obtain ⟨c0, hc0, e0⟩ := h.complete d (by rw [hfg, if_pos rfl]; exact Nat.succ_pos _)
  cases hf : findCounter cs d with
  | none => exact absurd e0 (findCounter_none hf c0 hc0)
  | some i =>
    obtain ⟨a, c, b, rfl, rfl, rfl⟩ := findCounter_some hf
    refine ((h.replace (c.cnt - 1)).perm (decCounter_perm hf)).congr fun x => ?_
    by_cases e : c.d = x
    · rw [if_pos e.symm, (h.sound c (List.mem_append_right _ List.mem_cons_self)).2, hfg, if_pos rfl, e]; rfl
    · rw [if_neg (Ne.symm e), hfg, if_neg e]; rfl

/-- `g` is the recount after one more vote for `d` -/
theorem inc_good {cs : List Counter} {f g : Nat → Nat} {d : Nat} (h : Good cs f)
    (hfg : ∀ x, g x = f x + if d = x then 1 else 0) : Good (incCounter cs d) g := by
  cases hf : findCounter cs d with
  | none =>
    have hnone := findCounter_none hf
    have hfd : f d = 0 := by
      apply Nat.eq_zero_of_not_pos
      intro hpos
      obtain ⟨c, hc, e⟩ := h.complete d hpos
      exact hnone c hc e
    unfold incCounter
    rw [hf]
    refine (good_cons.2 ⟨hnone, Nat.one_pos, ?_, h.congr fun x => ?_⟩).perm (List.perm_append_singleton _ _)
    · rw [hfg, if_pos rfl, hfd]
    · by_cases e : x = d
      · rw [if_pos e, e, hfd]
      · rw [if_neg e, hfg, if_neg (Ne.symm e)]; rfl
  | some i =>
    obtain ⟨a, c, b, rfl, rfl, rfl⟩ := findCounter_some hf
    have := h.replace (c.cnt + 1)
    rw [if_neg (Nat.succ_ne_zero _)] at this
    rw [incCounter_found hf]
    refine this.congr fun x => ?_
    by_cases e : c.d = x
    · rw [if_pos e.symm, hfg, if_pos e, ← e, (h.sound c (List.mem_append_right _ List.mem_cons_self)).2]
    · rw [if_neg (Ne.symm e), hfg, if_neg e]; rfl

theorem argmax_spec (cs : List Counter) (i : Nat) (mi : Option Nat) (mx : Nat) {I : Option Nat} {M : Nat} :
    argmaxLoop cs i mi mx = (I, M) →
    (∀ c ∈ cs, c.cnt ≤ M) ∧
    ((M = mx ∧ I = mi) ∨ (mx < M ∧ ∃ j c, I = some (i + j) ∧ cs[j]? = some c ∧ c.cnt = M)) := by
  fun_induction argmaxLoop cs i mi mx with
  | case1 => rintro ⟨⟩; exact ⟨List.forall_mem_nil _, Or.inl ⟨rfl, rfl⟩⟩
  | case2 c cs i mi mx hc ih =>
    intro h
    obtain ⟨h2, h3⟩ := ih h
    have hle : c.cnt ≤ M := h3.elim (fun e => Nat.le_of_eq e.1.symm) (fun e => Nat.le_of_lt e.1)
    refine ⟨List.forall_mem_cons.2 ⟨hle, h2⟩, Or.inr ⟨Nat.lt_of_lt_of_le hc hle, ?_⟩⟩
    rcases h3 with ⟨e1, e2⟩ | ⟨_, j, c', e1, e2, e3⟩
    · exact ⟨0, c, e2, rfl, e1.symm⟩
    · exact ⟨j + 1, c', by rw [e1, Nat.add_right_comm, Nat.add_assoc], e2, e3⟩
  | case3 c cs i mi mx hc ih =>
    intro h
    obtain ⟨h2, h3⟩ := ih h
    have hle : mx ≤ M := h3.elim (fun e => Nat.le_of_eq e.1.symm) (fun e => Nat.le_of_lt e.1)
    refine ⟨List.forall_mem_cons.2 ⟨Nat.le_trans (Nat.le_of_not_gt hc) hle, h2⟩, ?_⟩
    rcases h3 with e | ⟨e0, j, c', e1, e2, e3⟩
    · exact Or.inl e
    · exact Or.inr ⟨e0, j + 1, c', by rw [e1, Nat.add_right_comm, Nat.add_assoc], e2, e3⟩

/-- the argmax loop with the start values `getDecision` gives it -/
def amax (cs : List Counter) : Option Nat × Nat := argmaxLoop cs 0 none 0

theorem amax_spec (cs : List Counter) :
    (∀ c ∈ cs, c.cnt ≤ (amax cs).2) ∧
    (((amax cs).2 = 0 ∧ (amax cs).1 = none) ∨
     (0 < (amax cs).2 ∧ ∃ j c, (amax cs).1 = some j ∧ cs[j]? = some c ∧ c.cnt = (amax cs).2)) := by
  simpa only [Nat.zero_add] using argmax_spec cs 0 none 0 (I := (amax cs).1) (M := (amax cs).2) rfl

theorem countSlots_le (l : List (Option Vote)) (d : Nat) : countSlots l d ≤ l.length :=
  List.countP_le_length

/-- two +2/3 majorities share a slot, and a slot holds one vote -/
theorem countSlots_unique (l : List (Option Vote)) {d d' : Nat}
    (h : 3 * countSlots l d > 2 * l.length) (h' : 3 * countSlots l d' > 2 * l.length) : d = d' := by
  obtain ⟨o, _, ho⟩ := List.countP_pos_iff.1
    (Nat.pos_of_mul_pos_left (Nat.zero_lt_of_lt (quorum_overlap l _ _ h h')))
  cases o with
  | none => cases ho
  | some v => exact (eq_of_beq (Bool.and_eq_true _ _ ▸ ho).1).symm.trans (eq_of_beq (Bool.and_eq_true _ _ ▸ ho).2)

/-- Slot `i` counts for what is written into it: the count is that of the list with slot `i`
    emptied (`e`), plus one if `x` counts. -/
theorem countP_set_hole {α : Type} (p : α → Bool) {e : α} (he : p e = false) {l : List α} {i : Nat}
    (hi : i < l.length) (x : α) :
    (l.set i x).countP p = (l.set i e).countP p + if p x then 1 else 0 := by
  rw [← List.set_set e (b := x), List.countP_set (Nat.lt_of_lt_of_eq hi List.length_set.symm),
    List.getElem_set_self, he, if_neg Bool.false_ne_true, Nat.sub_zero]

theorem countSlots_set {l : List (Option Vote)} {i : Nat} (hi : i < l.length) (v : Vote) (d : Nat) :
    countSlots (l.set i (some v)) d = countSlots (l.set i none) d + if v.d = d then 1 else 0 := by
  refine (countP_set_hole (e := none) _ rfl hi (some v)).trans ?_
  simp only [countSlots, beq_iff_eq]

theorem filled_set {l : List (Option Vote)} {i : Nat} (hi : i < l.length) (v : Vote) :
    filled (l.set i (some v)) = filled (l.set i none) + 1 :=
  countP_set_hole (fun o : Option Vote => o.isSome) rfl hi (some v)

structure Inv (s : VS) : Prop where
  good : Good s.counters (countSlots s.slots)
  count : s.count = filled s.slots
  cache : s.maxIndex = none ∨ s.maxIndex = (amax s.counters).1
  mask : s.mask = s.slots.map (·.isSome)

/-- the decision recomputed from the counters, ignoring the cache -/
def pureDec (cs : List Counter) (n : Nat) : Dec :=
  if (amax cs).2 > n * 2 / 3 then
    match (amax cs).1 with
    | some i => match cs[i]? with
      | some c => Dec.decided c.d
      | none => Dec.panic
    | none => Dec.panic
  else Dec.no

theorem pureDec_spec {cs : List Counter} {f : Nat → Nat} {n : Nat} (hg : Good cs f)
    (h2 : ∀ d d', 3 * f d > 2 * n → 3 * f d' > 2 * n → d = d') :
    pureDec cs n ≠ Dec.panic ∧ ∀ d, (pureDec cs n = Dec.decided d ↔ 3 * f d > 2 * n) := by
  obtain ⟨hle, hs⟩ := amax_spec cs
  unfold pureDec
  by_cases ht : (amax cs).2 > n * 2 / 3
  · rw [if_pos ht]
    rcases hs with ⟨e, _⟩ | ⟨_, j, c, e1, e2, e3⟩
    · rw [e] at ht; cases ht
    · simp only [e1, e2]
      rw [← e3, (hg.sound c (List.mem_of_getElem? e2)).2, over_two_thirds_iff] at ht
      exact ⟨Dec.noConfusion, fun d => ⟨fun h => by cases h; exact ht, fun h => by rw [h2 c.d d ht h]⟩⟩
  · rw [if_neg ht]
    refine ⟨Dec.noConfusion, fun d => ⟨Dec.noConfusion, fun h => ?_⟩⟩
    -- a digest with +2/3 has a counter, and no counter is above the threshold
    obtain ⟨c, hc, rfl⟩ := hg.complete d (Nat.pos_of_mul_pos_left (Nat.zero_lt_of_lt h))
    rw [← (hg.sound c hc).2, ← over_two_thirds_iff] at h
    exact absurd (Nat.lt_of_lt_of_le h (hle c hc)) ht

theorem getDecision_eq (s : VS) (h : s.maxIndex = none ∨ s.maxIndex = (amax s.counters).1) :
    getDecision s = ({ s with maxIndex := (amax s.counters).1 }, pureDec s.counters s.slots.length) := by
  unfold getDecision pureDec
  cases hm : s.maxIndex with
  | none =>
    unfold amax
    generalize argmaxLoop s.counters 0 none 0 = r
    obtain ⟨I, M⟩ := r
    dsimp only
    by_cases ht : M > s.slots.length * 2 / 3
    · rw [if_pos ht, if_pos ht]
      cases I with
      | none => rfl
      | some i => dsimp only; generalize s.counters[i]? = oc; cases oc <;> rfl
    · rw [if_neg ht, if_neg ht]
  | some i =>
    have hi : (amax s.counters).1 = some i := by
      rcases h with h | h
      · rw [hm] at h; cases h
      · rw [← h, hm]
    obtain ⟨_, ⟨_, e⟩ | ⟨_, j, c, e1, e2, e3⟩⟩ := amax_spec s.counters
    · rw [e] at hi; cases hi
    · cases hi.symm.trans e1
      have hs : ({ s with maxIndex := some i } : VS) = s := by rw [← hm]
      simp only [hi, e2, ← e3, hs]
      by_cases ht : c.cnt > s.slots.length * 2 / 3
      · rw [if_pos ht, if_pos ht]
      · rw [if_neg ht, if_neg ht]

theorem inv_new (n : Nat) : Inv (C04.new n) := by
  refine ⟨⟨List.nodup_nil, List.forall_mem_nil _, fun d hd => ?_⟩, ?_, Or.inl rfl, ?_⟩
  · rw [show (C04.new n).slots = List.replicate n none from rfl, countSlots, List.countP_replicate] at hd
    exact absurd hd (Nat.lt_irrefl 0)
  · exact (List.countP_replicate (p := fun o : Option Vote => o.isSome) (a := none) (n := n)).symm
  · show List.replicate n false = (List.replicate n none).map _
    rw [List.map_replicate]; rfl

/-- `place` empties slot `i` (decrementing for a vote it held) and fills it with `v`. -/
theorem inv_place {s : VS} (h : Inv s) (i : Nat) (v : Vote) (old : Option Vote)
    (hold : s.slots[i]? = some old) : Inv (place s i v old) := by
  have hmask : (place s i v old).mask = (place s i v old).slots.map (·.isSome) := by
    show s.mask.set i true = (s.slots.set i (some v)).map _
    rw [h.mask, List.map_set]; rfl
  have hi := (List.getElem?_eq_some_iff.1 hold).1
  have hg := h.good
  have hc := h.count
  rw [← set_getElem? hold] at hg hc
  cases old with
  | none =>
    exact ⟨inc_good hg (countSlots_set hi v), (congrArg (· + 1) hc).trans (filled_set hi v).symm, Or.inl rfl, hmask⟩
  | some o =>
    refine ⟨inc_good (dec_good hg (countSlots_set hi o)) (countSlots_set hi v), ?_, Or.inl rfl, hmask⟩
    show s.count - 1 + 1 = filled (s.slots.set i (some v))
    rw [hc, filled_set hi o, filled_set hi v]; rfl

theorem decision_spec {s : VS} (h : Inv s) :
    decision s ≠ Dec.panic ∧
    ∀ d, (decision s = Dec.decided d ↔ 3 * countSlots s.slots d > 2 * s.slots.length) := by
  unfold decision
  rw [getDecision_eq s h.cache]
  exact pureDec_spec h.good fun _ _ => countSlots_unique s.slots

/-- the decision query touches the cache only -/
theorem inv_getDecision {s : VS} (h : Inv s) :
    Inv (getDecision s).1 ∧ (getDecision s).1.slots = s.slots := by
  rw [getDecision_eq s h.cache]
  exact ⟨⟨h.good, h.count, Or.inr rfl, h.mask⟩, rfl⟩

/-- The results of `add`: a panic for a slot out of range; refused (as a repetition, or by the
    sticky rule); or stored in a slot that is empty or holds a vote not for the decision. `s'` is
    `s` as it is or as the decision query leaves it. -/
theorem add_cases (P : Option (VS × Bool) → Prop) {s : VS} {i : Nat} {v : Vote} (h : Inv s)
    (hout : s.slots[i]? = none → P none)
    (hrefuse : ∀ s', Inv s' → s'.slots = s.slots → P (some (s', false)))
    (hput : ∀ s' old, Inv s' → s'.slots = s.slots → s.slots[i]? = some old →
      (∀ o, old = some o → decision s ≠ Dec.decided o.d) → P (some (place s' i v old, true))) :
    P (add s i v) := by
  have hq := inv_getDecision h
  fun_cases add s i v with
  | case1 hs => exact hout hs
  | case2 hs => exact hput _ _ h rfl hs nofun
  | case3 => exact hrefuse _ h rfl
  | case4 _ _ _ r hr => exact absurd hr (decision_spec h).1
  | case5 => exact hrefuse _ hq.1 hq.2
  | case6 _ hs _ r rdd hr hne =>
    exact hput _ _ hq.1 hq.2 hs fun _ e hd => hne (Dec.decided.inj (hr.symm.trans (Option.some.inj e ▸ hd)))
  | case7 _ hs _ r hr => exact hput _ _ hq.1 hq.2 hs fun _ _ hd => Dec.noConfusion (hr.symm.trans hd)

theorem add_slots {s : VS} {i : Nat} {v : Vote} {r : VS × Bool} (h : Inv s)
    (ha : add s i v = some r) :
    (r.2 = false → r.1.slots = s.slots) ∧ (r.2 = true → r.1.slots = s.slots.set i (some v)) := by
  refine add_cases (∀ r ∈ ·,
    (r.2 = false → r.1.slots = s.slots) ∧ (r.2 = true → r.1.slots = s.slots.set i (some v))) h ?_ ?_ ?_ r ha
  · exact fun _ => nofun
  · exact fun _ _ e r hr => Option.some.inj hr ▸ ⟨fun _ => e, nofun⟩
  · exact fun _ _ _ e _ _ r hr => Option.some.inj hr ▸ ⟨nofun, fun _ => congrArg (·.set i (some v)) e⟩

/-- `support` speaks only of a digest that has +2/3 in `s`: the sticky rule keeps a vote for the decision from
    being replaced; the count of any other digest may fall. -/
structure Later (s t : VS) : Prop where
  inv : Inv t
  length : t.slots.length = s.slots.length
  support : ∀ d, 3 * countSlots s.slots d > 2 * s.slots.length →
    countSlots s.slots d ≤ countSlots t.slots d

theorem Later.of_slots {s t : VS} (h : Inv t) (e : t.slots = s.slots) : Later s t :=
  ⟨h, congrArg _ e, fun _ _ => Nat.le_of_eq (congrArg (countSlots · _) e.symm)⟩

theorem Later.trans {s t u : VS} (h1 : Later s t) (h2 : Later t u) : Later s u := by
  refine ⟨h2.inv, h2.length.trans h1.length, fun d hd => ?_⟩
  have := h1.support d hd
  refine Nat.le_trans this (h2.support d ?_)
  rw [h1.length]
  exact Nat.lt_of_lt_of_le hd (Nat.mul_le_mul_left 3 this)

end Goloop.C04.Proofs

namespace Goloop.C04
/-- what callers do with a vote set: add a vote to a slot, or ask for the +2/3 decision
    (which updates the `maxIndex` cache). -/
inductive Op where
  | add (i : Nat) (v : Vote)
  | get
deriving Repr

def stepOp (s : VS) : Op → VS
  | Op.add i v => match add s i v with
    | some r => r.1
    | none => s          -- Go panicked (slot out of range): nothing was modified
  | Op.get => (getDecision s).1

def run (s : VS) : List Op → VS
  | [] => s
  | op :: rest => run (stepOp s op) rest

def Reachable (n : Nat) (s : VS) : Prop := ∃ ops, s = run (C04.new n) ops
end Goloop.C04

namespace Goloop.C04.Proofs
open Goloop.C04

theorem step_later {s : VS} (h : Inv s) (op : Op) : Later s (stepOp s op) := by
  cases op with
  | get => exact Later.of_slots (inv_getDecision h).1 (inv_getDecision h).2
  | add i v =>
    refine add_cases (fun x => Later s (match x with | some r => r.1 | none => s)) h ?_ ?_ ?_
    · exact fun _ => Later.of_slots h rfl
    · exact fun _ hi e => Later.of_slots hi e
    · intro s' old hi' e hs hdec
      have hi := (List.getElem?_eq_some_iff.1 hs).1
      refine ⟨inv_place hi' i v old (e ▸ hs), ?_, fun d hd => ?_⟩
      · show (s'.slots.set i (some v)).length = _
        rw [List.length_set, e]
      -- the overwritten slot did not count for `d`: a vote for the decision is not replaced
      have h0 : countSlots s.slots d = countSlots (s.slots.set i none) d := by
        cases old with
        | none => rw [set_getElem? hs]
        | some o =>
          have := countSlots_set hi o d
          rwa [set_getElem? hs, if_neg fun (eo : o.d = d) => hdec o rfl (eo ▸ ((decision_spec h).2 d).2 hd),
            Nat.add_zero] at this
      show _ ≤ countSlots (s'.slots.set i (some v)) d
      rw [e, h0, countSlots_set hi v d]
      exact Nat.le_add_right _ _

theorem run_later {s : VS} (h : Inv s) (ops : List Op) : Later s (run s ops) := by
  induction ops generalizing s with
  | nil => exact Later.of_slots h rfl
  | cons op rest ih => exact (step_later h op).trans (ih (step_later h op).inv)

theorem run_append (s : VS) (a b : List Op) : run s (a ++ b) = run (run s a) b := by
  induction a generalizing s with
  | nil => rfl
  | cons op rest ih => exact ih (stepOp s op)

theorem reachable_run {n : Nat} {s : VS} (h : Reachable n s) (ops : List Op) :
    Reachable n (run s ops) := by
  obtain ⟨ops0, rfl⟩ := h
  exact ⟨ops0 ++ ops, (run_append _ _ _).symm⟩

theorem reachable_inv {n : Nat} {s : VS} (h : Reachable n s) : Inv s ∧ s.slots.length = n := by
  obtain ⟨ops, rfl⟩ := h
  have := run_later (inv_new n) ops
  exact ⟨this.inv, this.length.trans List.length_replicate⟩

theorem addAll_eq_run (s : VS) (adds : List (Nat × Vote)) :
    addAll s adds = run s (adds.map fun a => Op.add a.1 a.2) := by
  fun_induction addAll s adds with
  | case1 => rfl
  | case2 s i v rest s' _ h ih => rw [List.map_cons, run, stepOp, h]; exact ih
  | case3 s i v rest h ih => rw [List.map_cons, run, stepOp, h]; exact ih

theorem inv_addAll {s : VS} (h : Inv s) (ops : List (Nat × Vote)) : Inv (addAll s ops) :=
  addAll_eq_run s ops ▸ (run_later h _).inv

theorem addAll_length {s : VS} (h : Inv s) (ops : List (Nat × Vote)) :
    (addAll s ops).slots.length = s.slots.length :=
  addAll_eq_run s ops ▸ (run_later h _).length

theorem addAll_mono {s : VS} (h : Inv s) (d : Nat)
    (hmaj : 3 * countSlots s.slots d > 2 * s.slots.length) (ops : List (Nat × Vote)) :
    (addAll s ops).slots.length = s.slots.length ∧
      countSlots s.slots d ≤ countSlots (addAll s ops).slots d :=
  addAll_eq_run s ops ▸ ⟨(run_later h _).length, (run_later h _).support d hmaj⟩

end Goloop.C04.Proofs
