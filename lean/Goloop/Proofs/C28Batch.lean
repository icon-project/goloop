/-
  Proofs/C28Batch: the batch definition of the hexary merkle root (bottom-up, level by level), the
  closed form `rootsOf` of the accumulator's roots, and what `Add` and `Finalize` do on it.
-/
import Goloop.Proofs.C28
namespace Goloop.C28

def All32 (s : List Bytes) : Prop := ∀ x ∈ s, x.length = 32

theorem All32.nil : All32 [] := nofun
theorem All32.append {a b} (ha : All32 a) (hb : All32 b) : All32 (a ++ b) :=
  List.forall_mem_append.mpr ⟨ha, hb⟩

theorem All32.take {s} (h : All32 s) (n : Nat) : All32 (s.take n) :=
  fun x hx => h x (List.mem_of_mem_take hx)
theorem All32.drop {s} (h : All32 s) (n : Nat) : All32 (s.drop n) :=
  fun x hx => h x (List.mem_of_mem_drop hx)
theorem All32.single {x : Bytes} (h : x.length = 32) : All32 [x] :=
  List.forall_mem_singleton.mpr h

theorem flatten_length {s : List Bytes} (h : All32 s) : s.flatten.length = 32 * s.length := by
  induction s with
  | nil => rfl
  | cons x xs ih =>
    rw [List.flatten_cons, List.length_append, h x List.mem_cons_self, ih fun y hy => h y (List.mem_cons_of_mem _ hy),
      List.length_cons, Nat.mul_succ, Nat.add_comm]

theorem flatten_take_drop {s : List Bytes} (h : All32 s) (d : Nat) :
    s.flatten.take (32 * d) = (s.take d).flatten ∧ s.flatten.drop (32 * d) = (s.drop d).flatten := by
  induction s generalizing d with
  | nil => simp
  | cons x xs ih =>
    have hx : x.length = 32 := h x List.mem_cons_self
    cases d with
    | zero => exact ⟨rfl, rfl⟩
    | succ d =>
      obtain ⟨i1, i2⟩ := ih (fun y hy => h y (List.mem_cons_of_mem _ hy)) d
      -- `32 * (d + 1)` written as `x.length + 32 * d`
      rw [List.flatten_cons, List.take_succ_cons, List.drop_succ_cons, List.flatten_cons, Nat.mul_succ, Nat.add_comm,
        ← hx, List.take_length_add_append, List.drop_length_add_append, hx, i1, i2]
      exact ⟨rfl, rfl⟩

theorem nodeLen_flatten {s : List Bytes} (h : All32 s) : nodeLen s.flatten = s.length := by
  simp [nodeLen, hashLen, flatten_length h]

theorem nodeGet_flatten {s : List Bytes} (h : All32 s) (i : Nat) : nodeGet s.flatten i = s[i]? := by
  rw [nodeGet, nodeLen_flatten h]
  by_cases hi : i < s.length
  · rw [if_pos hi, hashLen, Nat.mul_comm, (flatten_take_drop h i).2, List.drop_eq_getElem_cons hi, List.flatten_cons,
      List.take_left' (h _ (List.getElem_mem hi)), List.getElem?_eq_getElem hi]
  · rw [if_neg hi, List.getElem?_eq_none (Nat.le_of_not_lt hi)]

/-- the `j`-th group of 16 consecutive hashes of a level -/
def chunk (s : List Bytes) (j : Nat) : List Bytes := (s.drop (16 * j)).take 16

/-- the node made of that group: its concatenated hashes -/
def node (s : List Bytes) (j : Nat) : Bytes := (chunk s j).flatten

/-- next level: the hash of every group of 16, the last group may be shorter -/
def levelUp (H : Bytes → Bytes) (s : List Bytes) : List Bytes :=
  (List.range ((s.length + 15) / 16)).map fun j => H (node s j)

/-- batch merkle root: a single hash is its own root; otherwise hash the groups of 16 and
    repeat on the next level. `none` for the empty sequence. -/
def batch (H : Bytes → Bytes) (s : List Bytes) : Option Bytes :=
  if s.length ≤ 1 then s.head? else batch H (levelUp H s)
termination_by s.length
decreasing_by simp [levelUp]; omega

/-- hashes of the *complete* groups only -/
def up (H : Bytes → Bytes) (s : List Bytes) : List Bytes :=
  (List.range (s.length / 16)).map fun j => H (node s j)

/-- the hashes after the last complete group -/
def rem16 (s : List Bytes) : List Bytes := s.drop (16 * (s.length / 16))

/-- the accumulator roots after the hashes `s` of one level, in this order, have come in -/
def rootsOf (H : Bytes → Bytes) (s : List Bytes) : List Bytes :=
  if s = [] then [] else (rem16 s).flatten :: rootsOf H (up H s)
termination_by s.length
decreasing_by
  simp [up]
  have : s.length ≠ 0 := by intro h; apply ‹¬ s = []›; exact List.length_eq_zero_iff.mp h
  omega

theorem up_length (H : Bytes → Bytes) (s : List Bytes) : (up H s).length = s.length / 16 := by simp [up]
theorem levelUp_length (H : Bytes → Bytes) (s : List Bytes) : (levelUp H s).length = (s.length + 15) / 16 := by
  simp [levelUp]
theorem rem16_length (s : List Bytes) : (rem16 s).length = s.length % 16 := by
  rw [rem16, List.length_drop, ← Nat.mod_def]

theorem up_all32 (H : Bytes → Bytes) (hlen : ∀ x, (H x).length = 32) (s : List Bytes) : All32 (up H s) := by
  intro x hx; obtain ⟨j, _, rfl⟩ := List.mem_map.mp hx; exact hlen _
theorem levelUp_all32 (H : Bytes → Bytes) (hlen : ∀ x, (H x).length = 32) (s : List Bytes) :
    All32 (levelUp H s) := by
  intro x hx; obtain ⟨j, _, rfl⟩ := List.mem_map.mp hx; exact hlen _

theorem nodeAdd_flatten {r : List Bytes} (hr : All32 r) (hl : r.length < 16) {y : Bytes} (hy : y.length = 32) :
    nodeAdd r.flatten y = some (r ++ [y]).flatten := by
  rw [nodeAdd_eq hy (by rw [flatten_length hr]; omega)]; simp

theorem nodeFull_flatten {r : List Bytes} (hr : All32 r) : nodeFull r.flatten = true ↔ r.length = 16 := by
  rw [nodeFull_iff, flatten_length hr]; omega

theorem flatten_ne_nil {r : List Bytes} (hr : All32 r) (hne : r ≠ []) : r.flatten ≠ [] := by
  intro h
  have := flatten_length hr
  rw [h, List.length_nil] at this
  exact hne (List.eq_nil_of_length_eq_zero (by omega))

theorem rem16_all32 {s : List Bytes} (hs : All32 s) : All32 (rem16 s) := hs.drop _

theorem rem16_lt (s : List Bytes) : (rem16 s).length < 16 := by
  rw [rem16_length]; exact Nat.mod_lt _ (by decide)

theorem node_append_left (s t : List Bytes) {j : Nat} (h : j < s.length / 16) :
    node (s ++ t) j = node s j := by
  have hle : 16 * j + 16 ≤ s.length := by omega
  unfold node chunk
  rw [List.drop_append_of_le_length (Nat.le_of_add_right_le hle),
    List.take_append_of_le_length (by rw [List.length_drop]; exact Nat.le_sub_of_add_le' hle)]

theorem length_split (s e : List Bytes) :
    (s ++ e).length = 16 * (s.length / 16) + (rem16 s ++ e).length := by
  rw [List.length_append, List.length_append, rem16_length, ← Nat.add_assoc, Nat.div_add_mod]

/-- beyond the complete groups of `s`, the groups of `s ++ e` are those of `rem16 s ++ e` -/
theorem node_append_right (s e : List Bytes) (j : Nat) :
    node (s ++ e) (s.length / 16 + j) = node (rem16 s ++ e) j := by
  unfold node chunk rem16
  rw [Nat.mul_add, ← List.drop_drop, List.drop_append_of_le_length (Nat.mul_div_le _ _)]

/-! Appending `e` to a level keeps its complete groups and otherwise only sees `rem16 s ++ e`: the three
    level operators, without side conditions. -/

theorem div16_append (s e : List Bytes) :
    (s ++ e).length / 16 = s.length / 16 + (rem16 s ++ e).length / 16 := by
  rw [length_split s e, Nat.mul_add_div (by decide)]

theorem ceil16_append (s e : List Bytes) :
    ((s ++ e).length + 15) / 16 = s.length / 16 + ((rem16 s ++ e).length + 15) / 16 := by
  rw [length_split s e, Nat.add_assoc, Nat.mul_add_div (by decide)]

theorem map_node_append (H : Bytes → Bytes) (s e : List Bytes) (m : Nat) :
    (List.range (s.length / 16 + m)).map (fun j => H (node (s ++ e) j)) =
      up H s ++ (List.range m).map fun j => H (node (rem16 s ++ e) j) := by
  rw [List.range_add, List.map_append, List.map_map]
  congr 1
  · exact List.map_congr_left fun j hj => by rw [node_append_left s e (List.mem_range.mp hj)]
  · exact List.map_congr_left fun j _ => congrArg H (node_append_right s e j)

theorem up_append (H : Bytes → Bytes) (s e : List Bytes) : up H (s ++ e) = up H s ++ up H (rem16 s ++ e) := by
  rw [up, div16_append]; exact map_node_append H s e _

theorem levelUp_append (H : Bytes → Bytes) (s e : List Bytes) :
    levelUp H (s ++ e) = up H s ++ levelUp H (rem16 s ++ e) := by
  rw [levelUp, ceil16_append]; exact map_node_append H s e _

theorem rem16_append (s e : List Bytes) : rem16 (s ++ e) = rem16 (rem16 s ++ e) := by
  rw [rem16, div16_append, Nat.mul_add, ← List.drop_drop,
    List.drop_append_of_le_length (Nat.mul_div_le _ _)]
  rfl

theorem node_zero {g : List Bytes} (h : g.length ≤ 16) : node g 0 = g.flatten := by
  rw [node, chunk, Nat.mul_zero, List.drop_zero, List.take_of_length_le h]

theorem up_short (H : Bytes → Bytes) {g : List Bytes} (h : g.length < 16) : up H g = [] := by
  rw [up, Nat.div_eq_of_lt h]; rfl

theorem up_full (H : Bytes → Bytes) {g : List Bytes} (h : g.length = 16) : up H g = [H g.flatten] := by
  rw [up, h, ← node_zero (Nat.le_of_eq h)]; rfl

theorem rem16_short {g : List Bytes} (h : g.length < 16) : rem16 g = g := by
  rw [rem16, Nat.div_eq_of_lt h]; rfl

theorem rem16_full {g : List Bytes} (h : g.length = 16) : rem16 g = [] := by
  rw [rem16, h]; exact List.drop_of_length_le (Nat.le_of_eq h)

theorem levelUp_short (H : Bytes → Bytes) {g : List Bytes} (h0 : 0 < g.length) (h : g.length ≤ 16) :
    levelUp H g = [H g.flatten] := by
  rw [levelUp, Nat.div_eq_of_lt_le (k := 1) (Nat.add_le_add_right h0 15) (Nat.add_lt_add_right (Nat.lt_succ_of_le h) 15),
    ← node_zero h]; rfl

theorem rootsOf_nil (H : Bytes → Bytes) : rootsOf H [] = [] := by rw [rootsOf]; simp

theorem rootsOf_ne (H : Bytes → Bytes) (s : List Bytes) (h : s ≠ []) :
    rootsOf H s = (rem16 s).flatten :: rootsOf H (up H s) := by rw [rootsOf]; simp [h]

theorem rootsOf_eq_nil {H : Bytes → Bytes} {s : List Bytes} (h : rootsOf H s = []) : s = [] :=
  Decidable.byContradiction fun hs => nomatch (rootsOf_ne H s hs).symm.trans h

theorem rootsOf_single (H : Bytes → Bytes) (x : Bytes) : rootsOf H [x] = [x] := by
  rw [rootsOf_ne H _ (List.cons_ne_nil _ _)]; simp [rem16, up, rootsOf_nil]

theorem rootsOf_nodeLen (H : Bytes → Bytes) (hlen : ∀ x, (H x).length = 32) (s : List Bytes) (hs : All32 s) :
    (rootsOf H s).map nodeLen = digits16 s.length := by
  induction s using rootsOf.induct H with
  | case1 => rw [rootsOf_nil, List.length_nil, digits16]; rfl
  | case2 s hne ih =>
    obtain ⟨k, hk⟩ : ∃ k, s.length = k + 1 := ⟨s.length - 1, by have := List.length_pos_iff.mpr hne; omega⟩
    rw [rootsOf_ne H s hne, List.map_cons, ih (up_all32 H hlen s), nodeLen_flatten (rem16_all32 hs), rem16_length,
      up_length, hk, digits16]

theorem batch_small (H : Bytes → Bytes) (s : List Bytes) (h : s.length ≤ 1) : batch H s = s.head? := by
  rw [batch]; simp [h]

theorem batch_big (H : Bytes → Bytes) (s : List Bytes) (h : 2 ≤ s.length) :
    batch H s = batch H (levelUp H s) := by
  rw [batch, if_neg (by omega)]

/-- levels of complete groups only -/
def U (H : Bytes → Bytes) : List Bytes → Nat → List Bytes
  | s, 0 => s
  | s, i + 1 => U H (up H s) i

/-- levels of the finalised tree -/
def T (H : Bytes → Bytes) : List Bytes → Nat → List Bytes
  | s, 0 => s
  | s, i + 1 => T H (levelUp H s) i

/-- the first `n` groups of the level `s` are bound under their hashes in the bucket -/
def Has (H : Bytes → Bytes) (db : DB) (s : List Bytes) (n : Nat) : Prop := ∀ j, j < n → (H (node s j), node s j) ∈ db

theorem Has.mono {H db db' s n} (h : Has H db s n) (g : Grows H db db') : Has H db' s n := fun j hj => g.mem (h j hj)

theorem Has.append {H db s e m} (h1 : Has H db s (s.length / 16)) (h2 : Has H db (rem16 s ++ e) m) :
    Has H db (s ++ e) (s.length / 16 + m) := by
  intro j hj
  rcases Nat.lt_or_ge j (s.length / 16) with hjl | hge
  · rw [node_append_left s e hjl]; exact h1 j hjl
  · obtain ⟨i, rfl⟩ := Nat.exists_eq_add_of_le hge
    rw [node_append_right]; exact h2 i (Nat.lt_of_add_lt_add_left hj)

theorem Has.one {H} {db : DB} {g} (h : g.length ≤ 16) (hm : (H g.flatten, g.flatten) ∈ db) : Has H db g 1 := by
  intro j hj
  rw [Nat.lt_one_iff.mp hj, node_zero h]; exact hm

/-- the complete groups of every level are in the bucket (full groups written): what `Add`ing `s` has written -/
def FW (H : Bytes → Bytes) (db : DB) (s : List Bytes) : Prop :=
  ∀ i, Has H db (U H s i) (U H s (i + 1)).length

/-- all groups of every level with at least two entries are in the bucket (all written): what `Finalize` leaves -/
def AW (H : Bytes → Bytes) (db : DB) (t : List Bytes) : Prop :=
  ∀ i, 2 ≤ (T H t i).length → Has H db (T H t i) (T H t (i + 1)).length

/-- level 0 and the rest: `U H s (i + 1)` is `U H (up H s) i` by definition (likewise `T` in `AW_iff`) -/
theorem FW_iff {H db s} : FW H db s ↔ Has H db s (s.length / 16) ∧ FW H db (up H s) := by
  rw [← up_length H s]; exact Nat.and_forall_add_one.symm

theorem AW_iff {H db t} : AW H db t ↔
    (2 ≤ t.length → Has H db t ((t.length + 15) / 16)) ∧ AW H db (levelUp H t) := by
  rw [← levelUp_length H t]; exact Nat.and_forall_add_one.symm

theorem FW.mono {H db db' s} (h : FW H db s) (g : Grows H db db') : FW H db' s :=
  fun i => (h i).mono g

theorem U_nil (H : Bytes → Bytes) : ∀ i, U H ([] : List Bytes) i = [] := by
  intro i
  induction i with
  | zero => rfl
  | succ i ih => exact ih

theorem FW.nil (H : Bytes → Bytes) (db : DB) : FW H db [] := by
  intro i j hj
  rw [U_nil] at hj; cases hj

theorem T_length_le_iff (H : Bytes → Bytes) : ∀ (i : Nat) (t : List Bytes) (m : Nat),
    (T H t i).length ≤ m ↔ t.length ≤ m * 16 ^ i := by
  intro i
  induction i with
  | zero => intro t m; rw [Nat.pow_zero, Nat.mul_one]; rfl
  | succ i ih =>
    intro t m
    rw [T, ih, levelUp_length, Nat.pow_succ, ← Nat.mul_assoc]
    omega

theorem AW.small (H : Bytes → Bytes) (db : DB) {t : List Bytes} (ht : t.length ≤ 1) : AW H db t := by
  intro i h2
  have := (T_length_le_iff H i t 1).mpr (Nat.le_trans ht (by rw [Nat.one_mul]; exact Nat.pow_pos (by decide)))
  omega

/-- one `Add` on the roots of `s` gives the roots of `s ++ [x]`, and writes the groups it completes -/
theorem addAt_rootsOf (H : Bytes → Bytes) (hlen : ∀ x, (H x).length = 32) (s : List Bytes) (hs : All32 s)
    (x : Bytes) (hx : x.length = 32) (db : DB) :
    (addAt H (rootsOf H s) x db).1 = rootsOf H (s ++ [x]) ∧ (addAt H (rootsOf H s) x db).2.2 = true ∧
      (FW H db s → FW H (addAt H (rootsOf H s) x db).2.1 (s ++ [x])) := by
  induction s using rootsOf.induct H generalizing x db with
  | case1 =>
    have hnf : ¬ nodeFull ([] ++ x) = true := by rw [nodeFull_iff]; simp [hx]
    rw [rootsOf_nil, List.nil_append, rootsOf_single, addAt, nodeAdd_eq hx (by simp)]
    dsimp only
    rw [if_neg hnf]
    refine ⟨rfl, rfl, fun hfw => FW_iff.mpr ⟨fun j hj => by simp at hj, ?_⟩⟩
    rw [up_short H (g := [x]) (show 1 < 16 by decide)]; exact FW.nil H _
  | case2 s hnil ih =>
    have hr := rem16_all32 hs
    have hrx : All32 (rem16 s ++ [x]) := hr.append (All32.single hx)
    have hgl : (rem16 s ++ [x]).length ≤ 16 := by rw [List.length_append]; exact rem16_lt s
    rw [rootsOf_ne H s hnil, rootsOf_ne H (s ++ [x]) (by simp), rem16_append, up_append, addAt,
      nodeAdd_flatten hr (rem16_lt s) hx]
    dsimp only
    by_cases hfull : (rem16 s ++ [x]).length = 16
    · have hnf := (nodeFull_flatten hrx).mpr hfull
      rw [if_pos hnf, rem16_full hfull, up_full H hfull]
      have hg := @Grows.set H db _ _ (nodeHash_of_nodeFull hnf)
      obtain ⟨i1, i2, i3⟩ := ih (up_all32 H hlen s) (H (rem16 s ++ [x]).flatten) (hlen _)
        (db.set (H (rem16 s ++ [x]).flatten) (rem16 s ++ [x]).flatten)
      refine ⟨by rw [i1]; rfl, i2, fun hfw => ?_⟩
      have hfw' := FW_iff.mp hfw
      have hgr := addAt_grows H (rootsOf H (up H s)) (H (rem16 s ++ [x]).flatten)
        (db.set (H (rem16 s ++ [x]).flatten) (rem16 s ++ [x]).flatten)
      rw [FW_iff, up_append, up_full H hfull, div16_append, hfull]
      exact ⟨(hfw'.1.mono (hg.trans hgr)).append (Has.one hgl (hgr.mem List.mem_cons_self)), i3 (hfw'.2.mono hg)⟩
    · have hlt : (rem16 s ++ [x]).length < 16 := Nat.lt_of_le_of_ne hgl hfull
      rw [if_neg (mt (nodeFull_flatten hrx).mp hfull), rem16_short hlt, up_short H hlt, List.append_nil]
      refine ⟨rfl, rfl, fun hfw => ?_⟩
      rw [FW_iff, up_append, up_short H hlt, List.append_nil, div16_append, Nat.div_eq_of_lt hlt]
      exact ⟨(FW_iff.mp hfw).1.append nofun, (FW_iff.mp hfw).2⟩

theorem addCarry_flatten {r : List Bytes} (hr : All32 r) (hl : r.length < 16) (c : Option Bytes)
    (hc : ∀ x ∈ c, x.length = 32) : addCarry r.flatten c = some (r ++ c.toList).flatten := by
  cases c with
  | none => simp [addCarry]
  | some y => exact nodeAdd_flatten hr hl (hc y rfl)

/-- On the roots of `s`, with incoming carry `c`, the carry loop of `Finalize` returns the batch
    root of `s ++ c`; and if the complete groups of every level were in the bucket before, all
    groups of the finalised tree are in it afterwards. -/
theorem carryFold_rootsOf (H : Bytes → Bytes) (hlen : ∀ x, (H x).length = 32) (s : List Bytes) (hs : All32 s)
    (c : Option Bytes) (hc : ∀ x ∈ c, x.length = 32) (db : DB) :
    ∃ db', carryFold H true (rootsOf H s) c db = some (batch H (s ++ c.toList), db') ∧
      (FW H db s → AW H db' (s ++ c.toList)) := by
  induction s using rootsOf.induct H generalizing c db with
  | case1 =>
    have hcl : ([] ++ c.toList).length ≤ 1 := c.length_toList_le
    refine ⟨db, ?_, fun _ => AW.small H _ hcl⟩
    rw [rootsOf_nil, carryFold, batch_small H _ hcl]
    cases c <;> rfl
  | case2 s hnil ih =>
    by_cases hsm : (s ++ c.toList).length ≤ 1
    · -- a single hash and no carry: it is the root, unhashed
      have hl : s.length + c.toList.length ≤ 1 := List.length_append ▸ hsm
      obtain ⟨a, rfl⟩ := List.length_eq_one_iff.mp
        (Nat.le_antisymm (Nat.le_trans (Nat.le_add_right _ _) hl) (List.length_pos_iff.mpr hnil))
      obtain rfl : c = none := by
        cases c with
        | none => rfl
        | some y => exact absurd hl (Nat.lt_irrefl 1)
      refine ⟨db, ?_, fun _ => AW.small H _ hsm⟩
      rw [rootsOf_single, carryFold_single H (hs a List.mem_cons_self), batch_small H _ hsm]
      rfl
    have hall : All32 (rem16 s ++ c.toList) :=
      (rem16_all32 hs).append fun x hx => hc x (Option.mem_toList.mp hx)
    have hgl : (rem16 s ++ c.toList).length ≤ 16 := by
      rw [List.length_append]; exact Nat.add_le_add (Nat.le_of_lt_succ (rem16_lt s)) c.length_toList_le
    rw [rootsOf_ne H s hnil, carryFold, addCarry_flatten (rem16_all32 hs) (rem16_lt s) c hc]
    dsimp only
    have hcond : ¬ ((rootsOf H (up H s)).isEmpty = true ∧ nodeLen (rem16 s ++ c.toList).flatten = 1) := by
      rintro ⟨h1, h2⟩
      have h0 := up_length H s
      rw [rootsOf_eq_nil (List.isEmpty_iff.mp h1), List.length_nil] at h0
      rw [nodeLen_flatten hall, List.length_append, rem16_length] at h2
      rw [List.length_append] at hsm
      omega
    rw [if_neg hcond, batch_big H _ (Nat.lt_of_not_le hsm), levelUp_append]
    -- `c1`: the carry out of this level, `db1`: the bucket once this level's node is written
    have haw : ∀ (db1 db' : DB) (c1 : Option Bytes), Grows H db db1 → Grows H db1 db' →
        levelUp H (rem16 s ++ c.toList) = c1.toList →
        Has H db1 (rem16 s ++ c.toList) c1.toList.length →
        (FW H db1 (up H s) → AW H db' (up H s ++ c1.toList)) →
        FW H db s → AW H db' (s ++ c.toList) := by
      intro db1 db' c1 g1 g2 hlu hm k hfw
      have hfw' := FW_iff.mp hfw
      rw [AW_iff, levelUp_append, hlu, ceil16_append, ← levelUp_length H (rem16 s ++ c.toList), hlu]
      exact ⟨fun _ => (hfw'.1.mono (g1.trans g2)).append (hm.mono g2), k (hfw'.2.mono g1)⟩
    by_cases hemp : rem16 s ++ c.toList = []
    · obtain ⟨db', h, k⟩ := ih (up_all32 H hlen s) none nofun db
      refine ⟨db', ?_, haw db db' none Grows.refl (carryFold_grows h) (by rw [hemp]; rfl) nofun k⟩
      rw [hemp]; exact h
    · have hh := nodeHash_of_ne_nil H (flatten_ne_nil hall hemp)
      have hlu : levelUp H (rem16 s ++ c.toList) = (some (H (rem16 s ++ c.toList).flatten)).toList :=
        levelUp_short H (List.length_pos_iff.mpr hemp) hgl
      obtain ⟨db', h, k⟩ := ih (up_all32 H hlen s) (some (H (rem16 s ++ c.toList).flatten))
        (by intro x hx; cases hx; exact hlen _)
        (db.set (H (rem16 s ++ c.toList).flatten) (rem16 s ++ c.toList).flatten)
      refine ⟨db', ?_, haw _ db' _ (Grows.set hh) (carryFold_grows h) hlu (Has.one hgl List.mem_cons_self) k⟩
      rw [hlu, ← h, hh]; rfl

theorem finalize_rootsOf (H : Bytes → Bytes) (hlen : ∀ x, (H x).length = 32) (xs : List Bytes) (hx : All32 xs)
    (db : DB) :
    ∃ db', Acc.finalize H { len := xs.length, roots := rootsOf H xs } db = some (⟨batch H xs, xs.length⟩, db') ∧
      Grows H db db' ∧ (FW H db xs → AW H db' xs) := by
  obtain ⟨db', h, haw⟩ := carryFold_rootsOf H hlen xs hx none nofun db
  rw [Option.toList_none, List.append_nil] at h haw
  exact ⟨db', by rw [Acc.finalize, h]; rfl, carryFold_grows h, haw⟩

end Goloop.C28
