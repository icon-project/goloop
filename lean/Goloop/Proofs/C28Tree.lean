/-
  Proofs/C28Tree: the levels of the finalised tree (sizes, height), what `Prove` reads from a
  bucket that holds all their groups, and the core of `SetLen`: path nodes cut to the digits of
  `m` are the roots of the first `m` entries.
-/
import Goloop.Proofs.C28Batch
namespace Goloop.C28

theorem T_succ (H : Bytes → Bytes) : ∀ (i : Nat) (t : List Bytes), T H t (i + 1) = levelUp H (T H t i) := by
  intro i
  induction i with
  | zero => intro t; rfl
  | succ i ih => intro t; exact ih (levelUp H t)

theorem T_all32 (H : Bytes → Bytes) (hlen : ∀ x, (H x).length = 32) (t : List Bytes) (ht : All32 t) :
    ∀ i, All32 (T H t i) := by
  intro i
  cases i with
  | zero => exact ht
  | succ i => rw [T_succ]; exact levelUp_all32 H hlen _

theorem batch_T (H : Bytes → Bytes) : ∀ (L : Nat) (t : List Bytes),
    (∀ i, i < L → 2 ≤ (T H t i).length) → batch H t = batch H (T H t L) := by
  intro L
  induction L with
  | zero => intro t _; rfl
  | succ L ih =>
    intro t h
    rw [batch_big H t (h 0 (by omega))]
    exact ih (levelUp H t) (fun i hi => h (i + 1) (by omega))

theorem top_level (H : Bytes → Bytes) (t : List Bytes) (hpos : 0 < t.length) :
    ∃ r, T H t (levelFromLen t.length) = [r] ∧ batch H t = some r ∧
      ∀ i, i < levelFromLen t.length → 2 ≤ (T H t i).length := by
  have key : ∀ i, (T H t i).length ≤ 1 ↔ levelFromLen t.length ≤ i := fun i => by
    rw [T_length_le_iff, Nat.one_mul, levelFromLen_le_iff hpos]
  have h2 : ∀ i, i < levelFromLen t.length → 2 ≤ (T H t i).length :=
    fun i hi => Nat.lt_of_not_le fun h => Nat.not_le.mpr hi ((key i).mp h)
  have h1 := (key _).mpr (Nat.le_refl _)
  obtain ⟨r, hr⟩ := List.length_eq_one_iff.mp (Nat.le_antisymm h1 (Nat.lt_of_not_le fun h => by
    have := (T_length_le_iff H _ t 0).mp h
    rw [Nat.zero_mul] at this
    exact Nat.not_le.mpr hpos this))
  exact ⟨r, hr, by rw [batch_T H _ t h2, batch_small H _ h1, hr]; rfl, h2⟩

theorem validNode_node {s : List Bytes} (hs : All32 s) (j : Nat) : validNode (node s j) = true := by
  have hc : All32 (chunk s j) := (hs.drop _).take _
  have := flatten_length hc
  have h2 : (chunk s j).length ≤ 16 := List.length_take_le _ _
  simp [validNode, node, this, hashLen, maxNodeBytes, maxChildren]; omega

theorem chunk_get (s : List Bytes) (q d : Nat) (hd : d < 16) : (chunk s q)[d]? = s[16 * q + d]? := by
  rw [chunk, List.getElem?_take_of_lt hd, List.getElem?_drop]

theorem node_get {s : List Bytes} (hs : All32 s) (p : Nat) :
    nodeGet (node s (p / 16)) (p % 16) = s[p]? := by
  rw [node, nodeGet_flatten (s := chunk s _) ((hs.drop _).take _), chunk_get s _ _ (Nat.mod_lt _ (by decide))]
  congr 1; exact Nat.div_add_mod p 16

/-- the proof `Prove` reads for key `k`, top node first -/
def pathNodes (H : Bytes → Bytes) (t : List Bytes) (k : Nat) : Nat → List Bytes
  | 0 => []
  | m + 1 => node (T H t m) (k / 16 ^ (m + 1)) :: pathNodes H t k m

theorem proveLoop_spec (H : Bytes → Bytes) (hlen : ∀ x, (H x).length = 32) (db : DB) (t : List Bytes)
    (ht : All32 t) (hok : AllOk H db) (hnc : NoCollVals H db) (haw : AW H db t) (k : Nat) (hk : k < t.length) :
    ∀ m, (∀ i, i < m → 2 ≤ (T H t i).length) →
      proveLoop db k m (node (T H t m) (k / 16 ^ (m + 1))) = some (pathNodes H t k m) := by
  intro m
  induction m with
  | zero => intro _; rfl
  | succ m ih =>
    intro h2
    have hall := T_all32 H hlen t ht (m + 1)
    have hp : k / 16 ^ (m + 1) < (T H t (m + 1)).length := by
      apply Nat.div_lt_of_lt_mul
      have := (T_length_le_iff H (m + 1) t _).mp (Nat.le_refl _)
      rw [Nat.mul_comm]; exact Nat.lt_of_lt_of_le hk this
    have hq : k / 16 ^ (m + 1 + 1) = k / 16 ^ (m + 1) / 16 := by
      rw [Nat.div_div_eq_div_mul, ← Nat.pow_succ]
    have hdig : digit k (m + 1) = k / 16 ^ (m + 1) % 16 := rfl
    have hget : nodeGet (node (T H t (m + 1)) (k / 16 ^ (m + 1 + 1))) (digit k (m + 1)) =
        some (H (node (T H t m) (k / 16 ^ (m + 1)))) := by
      rw [hq, hdig, node_get hall]
      rw [List.getElem?_eq_getElem hp]
      simp [T_succ, levelUp]
    have hfetch := (fetch_eq_some (cur := some _)).mpr ⟨get_of_mem H hlen db hok hnc (haw m (h2 m (Nat.lt_succ_self m)) _ hp),
      validNode_node (T_all32 H hlen t ht m) _⟩
    rw [proveLoop, hget, hfetch]
    dsimp only
    rw [ih fun i hi => h2 i (Nat.lt_succ_of_lt hi)]
    rfl

theorem pathNodes_reverse (H : Bytes → Bytes) (t : List Bytes) (k : Nat) :
    ∀ m, (pathNodes H t k m).reverse = (List.range m).map (fun i => node (T H t i) (k / 16 ^ (i + 1))) := by
  intro m
  induction m with
  | zero => rfl
  | succ m ih => rw [pathNodes, List.reverse_cons, ih, List.range_succ, List.map_append]; rfl

theorem pathNodes_length (H : Bytes → Bytes) (t : List Bytes) (k m : Nat) : (pathNodes H t k m).length = m := by
  rw [← List.length_reverse, pathNodes_reverse, List.length_map, List.length_range]

theorem pathNodes_drop (H : Bytes → Bytes) (t : List Bytes) (k : Nat) {lvl L : Nat} (h : lvl ≤ L) :
    (pathNodes H t k L).drop (L - lvl) = pathNodes H t k lvl := by
  rw [← List.reverse_inj, List.reverse_drop, pathNodes_reverse, pathNodes_reverse, pathNodes_length, ← List.map_take,
    List.take_range, Nat.sub_sub_self h, Nat.min_eq_left h]

theorem lastNode_pathNodes (H : Bytes → Bytes) (xs : List Bytes) {key L : Nat} {r : Bytes}
    (hr : T H xs L = [r]) (hkey : key < xs.length) :
    lastNode r (pathNodes H xs key L) = node xs (key / 16) := by
  rw [lastNode, ← List.head?_reverse, pathNodes_reverse]
  cases L with
  | zero =>
    obtain rfl : xs = [r] := hr
    obtain rfl : key = 0 := Nat.lt_one_iff.mp hkey
    simp [node, chunk]
  | succ m => rw [List.range_succ_eq_map]; simp [T]

theorem up_take (H : Bytes → Bytes) (t : List Bytes) (m : Nat) (hm : m ≤ t.length) :
    up H (t.take m) = (levelUp H t).take (m / 16) := by
  have h := levelUp_append H (t.take m) (t.drop m)
  rw [List.take_append_drop] at h
  rw [h, List.take_left' (by rw [up_length, List.length_take_of_le hm])]

/-- a node on the path, cut to the prefix's digit, is the pending node of the prefix -/
theorem trunc_node {t : List Bytes} (ht : All32 t) (m j : Nat) (hm : m ≤ t.length)
    (hj : m % 16 ≠ 0 → j = m / 16) :
    (node t j).take (m % 16 * hashLen) = (rem16 (t.take m)).flatten := by
  have hlen : (t.take m).length = m := List.length_take_of_le hm
  by_cases h0 : m % 16 = 0
  · have : rem16 (t.take m) = [] := by
      apply List.eq_nil_of_length_eq_zero; rw [rem16_length, hlen]; exact h0
    rw [this, h0]; simp
  · have hje := hj h0
    subst hje
    have hc : All32 (chunk t (m / 16)) := (ht.drop _).take _
    simp only [node, hashLen]
    rw [Nat.mul_comm, (flatten_take_drop hc _).1]
    simp only [chunk, rem16, hlen]
    rw [List.take_take, List.drop_take]
    rw [Nat.min_eq_left (Nat.le_of_lt (Nat.mod_lt _ (by decide))), Nat.mod_def]

/-- number of base-16 digits: the length of `digits16`, which recurses in the same way -/
def hexDigits : Nat → Nat
  | 0 => 0
  | m + 1 => 1 + hexDigits ((m + 1) / 16)
decreasing_by omega

theorem hexDigits_zero : hexDigits 0 = 0 := by rw [hexDigits]

theorem hexDigits_pos (m : Nat) (h : 0 < m) : hexDigits m = 1 + hexDigits (m / 16) := by
  obtain ⟨k, rfl⟩ : ∃ k, m = k + 1 := ⟨m - 1, by omega⟩
  rw [hexDigits]

/-- Take, bottom level first, one node per level of the finalised
    tree of `t` — at level `i` group `j i`, which is the group that holds position `m / 16^i` of
    that level whenever the prefix has something pending there — for as many levels as `m` has
    base-16 digits; cut node `i` to digit `i` of `m`. The result is exactly the roots of
    accumulating the first `m` entries of `t`. -/
theorem truncRoots_path (H : Bytes → Bytes) (hlen : ∀ x, (H x).length = 32) :
    ∀ (ns : List Bytes) (t : List Bytes) (m : Nat) (j : Nat → Nat), All32 t → m ≤ t.length →
      ns.length = hexDigits m →
      (∀ i (hi : i < ns.length), ns[i] = node (T H t i) (j i) ∧
        ((m / 16 ^ i) % 16 ≠ 0 → j i = m / 16 ^ i / 16)) →
      truncRoots ns m = some (rootsOf H (t.take m)) := by
  intro ns
  induction ns with
  | nil =>
    intro t m j _ _ hd _
    obtain rfl : m = 0 := Nat.eq_zero_of_not_pos fun h => by
      rw [hexDigits_pos m h, Nat.add_comm] at hd; cases hd
    rw [truncRoots, List.take_zero, rootsOf_nil]
  | cons n0 rest ih =>
    intro t m j ht hm hd hns
    have hmpos : 0 < m := Nat.pos_of_ne_zero fun h => by
      rw [h, hexDigits_zero] at hd; cases hd
    rw [hexDigits_pos m hmpos, Nat.add_comm 1] at hd
    have h0 := hns 0 (Nat.succ_pos _)
    rw [Nat.pow_zero, Nat.div_one] at h0
    obtain ⟨hn0, hj0⟩ := h0
    have hn0 : n0 = node t (j 0) := hn0
    have hvalid : validNode n0 = true := hn0 ▸ validNode_node ht _
    have hne : t.take m ≠ [] := fun h => by
      have hl : (t.take m).length = m := List.length_take_of_le hm
      rw [h] at hl; exact absurd hl.symm (Nat.ne_of_gt hmpos)
    have hrest := ih (levelUp H t) (m / 16) (fun i => j (i + 1)) (levelUp_all32 H hlen t)
      (by rw [levelUp_length]; exact Nat.div_le_div_right (Nat.le_trans hm (Nat.le_add_right _ _)))
      (Nat.succ.inj hd) fun i hi => by
        have := hns (i + 1) (Nat.succ_lt_succ hi)
        rw [Nat.pow_succ, Nat.mul_comm, ← Nat.div_div_eq_div_mul] at this
        exact this
    rw [rootsOf_ne H _ hne, up_take H t m hm, truncRoots, if_neg (by rw [hvalid]; simp), hrest, Option.map_some,
      ← trunc_node ht m (j 0) hm hj0, ← hn0]

end Goloop.C28
