/-
  Proofs/C26: `query` and `mergeAll`, the two notions of the property statements that are not in the
  model. `Contain` is `Sub`, the subset test on bit positions (`contain_iff`), and every adding
  operation ORs blooms of single items onto its argument (`addItem_eq`, `addIndexed_eq`, `addLog_eq`):
  so the property theorems are facts about `Sub` and `|||`.
-/
import Goloop.Model.C26
import Goloop.Base.BigEndian
namespace Goloop.C26

/-- what a client asks: the bloom holding just this item (`AddAddressOfLog` / `AddIndexedOfLog`
    on a fresh bloom), tested with `Contain`. -/
def query (hash : Bytes → Bytes) (item : Bytes) : Bloom := addItem hash 0 item

/-- merging a list of blooms into an accumulator, in list order (`Merge` calls). -/
def mergeAll (bs : List Bloom) : Bloom := bs.foldl merge 0

end Goloop.C26
namespace Goloop.C26.Proofs
open Goloop Goloop.C26

/-- `q ⊆ a` on bit sets. -/
def Sub (q a : Nat) : Prop := ∀ i, q.testBit i = true → a.testBit i = true

theorem and_eq_iff (a b : Nat) : a &&& b = b ↔ Sub b a := by
  constructor
  · intro h i hb
    have : (a &&& b).testBit i = b.testBit i := by rw [h]
    rw [Nat.testBit_and, hb] at this
    simpa using this
  · intro h
    apply Nat.eq_of_testBit_eq
    intro i
    rw [Nat.testBit_and]
    cases hb : b.testBit i
    · simp
    · simp [h i hb]

theorem sub_refl (a : Nat) : Sub a a := fun _ h => h

theorem sub_trans {a b c : Nat} (h1 : Sub a b) (h2 : Sub b c) : Sub a c := fun i h => h2 i (h1 i h)

theorem sub_or {q a b : Nat} (h : Sub q a ∨ Sub q b) : Sub q (a ||| b) := fun i hq => by
  rw [Nat.testBit_or, Bool.or_eq_true]; exact h.imp (· i hq) (· i hq)

theorem or_sub {a b c : Nat} (h1 : Sub a c) (h2 : Sub b c) : Sub (a ||| b) c := by
  intro i h
  rw [Nat.testBit_or] at h
  cases ha : a.testBit i
  · rw [ha] at h; exact h2 i (by simpa using h)
  · exact h1 i ha

theorem zero_sub (a : Nat) : Sub 0 a := by
  intro i h; simp at h

/-- lowest `big.Word` (64 bits) and the rest: the recursion of `words` -/
theorem sub_split (a b : Nat) :
    Sub b a ↔ Sub (b % 2 ^ 64) (a % 2 ^ 64) ∧ Sub (b / 2 ^ 64) (a / 2 ^ 64) := by
  simp only [Sub, Nat.testBit_mod_two_pow, Nat.testBit_div_two_pow, Bool.and_eq_true,
    decide_eq_true_eq]
  constructor
  · exact fun h => ⟨fun i hi => ⟨hi.1, h i hi.2⟩, fun i hi => h _ hi⟩
  · rintro ⟨h1, h2⟩ i hi
    by_cases hlt : i < 64
    · exact (h1 i ⟨hlt, hi⟩).2
    · obtain ⟨j, rfl⟩ : ∃ j, i = j + 64 := ⟨i - 64, (Nat.sub_add_cancel (Nat.le_of_not_lt hlt)).symm⟩
      exact h2 j hi

theorem headcheck_iff (w1 w2 : Nat) : ((w2 == 0 || (w1 &&& w2) == w2) = true) ↔ Sub w2 w1 := by
  rw [Bool.or_eq_true, beq_iff_eq, beq_iff_eq, ← and_eq_iff]
  constructor
  · rintro (rfl | h)
    · exact Nat.and_zero w1
    · exact h
  · exact Or.inr

theorem contain_iff (a b : Nat) : contain a b = true ↔ Sub b a := by
  unfold contain
  fun_induction words b generalizing a with
  | case1 => simp [containWords, zero_sub]
  | case2 b hb ih =>
    fun_cases words a with
    | case1 ha =>
      -- `a` has no word, so the length test fails; and some bit of `b` is set
      obtain ⟨i, hi⟩ := Nat.exists_testBit_of_ne_zero hb
      subst ha
      exact ⟨fun h => by simp at h, fun h => by simpa using h i hi⟩
    | case2 ha =>
      rw [sub_split a b, ← ih, ← headcheck_iff]
      simp only [List.length_cons, containWords, Nat.add_lt_add_iff_right]
      by_cases hl : (words (a / 2 ^ 64)).length < (words (b / 2 ^ 64)).length
      · simp only [hl]; simp
      · simp only [hl, if_false, Bool.and_eq_true]

theorem addItem_eq (hash : Bytes → Bytes) (b : Nat) (item : Bytes) :
    addItem hash b item = b ||| query hash item := by
  simp only [addItem, query, addBit, Nat.zero_or, Nat.or_assoc]

theorem mergeAll_cons (x : Nat) (xs : List Nat) : mergeAll (x :: xs) = x ||| mergeAll xs :=
  (congrArg (xs.foldl merge) (Nat.or_comm 0 x)).trans (List.foldl_assoc (op := (· ||| ·)))

theorem mergeAll_append (a b : List Nat) : mergeAll (a ++ b) = mergeAll a ||| mergeAll b := by
  induction a with
  | nil => simp [mergeAll]
  | cons x xs ih => simp [mergeAll_cons, ih, Nat.or_assoc]

theorem testBit_mergeAll (l : List Nat) (i : Nat) : (mergeAll l).testBit i = l.any (·.testBit i) := by
  induction l with
  | nil => simp [mergeAll]
  | cons x xs ih => simp [mergeAll_cons, ih]

theorem sub_mergeAll (l : List Nat) (q : Nat) (h : q ∈ l) : Sub q (mergeAll l) := by
  intro i hq
  rw [testBit_mergeAll, List.any_eq_true]
  exact ⟨q, h, hq⟩

theorem addIndexed_eq (hash : Bytes → Bytes) (b i : Nat) (log : List (Option Bytes)) :
    addIndexed hash b i log = b ||| mergeAll ((indexedItems i log).map (query hash)) := by
  fun_induction addIndexed hash b i log with
  | case1 b i => exact (Nat.or_zero b).symm
  | case2 b i rest ih => exact ih
  | case3 b i v rest ih =>
    rw [ih, addItem_eq, Nat.or_assoc, indexedItems, List.map_cons, mergeAll_cons]

theorem addLog_eq (hash : Bytes → Bytes) (b : Nat) (addr : Bytes) (log : List (Option Bytes)) :
    addLog hash b addr log = b ||| mergeAll ((itemsOf addr log).map (query hash)) := by
  fun_cases addLog hash b addr log with
  | case1 h => rw [itemsOf, if_pos h]; exact (Nat.or_zero b).symm
  | case2 h =>
    rw [itemsOf, if_neg h, List.map_cons, mergeAll_cons, addIndexed_eq, addItem_eq, Nat.or_assoc]

theorem mem_indexedItems {v : Bytes} (l : List (Option Bytes)) : ∀ k j, l[j]? = some (some v) →
    indexedItem (k + j) v ∈ indexedItems k l := by
  induction l with
  | nil => intro k j h; cases h
  | cons a t ih =>
    intro k j h
    cases j with
    | zero =>
      cases Option.some.inj h
      exact List.mem_cons_self
    | succ j =>
      have := ih (k + 1) j h
      rw [Nat.add_right_comm, Nat.add_assoc] at this
      cases a with
      | none => exact this
      | some w => exact List.mem_cons_of_mem _ this

theorem beNat_natBytes (v : Nat) : beNat (natBytes v) = v := by
  fun_induction natBytes v with
  | case1 => rfl
  | case2 v h ih => exact beNat_snoc_digit ih

end Goloop.C26.Proofs
