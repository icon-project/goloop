/-
  Proofs/C02Restart — the state `start` (Go: Start) builds from ANY durable trace re-establishes the
  running-machine invariants; the global invariant over runs with crash and restart.
-/
import Goloop.Proofs.C02Aux
namespace Goloop.C01

structure Inv (me n : Nat) (s : S) : Prop where
  hme : s.me = me
  hn : s.n = n
  tr : TraceInv me n s.eff
  db : s.dbHeight = lastFinalizedHeight s.eff
  inc : (sentOf s.eff).Pairwise msgLt
  run : s.started = false ∨ (Core s ∧ Aux me n s)

theorem inv_of_moves {L : List VoteRec} {me n : Nat} {s s' : S} (h : Moves L s s') (hc : Core s) (ha : Aux me n s) :
    Inv me n s' :=
  have ha' := h.aux ha
  ⟨ha'.hme, ha'.hn, ha'.tr, ha'.db, (h.core hc).inc, Or.inr ⟨h.core hc, ha'⟩⟩

theorem msgKey_fst (m : Msg) : (msgKey m).1 = msgHeight m := by cases m <;> rfl

/-- The state the WAL replay builds from a stopped `s` is a running state: durable-before-send puts every sent
    message into the durable round WAL, whose own messages of the new height the restored (round, step) dominates
    (`replayed_dominates`); the height bound puts every sent message at or below the new height. -/
theorem replayed_spec {me n : Nat} (s : S) (hi : Inv me n s) :
    Core (replayed s) ∧ Aux me n (replayed s) := by
  obtain ⟨f5, f7, _, f1, f2, f3, f4, hd⟩ := replayed_dominates s
  generalize replayed s = x at f1 f2 f3 f4 f5 f7 hd ⊢
  have np : ∀ q, pendWin x.pend ≠ some q := by rw [f7]; nofun
  refine ⟨⟨?_, ?_, fun _ _ _ hb => absurd hb (np _), fun _ _ _ _ hb => absurd hb (np _)⟩, f2.trans hi.hme, f1.trans hi.hn,
    f5 ▸ hi.tr, Or.inr (by rw [f3, f5, hi.db]), by rw [f4, f5]; exact hi.db⟩
  · intro m hm
    have hm : m ∈ sentOf s.eff := f5 ▸ hm
    have hsg := hi.tr.sg m hm
    show lexLe (msgKey m) (x.height, x.round, x.step)
    rw [f3]
    rcases Nat.lt_or_ge (msgHeight m) (s.dbHeight + 1) with hlt | hge
    · exact Or.inl (msgKey_fst m ▸ hlt)
    · have heq : msgHeight m = s.dbHeight + 1 := Nat.le_antisymm (hi.db ▸ hi.tr.hb_all m hm) hge
      exact Or.inr ⟨(msgKey_fst m).trans heq, hd m (hi.tr.dbs_all m hm) heq (hsg.1.trans hi.hme.symm)
        (fun v hv => hi.hme ▸ hi.hn ▸ hsg.2 v hv)⟩
  · show (sentOf x.eff).Pairwise msgLt
    rw [f5]; exact hi.inc

theorem inv_crash {me n : Nat} (s : S) (cut k : Nat) (hi : Inv me n s) : Inv me n (crash s cut k) := by
  unfold crash
  simp only []
  have htr := traceInv_append_nonsend me n _ (.crash k) (by intro m; simp) (traceInv_take me n s.eff cut hi.tr)
  refine ⟨hi.hme, hi.hn, htr, ?_, ?_, Or.inl rfl⟩
  · show lastFinalizedHeight (s.eff.take cut) = lastFinalizedHeight (s.eff.take cut ++ [.crash k])
    rw [lastFin_append_other _ _ (by intro h b; simp)]
  · show (sentOf (s.eff.take cut ++ [.crash k])).Pairwise msgLt
    rw [sentOf_nonsend _ _ (by intro m; simp)]
    exact hi.inc.sublist (sentOf_prefix (List.take_prefix cut s.eff)).sublist

theorem vstep_stopped (s : S) (e : Event) (hn : e.noCrash) (hs : s.started = false) : vstep s e = s := by
  have hs' : (!s.started) = true := by rw [hs]; rfl
  cases e with
  | start => exact absurd hn id
  | crash c k => exact absurd hn id
  | proposal sg h r b pol => exact if_pos hs'
  | blockPart h b => exact if_pos hs'
  | vote m => exact if_pos hs'
  | timeout st => show timeout s st = s; unfold timeout; rw [hs]; rfl
  | async => show async s = s; unfold async; rw [hs]; rfl

theorem vstep_inv {me n : Nat} (s : S) (e : Event) (hi : Inv me n s) : Inv me n (vstep s e) := by
  by_cases hn : e.noCrash
  · rcases hi.run with hns | ⟨hc, ha⟩
    · rw [vstep_stopped s e hn hns]; exact hi
    · exact inv_of_moves (moves_vstep (L := e.votes) s e hn (fun m hm => hm ▸ List.mem_singleton_self m) hc) hc ha
  · cases e with
    | crash c k => exact inv_crash s c k hi
    | start =>
      show Inv me n (start s)
      cases hst : s.started
      · have hr := replayed_spec s hi
        exact inv_of_moves (moves_start (L := []) s hst hr.1) hr.1 hr.2
      · rw [show start s = s by unfold start; rw [if_pos hst]]; exact hi
    | _ => exact absurd trivial hn

theorem inv_init (me n : Nat) : Inv me n { n := n, me := me } :=
  ⟨rfl, rfl, traceInv_nil me n, rfl, by simp [sentOf], Or.inl rfl⟩

theorem run_inv {me n : Nat} (s : S) (evs : List Event) (hi : Inv me n s) : Inv me n (run s evs) :=
  run_foldl s evs ▸ List.foldlRecOn evs vstep hi fun s hs e _ => vstep_inv s e hs

theorem inv_run (n me : Nat) (evs : List Event) : Inv me n (run { n := n, me := me } evs) :=
  run_inv _ evs (inv_init me n)

end Goloop.C01
