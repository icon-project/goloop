/-
  Proofs/C01Abs — quorum intersection and abstract agreement for the message soup.
-/
import Goloop.Model.C01Abs
import Goloop.Base.Quorum
import Goloop.Proofs.C01Hist
namespace Goloop.C01

theorem over23_iff (n k : Nat) : over23 n k ↔ 3 * k > 2 * n := over_two_thirds_iff k n

theorem countP_inter_gt (l : List Nat) (p q byz : Nat → Bool)
    (h : l.countP (fun x => p x && q x) > l.countP byz) :
    ∃ x ∈ l, p x = true ∧ q x = true ∧ byz x = false := by
  -- otherwise `byz` holds wherever `p` and `q` both do, and counts at least as many
  refine Classical.byContradiction fun hne => Nat.lt_irrefl _ (Nat.lt_of_lt_of_le h ?_)
  refine List.countP_mono_left fun x hx hpq => ?_
  cases hb : byz x
  · exact absurd ⟨x, hx, (Bool.and_eq_true _ _ ▸ hpq).1, (Bool.and_eq_true _ _ ▸ hpq).2, hb⟩ hne
  · rfl

theorem quorum_intersection (n : Nat) (byz p q : Nat → Bool) (hb : fewByz n byz)
    (hp : over23 n ((List.range n).countP p)) (hq : over23 n ((List.range n).countP q)) :
    ∃ i, i < n ∧ p i = true ∧ q i = true ∧ byz i = false := by
  rw [over23_iff] at hp hq
  have ov := quorum_overlap (List.range n) p q (List.length_range ▸ hp) (List.length_range ▸ hq)
  rw [List.length_range] at ov
  obtain ⟨x, hx, r⟩ := countP_inter_gt (List.range n) p q byz
    (Nat.lt_of_mul_lt_mul_left (Nat.lt_trans hb ov))
  exact ⟨x, List.mem_range.mp hx, r⟩

theorem voters_meet {n : Nat} {byz : Nat → Bool} (hb : fewByz n byz) {S S' : List Vote} {t t' : VType} {r r' : Nat}
    {v v' : Option Nat} (hp : over23 n (voters n S t r v)) (hq : over23 n (voters n S' t' r' v')) :
    ∃ i, byz i = false ∧ (⟨i, t, r, v⟩ : Vote) ∈ S ∧ (⟨i, t', r', v'⟩ : Vote) ∈ S' := by
  obtain ⟨i, _, hpi, hqi, hbi⟩ := quorum_intersection n byz _ _ hb hp hq
  exact ⟨i, hbi, of_decide_eq_true hpi, of_decide_eq_true hqi⟩

/-- a +2/3 count of the validators with `P` is one of the validators with `Q` when `P` implies `Q` -/
theorem over23_mono {n : Nat} {P Q : Nat → Prop} [DecidablePred P] [DecidablePred Q] (h : ∀ i, P i → Q i)
    (hp : over23 n ((List.range n).countP fun i => decide (P i))) :
    over23 n ((List.range n).countP fun i => decide (Q i)) :=
  Nat.lt_of_lt_of_le hp (List.countP_mono_left fun i _ hi => decide_eq_true (h i (of_decide_eq_true hi)))

theorem polka_mono (n : Nat) (S S' : List Vote) (r : Nat) (v : Option Nat)
    (h : ∀ x ∈ S, x ∈ S') (hp : polka n S r v) : polka n S' r v :=
  over23_mono (fun _ hi => h _ hi) hp

theorem polka_take_mono (n : Nat) (H : List Vote) (s t r : Nat) (v : Option Nat) (h : s ≤ t)
    (hp : polka n (H.take s) r v) : polka n (H.take t) r v :=
  polka_mono n _ _ r v (fun _ hx => List.take_subset_take_left H h hx) hp

theorem polka_of_take (n : Nat) (H : List Vote) (t r : Nat) (v : Option Nat)
    (hp : polka n (H.take t) r v) : polka n H r v :=
  polka_mono n _ _ r v (fun _ hx => List.mem_of_mem_take hx) hp

theorem not_polka_nil (n r : Nat) (v : Option Nat) : ¬ polka n [] r v := by
  unfold polka over23 voters
  simp

/-- If +2/3 precommitted `b` in round `r1`, no polka for anything else (nil included) can ever
    appear in a later round. -/
theorem no_offending_polka (n : Nat) (byz : Nat → Bool) (H : List Vote)
    (hb : fewByz n byz) (G : Guarantees n byz H) (r1 b1 : Nat) (c1 : commitQ n H r1 b1) :
    ∀ t r'' y, r1 < r'' → y ≠ some b1 → ¬ polka n (H.take t) r'' y := by
  intro t
  -- by strong induction on the time `t`: G3 answers an offending polka at `t` with one in `H.take s`, `s < t`
  induction t using Nat.strongRecOn with
  | _ t ih =>
    intro r'' y hr hy hp
    -- a correct validator in both quorums
    obtain ⟨i, hbi, hpi, hqi⟩ := voters_meet hb hp c1
    obtain ⟨s, hst, hw⟩ := mem_take_iff.mp hpi
    obtain ⟨s', hv⟩ := List.mem_iff_getElem?.mp hqi
    -- the precommit comes first (G0), so G3 applies
    have hlt : s' < s := by
      rcases Nat.lt_trichotomy s' s with h | h | h
      · exact h
      · subst h; rw [hv] at hw; cases hw
      · have : r'' ≤ r1 := G.g0 s s' _ _ h hw hv rfl hbi
        exact absurd (Nat.lt_of_lt_of_le hr this) (Nat.lt_irrefl _)
    obtain ⟨r3, y3, h1, _, h3, h4⟩ :=
      G.g3 s' s _ _ b1 hlt hv hw rfl hbi rfl rfl rfl hr hy
    exact ih s hst r3 y3 h1 h3 h4

theorem agreement_le (n : Nat) (byz : Nat → Bool) (H : List Vote)
    (hb : fewByz n byz) (G : Guarantees n byz H)
    (r1 b1 r2 b2 : Nat) (hle : r1 ≤ r2) (c1 : commitQ n H r1 b1) (c2 : commitQ n H r2 b2) :
    b1 = b2 := by
  rcases Nat.eq_or_lt_of_le hle with heq | hlt
  · -- same round: a correct validator precommitted both
    subst heq
    obtain ⟨i, hbi, hpi, hqi⟩ := voters_meet hb c1 c2
    have := G.g1 _ _ hpi hqi rfl hbi rfl rfl
    simpa using this
  · -- later round: its precommits need a polka (G2), which would be offending
    by_cases hbb : b2 = b1
    · exact hbb.symm
    · exfalso
      obtain ⟨j, hbj, hpj, _⟩ := voters_meet hb c2 c2
      obtain ⟨t, hv⟩ := List.mem_iff_getElem?.mp hpj
      have hp := G.g2 t _ b2 hv hbj rfl rfl
      exact no_offending_polka n byz H hb G r1 b1 c1 t r2 (some b2) hlt
        (by intro h; exact hbb (Option.some.inj h)) hp

theorem agreement_abs (n : Nat) (byz : Nat → Bool) (H : List Vote)
    (hb : fewByz n byz) (G : Guarantees n byz H)
    (r1 b1 r2 b2 : Nat) (c1 : commitQ n H r1 b1) (c2 : commitQ n H r2 b2) : b1 = b2 := by
  rcases Nat.le_total r1 r2 with h | h
  · exact agreement_le n byz H hb G r1 b1 r2 b2 h c1 c2
  · exact (agreement_le n byz H hb G r2 b2 r1 b1 h c2 c1).symm

/-- what a correct validator's vote `w` needs of the history `A` before it -/
structure VoteOkAbs (n : Nat) (A : List Vote) (w : Vote) : Prop where
  ord : ∀ v, v ∈ A → v.signer = w.signer → v.round ≤ w.round ∧ (v.typ = w.typ → v.round < w.round)
  g2 : ∀ b, w.typ = .precommit → w.val = some b → polka n A w.round (some b)
  g3 : w.typ = .prevote → ∀ v b, v ∈ A → v.signer = w.signer → v.typ = .precommit → v.val = some b →
        v.round < w.round → w.val ≠ some b →
        ∃ r'' y, v.round < r'' ∧ r'' ≤ w.round ∧ y ≠ some b ∧ polka n A r'' y

/-- `Guarantees` is a condition on each correct vote and the history before it -/
theorem guarantees_of_hist {n : Nat} {byz : Nat → Bool} {H : List Vote}
    (h : Hist (fun A w => byz w.signer = false → VoteOkAbs n A w) H) : Guarantees n byz H := by
  refine ⟨fun s t v w hst hs ht hsg hb => ((h.getElem? ht (hsg ▸ hb)).ord v (mem_take_iff.mpr ⟨s, hst, hs⟩) hsg).1, ?_,
    fun t v b ht hb hty hval => (h.getElem? ht hb).g2 b hty hval,
    fun s t v w b hst hs ht hsg hb hty hval htw hr hne =>
      (h.getElem? ht (hsg ▸ hb)).g3 htw v b (mem_take_iff.mpr ⟨s, hst, hs⟩) hsg hty hval hr hne⟩
  intro v w hv hw hsg hb hty hrd
  obtain ⟨s, hs⟩ := List.mem_iff_getElem?.mp hv
  obtain ⟨t, ht⟩ := List.mem_iff_getElem?.mp hw
  rcases Nat.lt_trichotomy s t with hst | rfl | hst
  · exact absurd hrd (Nat.ne_of_lt (((h.getElem? ht (hsg ▸ hb)).ord v (mem_take_iff.mpr ⟨s, hst, hs⟩) hsg).2 hty))
  · rw [hs] at ht; cases ht; rfl
  · exact absurd hrd.symm (Nat.ne_of_lt (((h.getElem? hs hb).ord w (mem_take_iff.mpr ⟨t, hst, ht⟩) hsg.symm).2 hty.symm))

end Goloop.C01
