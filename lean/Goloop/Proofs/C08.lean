/-
  Proofs/C08: the typed readers of Model/C08 invert the item encoders.
-/
import Goloop.Model.C08
import Goloop.Props.C24
namespace Goloop.C08.Proofs
open Goloop Goloop.Rlp Goloop.C08

theorem encode_append_ne_nil (v : Item) (r : Bytes) : (encode v ++ r).isEmpty = false := by
  have := encode_ne_nil v
  cases h : encode v with
  | nil => exact absurd h this
  | cons a as => simp

/-- `ReadBytes` inverts the writer for nil and for every slice of at most maxSB bytes -/
theorem readBytes_encode (ob : OBytes) (r : Bytes) (hl : ∀ b, ob = some b → b.length ≤ maxSB) :
    readBytes (encode (itemOfBytes ob) ++ r) = .ok ob r := by
  unfold readBytes
  rw [encode_append_ne_nil]
  simp only [Bool.false_eq_true, if_false]
  cases ob with
  | none =>
    simp only [itemOfBytes, encode]
    rw [decodeHdr_encodeNil]
  | some b =>
    have hb := hl b rfl
    simp only [itemOfBytes, encode]
    rcases encodeBytes_cases b with ⟨x, hbx, hx, he⟩ | he
    · rw [he, hbx]
      simp only [List.cons_append, List.nil_append]
      rw [decodeHdr_single x hx]
    · rw [he, List.append_assoc, decodeHdr_encodeLen_str b.length (Nat.le_trans hb (by decide))]
      simp only [Nat.not_lt.mpr hb, if_false, splitAt?_append]

theorem readInt_encode (v : Int) (r : Bytes) (hv : -(2:Int)^63 ≤ v ∧ v < (2:Int)^63) :
    readInt (encode (itemOfInt v) ++ r) = .ok v r := by
  unfold readInt
  have hlen := (C24.int64_length v hv).2
  have := readBytes_encode (some (C24.int64ToBytes v)) r (by
    intro b hb; cases hb; exact Nat.le_trans hlen (by decide))
  simp only [itemOfBytes] at this
  unfold itemOfInt
  rw [this]
  simp only [C24.int64_roundtrip v hv]

theorem readBytesSeq_encode : ∀ (l : List OBytes) (fuel : Nat), (encodeItems (l.map itemOfBytes)).length < fuel →
    (∀ ob ∈ l, ∀ b, ob = some b → b.length ≤ maxSB) →
    readBytesSeq fuel (encodeItems (l.map itemOfBytes)) = some l
  | [], fuel, hf, _ => by
    cases fuel with
    | zero => omega
    | succ f => simp [readBytesSeq, encodeItems, readBytes]
  | ob :: rest, fuel, hf, hl => by
    cases fuel with
    | zero => omega
    | succ f =>
      simp only [List.map_cons, encodeItems, List.length_append] at hf
      have := encode_length_pos (itemOfBytes ob)
      simp only [List.map_cons, encodeItems, readBytesSeq]
      rw [readBytes_encode ob _ (hl ob List.mem_cons_self)]
      simp only
      rw [readBytesSeq_encode rest f (by omega) (fun o ho => hl o (List.mem_cons_of_mem _ ho))]

theorem readBss_encode (l : Option (List OBytes)) (r : Bytes)
    (hl : ∀ xs, l = some xs → (∀ ob ∈ xs, ∀ b, ob = some b → b.length ≤ maxSB) ∧
      (encodeItems (xs.map itemOfBytes)).length ≤ maxInt) :
    readBss (encode (itemOfBss l) ++ r) = .ok l r := by
  unfold readBss
  rw [encode_append_ne_nil]
  simp only [Bool.false_eq_true, if_false]
  cases l with
  | none =>
    simp only [itemOfBss, encode]
    rw [decodeHdr_encodeNil]
  | some xs =>
    obtain ⟨h1, h2⟩ := hl xs rfl
    simp only [itemOfBss, encode, encodeList]
    rw [List.append_assoc, decodeHdr_encodeLen_lst _ h2]
    simp only [splitAt?_append]
    rw [readBytesSeq_encode xs _ (Nat.lt_succ_self _) h1]

/-- `h`: the header reader takes a size into a Go `int` (`bytesToSize`, common/codec/rlp.go) and refuses what
    exceeds `maxInt`; the same bound in `readBss_encode`, `Header.Ok`, `Body.Ok` -/
theorem openList_encode (items : List Item) (rest : Bytes) (h : (encodeItems items).length ≤ maxInt) :
    openList (encode (.list items) ++ rest) = some (encodeItems items, rest) := by
  unfold openList
  simp only [encode, encodeList]
  rw [List.append_assoc, decodeHdr_encodeLen_lst _ h]
  simp only [splitAt?_append]

/-- the optional last field of a format, absent (the list ends) or present.  `generalizing := false`: the `match`
    must be the one of `Header.items` / `Body.items`, not one that also abstracts `hl`. -/
theorem readBytes_last {β : Type} (o : OBytes) (f : OBytes → Option β) (hl : ∀ b, o = some b → b.length ≤ maxSB) :
    (readBytes (encodeItems (match (generalizing := false) o with | none => [] | some x => [.bytes x]))).last f = f o := by
  cases o with
  | none => rfl
  | some x =>
    have := readBytes_encode (some x) [] hl
    simp only [encodeItems]
    rw [show encode (Item.bytes x) = encode (itemOfBytes (some x)) from rfl, this]; rfl

end Goloop.C08.Proofs
