/-
  Proofs/C01G3 — G3 (the lock rule) and the Finalize rule for the transcribed machine (no crash).

  G3: after the machine signed a non-nil precommit (h, r, b), it signs a prevote (h, r', x) with
  r < r' and x ≠ b (nil included) only if, BEFORE signing it, it knew +2/3 prevotes of distinct
  validators (h, r'', y) for some r < r'' ≤ r' and some y ≠ b (nil included).
  Finalize: a `finalize h b` effect is emitted only when +2/3 precommits (h, r, b) of distinct
  validators for ONE round r are known to the machine.

  The invariant `H3` is about lockedBlock / lockedRound: every own non-nil precommit (r, b) of the
  current height is *covered*: the machine is still locked on b with lockedRound ≥ r, or an unlocking
  polka (r'' > r, y ≠ b) is known.  All trace-level statements (g3, g2) speak about the messages
  signed strictly before the vote in question (`pre`), so the timing is exact.
-/
import Goloop.Proofs.C01G2
namespace Goloop.C01

theorem polkaKnown_iff_quorumKnown (L : List VoteRec) (n : Nat) (sent : List Msg) (h r : Nat) (b : Blk) :
    polkaKnown L n sent h r b ↔ quorumKnown L n sent h .prevote r (some b) := Iff.rfl

/-- own non-nil precommit (r, b) of the current height is covered -/
def Covered (L : List VoteRec) (s : S) (R r : Nat) (b : Blk) : Prop :=
  (s.locked.map (·.1) = some b ∧ (r : Int) ≤ s.lockedRound) ∨
  ∃ r'' y, r < r'' ∧ r'' ≤ R ∧ y ≠ some b ∧ quorumKnown L s.n (sentOf s.eff) s.height .prevote r'' y

def LockInv (L : List VoteRec) (R : Nat) (s : S) : Prop :=
  s.stuck = false → ∀ v b, Msg.vote v ∈ sentOf s.eff → v.typ = .precommit → v.val = some b →
    v.height = s.height → Covered L s R v.round b

/-- an ImportBlock callback of the current round that may still sign the prevote: not locked -/
def ImpInv (s : S) : Prop :=
  s.stuck = false → ∀ b, s.pend = .import_ s.height s.round b → s.step ≤ stPrevoteWait → s.locked = none

/-- in step commit the block being committed has a known +2/3 precommit quorum of one round -/
def ComInv (L : List VoteRec) (s : S) : Prop :=
  s.stuck = false → s.step = stCommit →
    ∃ r b, s.cur.id = some b ∧ quorumKnown L s.n (sentOf s.eff) s.height .precommit r (some b)

/-- a vote list written to a WAL: every vote was known to the machine, all votes of one height -/
def VLOk (L : List VoteRec) (sent : List Msg) (vs : List VoteRec) : Prop :=
  (∀ v, v ∈ vs → Known L sent v) ∧ ∀ v, v ∈ vs → ∀ v', v' ∈ vs → v.height = v'.height

structure T3 (L : List VoteRec) (n : Nat) (eff : List Eff) : Prop where
  /-- the Finalize rule: the commit quorum was known BEFORE the Finalize effect -/
  fin : ∀ pre h b post, eff = pre ++ Eff.finalize h b :: post →
        ∃ r, quorumKnown L n (sentOf pre) h .precommit r (some b)
  wl : ∀ pre w vs post, eff = pre ++ Eff.write w (.voteList vs) :: post → VLOk L (sentOf pre) vs

/-- what has to be known before the effect `e` is appended to the trace `pre` -/
def TOk (L : List VoteRec) (n : Nat) (pre : List Eff) : Eff → Prop
  | .finalize h b => ∃ r, quorumKnown L n (sentOf pre) h .precommit r (some b)
  | .write _ (.voteList vs) => VLOk L (sentOf pre) vs
  | _ => True

/-- `T3` is a condition on every effect and what precedes it -/
theorem t3_hist {L : List VoteRec} {n : Nat} {eff : List Eff} : T3 L n eff ↔ Hist (TOk L n) eff := by
  refine ⟨fun ht pre e post hd => ?_,
    fun h => ⟨fun pre _ _ post hd => h pre _ post hd, fun pre _ _ post hd => h pre _ post hd⟩⟩
  fun_cases TOk L n pre e with
  | case1 h b => exact ht.fin pre h b post hd
  | case2 w vs => exact ht.wl pre w vs post hd
  | case3 => trivial

theorem t3_nil (L : List VoteRec) (n : Nat) : T3 L n [] := t3_hist.2 Hist.nil

theorem t3_append {L : List VoteRec} {n : Nat} {eff : List Eff} (e : Eff) (ht : T3 L n eff)
    (hok : TOk L n eff e) : T3 L n (eff ++ [e]) :=
  t3_hist.2 ((t3_hist.1 ht).snoc hok)

theorem t3_take {L : List VoteRec} {n : Nat} {eff : List Eff} (c : Nat) (ht : T3 L n eff) :
    T3 L n (eff.take c) :=
  t3_hist.2 (hist_append.1 ((List.take_append_drop c eff).symm ▸ t3_hist.1 ht)).1

theorem mem_finalizedOf {eff : List Eff} {h : Nat} {b : Blk} :
    (h, b) ∈ finalizedOf eff ↔ Eff.finalize h b ∈ eff := by
  induction eff with
  | nil => simp [finalizedOf]
  | cons e t ih => cases e <;> simp [finalizedOf, ih]

/-- the Finalize rule for a Finalize effect anywhere in the trace -/
theorem T3.fin_mem {L : List VoteRec} {n : Nat} {eff : List Eff} (ht : T3 L n eff) {h : Nat} {b : Blk}
    (hm : (h, b) ∈ finalizedOf eff) : ∃ r, quorumKnown L n (sentOf eff) h .precommit r (some b) := by
  obtain ⟨pre, post, hd⟩ := List.append_of_mem (mem_finalizedOf.1 hm)
  rw [hd, sentOf_append]
  exact (ht.fin pre h b post hd).imp fun r hq => quorumKnown_append _ hq

@[simp] theorem finOf_emit_write (s : S) (w : Wal) (r : Rec) : finalizedOf (s.emit (.write w r)).eff = finalizedOf s.eff := by
  simp [S.emit, finalizedOf_append, finalizedOf]
@[simp] theorem finOf_emit_sync (s : S) (w : Wal) : finalizedOf (s.emit (.sync w)).eff = finalizedOf s.eff := by
  simp [S.emit, finalizedOf_append, finalizedOf]
@[simp] theorem finOf_emit_send (s : S) (m : Msg) : finalizedOf (s.emit (.send m)).eff = finalizedOf s.eff := by
  simp [S.emit, finalizedOf_append, finalizedOf]
@[simp] theorem finOf_emit_fin (s : S) (h b : Nat) : finalizedOf (s.emit (.finalize h b)).eff = finalizedOf s.eff ++ [(h, b)] := by
  simp [S.emit, finalizedOf_append, finalizedOf]

/-- `R` bounds the round of an unlocking polka (`Covered`).  It is a parameter and not `s.round` because a round change
    is two steps: the bound is raised first (`H3.mono`), then the round is reset (`h3_rfr`; `Move.g3`, cases `rfr`,
    `unlockRound`).  `base`, `pre`: read only by the system layer (`m3_of_a3` hands the prefix to `sysInv_update`). -/
structure H3 (L : List VoteRec) (base : List Eff) (R : Nat) (s : S) : Prop where
  /-- the trace only grows (`base` = the trace at the beginning of the event) -/
  pre : base <+: s.eff
  lock : LockInv L R s
  imp : ImpInv s
  com : ComInv L s
  /-- G3, exact timing: `pre` = the messages signed strictly before the prevote `w` -/
  g3 : ∀ pre w post, sentOf s.eff = pre ++ Msg.vote w :: post → w.typ = .prevote →
        ∀ v b, Msg.vote v ∈ pre → v.typ = .precommit → v.val = some b → v.height = w.height →
          v.round < w.round → w.val ≠ some b →
          ∃ r'' y, v.round < r'' ∧ r'' ≤ w.round ∧ y ≠ some b ∧
            quorumKnown L s.n pre w.height .prevote r'' y
  /-- G2, exact timing -/
  g2 : ∀ pre v post b, sentOf s.eff = pre ++ Msg.vote v :: post → v.typ = .precommit → v.val = some b →
        quorumKnown L s.n pre v.height .prevote v.round (some b)
  /-- every Finalize effect had a known +2/3 precommit quorum of one round; WAL vote lists hold known
      votes — both prefix-wise -/
  tr : T3 L s.n s.eff

/-- H3 with the round bound of the lock invariant = the current round -/
abbrev G3 (L : List VoteRec) (base : List Eff) (s : S) : Prop := H3 L base s.round s

/-- the fields of the state the trace-level part of H3 depends on -/
def tproj (s : S) : Nat × List Eff := (s.n, s.eff)

/-- the fields `Covered` / `LockInv` depend on (besides `stuck`) -/
def kproj (s : S) : Nat × Nat × Option Blk × Int × List Msg :=
  (s.n, s.height, s.locked.map (·.1), s.lockedRound, sentOf s.eff)

section
variable {L : List VoteRec} {base : List Eff} {R R' : Nat}

theorem covered_of_kproj {r : Nat} {b : Blk} (h : kproj s' = kproj s)
    (hc : Covered L s R r b) : Covered L s' R r b := by
  simp only [kproj, Prod.mk.injEq] at h
  obtain ⟨h1, h2, h3, h4, h5⟩ := h
  unfold Covered
  rw [h1, h2, h3, h4, h5]
  exact hc

theorem lockInv_of_kproj (h : kproj s' = kproj s)
    (hst : s'.stuck = false → s.stuck = false) (hl : LockInv L R s) : LockInv L R s' := by
  intro hs v b hv ht hval hht
  rw [show sentOf s'.eff = sentOf s.eff from congrArg (·.2.2.2.2) h] at hv
  rw [show s'.height = s.height from congrArg (·.2.1) h] at hht
  exact covered_of_kproj h (hl (hst hs) v b hv ht hval hht)

theorem h3_build (hh : H3 L base R s) (ht : tproj s' = tproj s)
    (hlock : LockInv L R' s') (himp : ImpInv s') (hcom : ComInv L s') : H3 L base R' s' := by
  have h1 : s'.n = s.n := congrArg (·.1) ht
  have h2 : s'.eff = s.eff := congrArg (·.2) ht
  exact ⟨by rw [h2]; exact hh.pre, hlock, himp, hcom, by rw [h1, h2]; exact hh.g3,
    by rw [h1, h2]; exact hh.g2, by rw [h1, h2]; exact hh.tr⟩

theorem comInv_of_nc (h : NC s) : ComInv L s :=
  fun hs hst => h.elim (fun h => nomatch h.symm.trans hs) (absurd hst)

/-- a stuck state satisfies the state-level parts vacuously -/
theorem h3_of_stuck {s s' : S} {R R' : Nat} (hh : H3 L base R s) (ht : tproj s' = tproj s)
    (hs : s'.stuck = true) : H3 L base R' s' :=
  h3_build hh ht (by intro h; rw [hs] at h; cases h) (by intro h; rw [hs] at h; cases h)
    (by intro h; rw [hs] at h; cases h)

theorem h3_frame (hh : H3 L base R s)
    (ht : tproj s' = tproj s) (hk : kproj s' = kproj s)
    (hst : s'.stuck = false → s.stuck = false)
    (himp : ImpInv s') (hcom : ComInv L s') : H3 L base R s' :=
  h3_build hh ht (lockInv_of_kproj hk hst hh.lock) himp hcom

theorem impInv_of_fields_eq {s s' : S}
    (h : (s'.height, s'.round, s'.pend, s'.locked) = (s.height, s.round, s.pend, s.locked))
    (hst : s'.stuck = false → s.stuck = false ∧ (s'.step ≤ stPrevoteWait → s.step ≤ stPrevoteWait))
    (hi : ImpInv s) : ImpInv s' := by
  simp only [Prod.mk.injEq] at h
  obtain ⟨h1, h2, h3, h4⟩ := h
  intro hs b hp h5
  rw [h1, h2, h3] at hp
  rw [h4]
  exact hi (hst hs).1 b hp ((hst hs).2 h5)

theorem comInv_of_fields_eq {s s' : S}
    (h : (s'.n, s'.height, s'.cur.id, sentOf s'.eff) = (s.n, s.height, s.cur.id, sentOf s.eff))
    (hst : s'.stuck = false → s.stuck = false ∧ (s'.step = stCommit → s.step = stCommit))
    (hc : ComInv L s) : ComInv L s' := by
  simp only [Prod.mk.injEq] at h
  obtain ⟨h1, h2, h3, h4⟩ := h
  intro hs h8
  rw [h1, h2, h3, h4]
  exact hc (hst hs).1 ((hst hs).2 h8)

/-- fields `H3` does not read change (timer, hvs, dbHeight), and the step as far as `ImpInv` and `ComInv` allow -/
theorem h3_same (s : S) {t : Bool} {st : Nat} {h : HVS} {d : Nat} (hh : H3 L base R s)
    (hst : s.stuck = false → (st ≤ stPrevoteWait → s.step ≤ stPrevoteWait) ∧ (st = stCommit → s.step = stCommit)) :
    H3 L base R { s with timer := t, step := st, hvs := h, dbHeight := d } :=
  h3_frame (s := s) hh rfl rfl id (impInv_of_fields_eq (s := s) rfl (fun h => ⟨h, (hst h).1⟩) hh.imp)
    (comInv_of_fields_eq (s := s) rfl (fun h => ⟨h, (hst h).2⟩) hh.com)

/-- the round bound of the lock invariant may be raised -/
theorem H3.mono (hh : H3 L base R s) (hR : R ≤ R') : H3 L base R' s :=
  ⟨hh.pre, fun hs v b hv ht hval hht => (hh.lock hs v b hv ht hval hht).imp id
    fun ⟨r'', y, a1, a2, a3, a4⟩ => ⟨r'', y, a1, Nat.le_trans a2 hR, a3, a4⟩, hh.imp, hh.com, hh.g3, hh.g2, hh.tr⟩

theorem g3_rfs (s : S) (tgt : Nat) (ht : tgt ≠ 0 ∧ tgt ≠ 2 ∧ tgt ≠ stCommit)
    (hh : G3 L base s) : G3 L base (s.resetForNewStep tgt) := by
  rcases rfs_eq s tgt ht.1 ht.2.1 with ⟨hlt, e⟩ | e <;> rw [e]
  · exact h3_same s hh fun _ => ⟨fun h5 => Nat.le_trans (Nat.le_of_lt hlt) h5, fun h => absurd h ht.2.2⟩
  · exact h3_of_stuck hh rfl rfl

theorem h3_rfr (s : S) (r : Nat) (hc : Core s) (hr : s.round < r)
    (hh : H3 L base r s) : H3 L base r (s.resetForNewRound r) := by
  rw [rfr_eq]
  refine h3_frame (s := s) hh rfl rfl id (fun _ b hp _ => ?_)
    (comInv_of_nc (Or.inr (by decide : stNewRound ≠ stCommit)))
  -- a callback of round `r` cannot be outstanding before round `r`
  have hp : s.pend = .import_ s.height r b := hp
  rcases hc.pnd s.height r 4 5 (congrArg pendWin hp) with h | ⟨_, h⟩
  · exact absurd h (Nat.lt_irrefl _)
  · exact absurd (Nat.lt_of_lt_of_le hr h) (Nat.lt_irrefl _)

theorem g3_rfh (s : S) (hc : Core s) (hh : H3 L base R s) :
    G3 L base (s.resetForNewHeight (s.height + 1)) := by
  have key : ∀ s' : S, tproj s' = tproj s → s'.height = s.height + 1 → s'.round = 0 → s'.pend = s.pend →
      NC s' → G3 L base s' := by
    intro s' e1 e2 e3 e4 e6
    refine h3_build hh e1 (fun _ v b hv _ _ hht => ?_) (fun _ b hp _ => ?_) (comInv_of_nc e6)
    · -- nothing was signed for the new height yet
      rw [show sentOf s'.eff = sentOf s.eff from congrArg (fun p => sentOf p.2) e1] at hv
      rw [e2] at hht
      rcases hc.bnd (.vote v) hv with h | ⟨h, _⟩
      · exact absurd (hht ▸ Nat.lt_succ_self s.height : s.height < v.height) (Nat.lt_asymm h)
      · exact absurd (hht.symm.trans h) (Nat.succ_ne_self _)
    · rw [e2, e3, e4] at hp
      rcases hc.pnd (s.height + 1) 0 4 5 (congrArg pendWin hp) with h | ⟨h, _⟩
      · exact absurd h Nat.not_succ_lt_self
      · exact absurd h (Nat.succ_ne_self _)
  exact beginStep_cases (G3 L base) _ stNewHeight
    (fun _ => key _ rfl rfl rfl rfl (Or.inr (by decide : stNewHeight ≠ stCommit))) (h3_of_stuck hh rfl rfl)

theorem kproj_emit (s : S) (e : Eff) (he : ∀ m, e ≠ .send m) : kproj (s.emit e) = kproj s := by
  unfold kproj; rw [sentOf_emit_nonsend s e he]; rfl

theorem h3_emit (s : S) (e : Eff) (he : ∀ m, e ≠ .send m) (hok : TOk L s.n s.eff e) (hh : H3 L base R s) :
    H3 L base R (s.emit e) := by
  have hs : sentOf (s.emit e).eff = sentOf s.eff := sentOf_emit_nonsend s e he
  exact ⟨List.IsPrefix.trans hh.pre (List.prefix_append _ _),
    lockInv_of_kproj (kproj_emit s e he) id hh.lock,
    impInv_of_fields_eq (s := s) rfl (fun h => ⟨h, id⟩) hh.imp,
    comInv_of_fields_eq (s := s) (by rw [hs]; rfl) (fun h => ⟨h, id⟩) hh.com,
    by rw [hs]; exact hh.g3, by rw [hs]; exact hh.g2,
    t3_append e hh.tr hok⟩

theorem covered_send (m : Msg) {R r : Nat} {b : Blk} (hc : Covered L s R r b) :
    Covered L (s.emit (.send m)) R r b := by
  unfold Covered
  rw [sentOf_emit_send]
  exact hc.imp id fun ⟨r'', y, a1, a2, a3, a4⟩ => ⟨r'', y, a1, a2, a3, quorumKnown_append [m] a4⟩

/-- a rule on every signed vote and the messages before it (the form of `H3.g3`, `H3.g2`), when one more message is
    signed: to be checked of that message only -/
theorem hist_snoc_vote {P : List Msg → VoteRec → Prop} {l : List Msg} {m : Msg}
    (h : ∀ pre w post, l = pre ++ Msg.vote w :: post → P pre w) (hm : ∀ w, m = .vote w → P l w) :
    ∀ pre w post, l ++ [m] = pre ++ Msg.vote w :: post → P pre w :=
  fun pre w post hd => Hist.snoc (P := fun pre x => ∀ w, x = .vote w → P pre w)
    (fun pre _ post hd w hx => h pre w post (hx ▸ hd)) hm pre _ post hd w rfl

/-- doSendVote / doSendProposal: the two WAL effects change nothing that `H3` reads; what the send needs is asked of
    the state before them -/
theorem g3_signed (s : S) (m : Msg) (hh : G3 L base s)
    (hnl : ∀ v b, m = .vote v → v.typ = .precommit → v.val = some b → v.height = s.height →
      Covered L s s.round v.round b)
    (hn3 : ∀ w, m = .vote w → w.typ = .prevote → ∀ v b, Msg.vote v ∈ sentOf s.eff → v.typ = .precommit →
      v.val = some b → v.height = w.height → v.round < w.round → w.val ≠ some b →
      ∃ r'' y, v.round < r'' ∧ r'' ≤ w.round ∧ y ≠ some b ∧
        quorumKnown L s.n (sentOf s.eff) w.height .prevote r'' y)
    (hn2 : ∀ b v, m = .vote v → v.typ = .precommit → v.val = some b →
      quorumKnown L s.n (sentOf s.eff) v.height .prevote v.round (some b)) :
    G3 L base (signed s m) := by
  have hr : (signed s m).round = s.round := by unfold signed S.emit; rfl
  unfold G3
  rw [hr]
  have hY := h3_emit _ (.sync .round) nofun trivial (h3_emit s (.write .round (.msg m)) nofun trivial hh)
  have hk := (kproj_emit _ (.sync .round) (fun _ => nofun)).trans (kproj_emit s (.write .round (.msg m)) (fun _ => nofun))
  unfold signed
  -- the state `Y` before the send is only used through `hY` and `hk`
  generalize (s.emit (.write .round (.msg m))).emit (.sync .round) = Y at hY hk ⊢
  have hs : sentOf (Y.emit (.send m)).eff = sentOf Y.eff ++ [m] := sentOf_emit_send Y m
  rw [← show Y.n = s.n from congrArg (·.1) hk, ← show sentOf Y.eff = sentOf s.eff from congrArg (·.2.2.2.2) hk] at hn3 hn2
  refine ⟨?_, ?_, ?_, ?_, ?_, ?_, ?_⟩
  · exact List.IsPrefix.trans hY.pre (List.prefix_append _ _)
  · intro hst v b hv ht hval hht
    apply covered_send
    rcases mem_sentOf_send hv with h | h
    · exact hY.lock hst v b h ht hval hht
    · exact covered_of_kproj hk (hnl v b h.symm ht hval (hht.trans (congrArg (·.2.1) hk)))
  · exact impInv_of_fields_eq (s := Y) rfl (fun h => ⟨h, id⟩) hY.imp
  · intro hst h8
    obtain ⟨r, b, h1, h2⟩ := hY.com hst h8
    exact ⟨r, b, h1, by rw [hs]; exact quorumKnown_append [m] h2⟩
  · rw [hs]; exact hist_snoc_vote hY.g3 hn3
  · rw [hs]
    exact fun pre v post b => hist_snoc_vote (fun pre v post => hY.g2 pre v post b) (hn2 b) pre v post
  · exact t3_append (.send m) hY.tr trivial

theorem g3_vote (s : S) (t : VType) (v : Option Blk) (h2 : H2 L s) (hh : G3 L base s) (hst : s.stuck = false)
    (hpc : PC s t v) (hpv : PV s t v) : G3 L base (signed s (.vote ⟨s.me, s.height, t, s.round, v⟩)) := by
  refine g3_signed s _ hh (fun v' b hm ht hval _ => ?_) (fun w' hm ht v' b hv hvt hval hht hr hne => ?_)
    (fun b v' hm ht hval => ?_)
  · cases hm
    exact Or.inl ⟨(hpv.2 ht b hval).1, by rw [(hpv.2 ht b hval).2]; exact Int.le_refl _⟩
  · cases hm
    rcases hh.lock hst v' b hv hvt hval hht with ⟨h1, _⟩ | h
    · exact absurd (hpv.1 ht b h1) hne
    · exact h
  · cases hm
    exact known_of_decision s h2 _ _ _ (hpc ht b hval)

theorem h3_pend (s : S) (p : Pend)
    (hp : ∀ b, p = .import_ s.height s.round b → s.locked = none)
    (hh : H3 L base R s) : H3 L base R { s with pend := p } :=
  h3_frame (s := s) hh rfl rfl id (fun _ b hb _ => hp b hb)
    (comInv_of_fields_eq (s := s) rfl (fun h => ⟨h, id⟩) hh.com)

/-- a polka of round `mr` (within the bound) for something else than the locked block unlocks -/
theorem h3_unlock_polka (s : S) (mr : Nat) (psid : Option Blk) (hh : H3 L base R s)
    (hq : quorumKnown L s.n (sentOf s.eff) s.height .prevote mr psid)
    (hlr : s.lockedRound < (mr : Int)) (hne : (s.locked.map (·.1)) ≠ psid) (hmr : mr ≤ R) :
    H3 L base R s.unlock := by
  refine h3_build (s := s) hh rfl ?_ ?_ (comInv_of_fields_eq (s := s) rfl (fun h => ⟨h, id⟩) hh.com)
  · intro hs v b hv ht hval hht
    rcases hh.lock hs v b hv ht hval hht with ⟨h1, h2⟩ | h
    · right
      refine ⟨mr, psid, Int.ofNat_lt.mp (Int.lt_of_le_of_lt h2 hlr), hmr, ?_, hq⟩
      intro h; rw [h] at hne; exact hne h1
    · exact Or.inr h
  · intro _ _ _ _; rfl

/-- enterPrecommit changes the lock (and perhaps `cur`) on a +2/3 prevote decision `y` of the current round -/
theorem h3_setlock (s : S) (c : Cur) (lk : Option (Blk × Bool)) (lr : Int) (y : Option Blk)
    (hh : H3 L base s.round s) (hf : Fresh s stPrecommit) (hnc : NC s)
    (hq : quorumKnown L s.n (sentOf s.eff) s.height .prevote s.round y)
    (hy : ∀ b, y = some b → s.locked.map (·.1) = some b → lk.map (·.1) = some b ∧ lr = (s.round : Int)) :
    H3 L base s.round { s with cur := c, lockedRound := lr, locked := lk } := by
  rcases hf with hf | ⟨h6, hf, _⟩
  · exact h3_of_stuck hh rfl hf
  refine h3_build (s := s) hh rfl (fun hs v b hv ht hval hht => ?_) (fun _ _ _ h5 => ?_) (comInv_of_nc hnc)
  · -- an own precommit of this height signed before this step is of an earlier round
    have hr : v.round < s.round :=
      (round_of_key_lt (b := ⟨s.me, s.height, .precommit, s.round, none⟩) (hf _ hv) hht).2 ht
    rcases hh.lock hs v b hv ht hval hht with ⟨h1, h2⟩ | h
    · by_cases hyb : y = some b
      · exact Or.inl ⟨(hy b hyb h1).1, (hy b hyb h1).2 ▸ Int.ofNat_le.mpr (Nat.le_of_lt hr)⟩
      · exact Or.inr ⟨s.round, y, hr, Nat.le_refl _, hyb, hq⟩
    · exact Or.inr h
  · exact absurd (Nat.le_trans h6 h5) (by decide)

/-- the block held in `cur` has a known +2/3 precommit quorum of one round (whatever the step) -/
def ComQ (L : List VoteRec) (s : S) : Prop :=
  s.stuck = false →
    ∃ r b, s.cur.id = some b ∧ quorumKnown L s.n (sentOf s.eff) s.height .precommit r (some b)

end
end Goloop.C01
