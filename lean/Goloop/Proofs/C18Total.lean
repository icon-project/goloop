/-
  Proofs/C18Total: the byte-level `prove` model never takes one of its `panic` outcomes
  (Go index-out-of-range / nil-dereference sites) for ANY root, key and proof bytes.
  After that, one step of the verifier read off an accepted value (`Acc`, `proveHash_ok_iff`), through which
  soundness and completeness (Proofs/C18) and `proveHash_append` (trailing elements) go.
-/
import Goloop.Proofs.C18Rlp
namespace Goloop.C18
open Goloop.C17

/-- `r` is not a panic and every ok result satisfies `Q` -/
def Safe {α : Type} (Q : α → Prop) (r : Res α) : Prop := r ≠ .panic ∧ ∀ a, r = .ok a → Q a

theorem safe_ok {α : Type} {Q : α → Prop} {a : α} (h : Q a) : Safe Q (.ok a) :=
  ⟨by simp, fun b hb => by cases hb; exact h⟩

theorem safe_err {α : Type} {Q : α → Prop} : Safe Q (.err : Res α) :=
  ⟨by simp, fun b hb => by cases hb⟩

theorem safe_bind {α β : Type} {Q : α → Prop} {Q' : β → Prop} {r : Res α} {f : α → Res β}
    (hr : Safe Q r) (hf : ∀ a, Q a → Safe Q' (f a)) : Safe Q' (r.bind f) := by
  cases r with
  | ok a => exact hf a (hr.2 a rfl)
  | err => exact safe_err
  | panic => exact absurd rfl hr.1

theorem safe_mono {α : Type} {Q Q' : α → Prop} {r : Res α} (h : Safe Q r) (hq : ∀ a, Q a → Q' a) :
    Safe Q' r := ⟨h.1, fun a ha => hq a (h.2 a ha)⟩

theorem safe_ite {α : Type} (Q : α → Prop) (c : Prop) [Decidable c] (a b : Res α)
    (ha : Safe Q a) (hb : Safe Q b) : Safe Q (if c then a else b) := by
  split <;> assumption

theorem safe_readSize (b : Bytes) (n : Nat) : Safe (fun _ => True) (readSize b n) := by
  unfold readSize
  exact safe_ite _ _ _ _ safe_err (safe_ite _ _ _ _ safe_err (safe_ok trivial))

/-- a parsed header never announces an empty item -/
def HdrPos (r : Bool × Nat × Nat) : Prop := 1 ≤ r.2.1 + r.2.2

theorem safe_parseHeader (buf : Bytes) : Safe HdrPos (parseHeader buf) := by
  cases buf with
  | nil => exact safe_err
  | cons b rest =>
    have long : ∀ (n : Nat) (isl : Bool),
        Safe HdrPos ((readSize rest n).bind fun s => .ok (isl, n + 1, s)) := fun n isl =>
      safe_bind (safe_readSize rest n) fun s _ =>
        safe_ok (Nat.le_add_right_of_le (Nat.le_add_left 1 n))
    rw [parseHeader_cons]
    refine safe_bind (Q := HdrPos) ?_ (fun r hq => safe_ite _ _ _ _ safe_err (safe_ok hq))
    exact safe_ite _ _ _ _ (safe_ok (Nat.le_refl 1))
      (safe_ite _ _ _ _ (safe_ite _ _ _ _ safe_err (safe_ok (Nat.le_add_right 1 _)))
        (safe_ite _ _ _ _ (long _ _)
          (safe_ite _ _ _ _ (safe_ok (Nat.le_add_right 1 _)) (long _ _))))

-- the items are not empty: `nodeFromLink` reads `b[0]` of each (`fromLink []` is the model's panic)
theorem safe_splitItems (f : Nat) (b : Bytes) :
    Safe (fun r : List Bytes => ∀ e ∈ r, e ≠ []) (splitItems f b) := by
  fun_induction splitItems f b with
  | case1 | case2 => exact safe_ok (by simp)
  | case3 f b hb ih =>
    apply safe_bind (safe_parseHeader b)
    rintro ⟨l, ts, cs⟩ hq
    apply safe_bind (ih ts cs)
    intro r hr
    apply safe_ok
    intro e he
    rcases List.mem_cons.1 he with rfl | he
    · intro h0
      have h1 : 1 ≤ min (ts + cs) b.length := Nat.le_min.2 ⟨hq, List.length_pos_iff.2 hb⟩
      rw [← List.length_take, h0] at h1
      exact Nat.not_succ_le_zero 0 h1
    · exact hr e he

theorem safe_parseList (b : Bytes) :
    Safe (fun r : List Bytes => ∀ e ∈ r, e ≠ []) (parseList b) := by
  unfold parseList
  exact safe_bind (safe_parseHeader b) fun _ _ =>
    safe_ite _ _ _ _ safe_err (safe_splitItems _ _)

theorem safe_parseBytes (b : Bytes) : Safe (fun _ => True) (parseBytes b) := by
  unfold parseBytes
  exact safe_bind (safe_parseHeader b) fun _ _ =>
    safe_ite _ _ _ _ safe_err (safe_ok trivial)

theorem safe_decodeKeys (h0 : UInt8) (t : Bytes) : Safe (fun _ => True) (decodeKeys (h0 :: t)) := by
  unfold decodeKeys
  exact safe_ite _ _ _ _ (safe_ok trivial) (safe_ok trivial)

theorem safe_mapRes {α β : Type} (Q : β → Prop) (f : α → Res β) (l : List α)
    (h : ∀ a ∈ l, Safe Q (f a)) : Safe (fun r : List β => ∀ x ∈ r, Q x) (mapRes f l) := by
  fun_induction mapRes f l with
  | case1 => exact safe_ok (by simp)
  | case2 a l ih =>
    apply safe_bind (Q := Q) (h a (by simp))
    intro x hx
    apply safe_bind (ih (fun b hb => h b (by simp [hb])))
    intro xs hxs
    apply safe_ok
    intro y hy
    rcases List.mem_cons.1 hy with rfl | hy
    · exact hx
    · exact hxs y hy

/-- the walk inside a decoded node never calls `prove` on a nil interface: the decoder refuses an
    extension whose next link is nil, and `branch.prove` tests a child before it descends -/
theorem safe_deserialize (f : Nat) (s : Bytes) :
    Safe (fun n : PNode => ∀ k, walk n k ≠ .nilPanic) (deserialize f s) := by
  induction f generalizing s with
  | zero => rw [deserialize]; exact safe_err
  | succ f ih =>
    have hlink : ∀ b : Bytes, b ≠ [] →
        Safe (fun n : PNode => ¬ n.isNil → ∀ k, walk n k ≠ .nilPanic) (fromLink f b) := by
      intro b hb
      cases b with
      | nil => exact absurd rfl hb
      | cons b0 t =>
        exact safe_ite _ _ _ _ (safe_mono (ih _) (fun n hn _ => hn))
          (safe_bind (safe_parseBytes _) fun v _ =>
            safe_ite _ _ _ _ (safe_ok fun h => absurd rfl h) (safe_ok fun _ _ => nofun))
    rw [deserialize_succ]
    refine safe_bind (safe_parseList s) fun bl hbl => ?_
    by_cases h2 : bl.length = 2
    · rw [if_pos h2]
      obtain ⟨a, b, rfl⟩ : ∃ a b, bl = [a, b] := by
        match bl, h2 with
        | [a, b], _ => exact ⟨a, b, rfl⟩
      refine safe_bind (safe_parseBytes _) fun kh _ => ?_
      cases kh with
      | nil => exact safe_err
      | cons h0 t =>
        refine safe_ite _ _ _ _ ?_ ?_
        · refine safe_bind (hlink b (hbl b (by simp))) fun nx hnx => ?_
          cases hnil : nx.isNil with
          | true => exact safe_err
          | false =>
            exact safe_bind (safe_decodeKeys h0 t) fun ks _ => safe_ok fun k => by
              unfold walk; split
              · nofun
              · exact hnx (ne_true_of_eq_false hnil) _
        · exact safe_bind (safe_decodeKeys h0 t) fun ks _ =>
            safe_bind (safe_parseBytes _) fun v _ => safe_ok fun k => by
              unfold walk; split <;> nofun
    · rw [if_neg h2]
      refine safe_ite _ _ _ _ ?_ safe_err
      refine safe_bind (safe_mapRes _ (fromLink f) (bl.take 16)
        (fun a ha => hlink a (hbl a (List.mem_of_mem_take ha)))) fun cs hcs => ?_
      have hch : ∀ i : Fin 16, ¬ (cs.getD i.val .nil).isNil → ∀ k, walk (cs.getD i.val .nil) k ≠ .nilPanic := by
        intro i
        rw [List.getD_eq_getElem?_getD]
        cases hg : cs[i.val]? with
        | none => exact fun h => absurd rfl h
        | some x => exact hcs x (List.mem_of_getElem? hg)
      refine safe_bind (safe_parseBytes _) fun v _ => safe_ok fun k => ?_
      cases k with
      | nil => unfold walk; split <;> nofun
      | cons i r =>
        unfold walk; split
        · nofun
        · rename_i hnil; exact hch i hnil r

theorem proveHash_total (H : Bytes → Bytes) (π : List Bytes) (h : Bytes) (k : List Nibble) :
    proveHash H π h k ≠ .panic := by
  -- the paths of `proveHash`: 4 the decoder panics, 8 the walk meets a nil node, 9 the jump to the next
  -- element; on the others it answers at once
  fun_induction proveHash H π h k with
  | case1 | case2 | case3 | case5 | case6 | case7 => nofun
  | case4 b _ _ _ _ hd => exact absurd hd (safe_deserialize _ b).1
  | case8 b _ _ k _ n hd _ hw => exact absurd hw ((safe_deserialize _ b).2 n hd k)
  | case9 => assumption

/-- what the verifier has established when it stands at node `n` with remaining key `k` and
    remaining proof `π`, and finally answers `ok v` -/
def Acc (H : Bytes → Bytes) (n : PNode) (k : List Nibble) (π : List Bytes) (v : Bytes) : Prop :=
  match walk n k with
  | .value v' => v' = v
  | .jump h k' => proveHash H π h k' = .ok v
  | _ => False

/-- one step of the verifier, read off an accepted value: the first element has the expected
    hash and decodes, a hashed leaf is the last element, and the walk inside the decoded node
    ends in the value or in a jump from which the rest is accepted -/
theorem proveHash_ok_iff (H : Bytes → Bytes) (b : Bytes) (rest : List Bytes) (h : Bytes)
    (k : List Nibble) (v : Bytes) :
    proveHash H (b :: rest) h k = .ok v ↔
      H b = h ∧ ∃ n, deserialize (b.length + 1) b = .ok n ∧
        (n.isLeaf && !rest.isEmpty) = false ∧ Acc H n k rest v := by
  rw [proveHash]
  by_cases hh : H b = h
  · rw [if_neg (not_not_intro hh)]
    cases hd : deserialize (b.length + 1) b with
    | err => simp
    | panic => simp
    | ok n =>
      simp only [hh, true_and, Res.ok.injEq, exists_eq_left', Acc]
      cases hl : (n.isLeaf && !rest.isEmpty)
      · cases walk n k <;> simp
      · simp
  · simp [hh]

/-- a proof element that decodes to a leaf node (the only node kind whose `prove` checks
    `len(proof) == 1`) -/
def LeafItem (b : Bytes) : Prop := ∃ n, deserialize (b.length + 1) b = .ok n ∧ n.isLeaf = true

theorem proveHash_append (H : Bytes → Bytes) (π extra : List Bytes) (h : Bytes) (k : List Nibble)
    (v : Bytes) (hok : proveHash H π h k = .ok v) (hnl : ∀ b ∈ π, ¬ LeafItem b) :
    proveHash H (π ++ extra) h k = .ok v := by
  induction π generalizing h k with
  | nil => simp [proveHash] at hok
  | cons b rest ih =>
    obtain ⟨hh, n, hd, _, hacc⟩ := (proveHash_ok_iff H b rest h k v).1 hok
    have hleaf : n.isLeaf = false :=
      Bool.eq_false_iff.2 fun hl => hnl b List.mem_cons_self ⟨n, hd, hl⟩
    refine (proveHash_ok_iff H b (rest ++ extra) h k v).2 ⟨hh, n, hd, by rw [hleaf]; rfl, ?_⟩
    unfold Acc at hacc ⊢
    cases hw : walk n k with
    | jump h' k' =>
      rw [hw] at hacc
      exact ih h' k' hacc fun b' hb' => hnl b' (List.mem_cons_of_mem _ hb')
    | _ => rw [hw] at hacc; exact hacc

end Goloop.C18
