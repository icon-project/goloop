/-
  Proofs/C18: proof soundness / completeness on the structural level, relative to a
  decoder hypothesis `DecOK`, discharged for normal-form tries by `good_decOK` (Props/C18) from the
  decoder inversion of Proofs/C18Rlp.

  `below n k` is the honest proof under a node, `Acc (toP H n) k π v` says that the verifier,
  standing at `n`, ends in `ok v`.  Completeness: a stored value is accepted with `below n k`
  (`getProof_complete`); soundness: what is accepted is stored and `below n k` is a prefix of the
  proof, or an element of the proof is forged (`accept_spec`).  Both step through a child
  reference by `proveHash_ok_iff`.
-/
import Goloop.Proofs.C18Total
namespace Goloop.C18
open Goloop.C17

section
variable (H : Bytes → Bytes)

theorem serialize_empty_len : (serialize H .empty).length = 1 := rfl

/-- a predicate on nodes that is inherited by the nodes below (instantiated with normal form +
    size bounds) -/
structure Hered (P : Node → Prop) : Prop where
  notEmpty : ¬ P .empty
  ext : ∀ ks nx, P (.ext ks nx) → P nx
  branch : ∀ ch v i, P (.branch ch v) → (ch i).isEmpty = false → P (ch i)

theorem walk_ext_append (ks : List Nibble) (nx : Node) (r : List Nibble) :
    walk (toP H (.ext ks nx)) (ks ++ r) = walk (ref H nx) r := by
  show (if cpl ks (ks ++ r) < ks.length then _ else walk (ref H nx) _) = _
  rw [cpl_append', if_neg (Nat.lt_irrefl _), List.drop_left]

theorem walk_ext_of_cpl_lt (ks : List Nibble) (nx : Node) (k : List Nibble) (h : cpl k ks < ks.length) :
    walk (toP H (.ext ks nx)) k = .notFound := by
  show (if cpl ks k < ks.length then _ else walk (ref H nx) _) = _
  rw [if_pos (cpl_comm k ks ▸ h)]

theorem walk_branch_cons (ch : Fin 16 → Node) (v : Option Bytes) (i : Nibble) (r : List Nibble) :
    walk (toP H (.branch ch v)) (i :: r) =
      if (ch i).isEmpty then .notFound else walk (ref H (ch i)) r := by
  show (if (ref H (ch i)).isNil then _ else _) = _
  rw [ref_isNil]; rfl

/-- decoder hypothesis: every `P`-node's serialisation decodes to its `toP` view -/
def DecOK (P : Node → Prop) : Prop :=
  ∀ n, P n → deserialize ((serialize H n).length + 1) (serialize H n) = .ok (toP H n)

def Collision : Prop := ∃ a b : Bytes, a ≠ b ∧ H a = H b

/-- a forged element: a member of the presented proof that is not the serialisation of the
    `P`-node whose hash it has.  This is the collision the verifier can be fooled by; unlike
    `Collision H` (true of every `H` with bounded output) it is a statement about `π`. -/
def Forged (P : Node → Prop) (π : List Bytes) : Prop :=
  ∃ a ∈ π, ∃ m, P m ∧ a ≠ serialize H m ∧ H a = H (serialize H m)

theorem Forged.collision {P : Node → Prop} {π : List Bytes} (h : Forged H P π) : Collision H :=
  let ⟨a, _, m, _, hne, he⟩ := h; ⟨a, serialize H m, hne, he⟩

theorem Forged.cons {P : Node → Prop} {π : List Bytes} (b : Bytes) (h : Forged H P π) :
    Forged H P (b :: π) :=
  let ⟨a, ha, r⟩ := h; ⟨a, List.mem_cons_of_mem b ha, r⟩

example (P : Node → Prop) : ¬ Forged H P [] := fun ⟨_, h, _⟩ => nomatch h

/-- the proof element a node contributes itself -/
def ownElem (r : Bool) (n : Node) : List Bytes := if hasHash H r n then [serialize H n] else []

/-- a child is referred to by its hash, and then contributes its serialisation to the proof, or it
    is embedded in its parent and contributes nothing -/
theorem ref_cases (c : Node) :
    ref H c = .hash (H (serialize H c)) ∧ ownElem H false c = [serialize H c] ∨
      ref H c = toP H c ∧ ownElem H false c = [] := by
  unfold ref ownElem hasHash
  by_cases h : (serialize H c).length > 32 <;> simp [h]

theorem push_ownElem (r : Bool) (n : Node) (items : List Bytes) :
    (if hasHash H r n then items ++ [serialize H n] else items) = items ++ ownElem H r n := by
  unfold ownElem; split <;> simp

/-- the honest proof below `n` for key `k`: what GetProof appends after `n`'s own element -/
def below : Node → List Nibble → List Bytes
  | .ext ks nx, k => ownElem H false nx ++ below nx (k.drop ks.length)
  | .branch ch _, i :: r => ownElem H false (ch i) ++ below (ch i) r
  | _, _ => []

theorem below_ext_append (ks : List Nibble) (nx : Node) (r : List Nibble) :
    below H (.ext ks nx) (ks ++ r) = ownElem H false nx ++ below H nx r := by
  rw [below, List.drop_left]

theorem isEmpty_of_get {n : Node} {k : List Nibble} {v : Bytes} (h : get n k = some v) :
    n.isEmpty = false := by
  cases n with
  | empty => simp at h
  | _ => rfl

/- The walks below follow `get n k` by `fun_induction`: `case1`, `case2`, … are the paths through the
   body of `get` from top to bottom (empty; leaf with its key, with another; extension left early,
   passed; branch at the end of the key, below a child). -/

theorem getProof_of_get (n : Node) (k : List Nibble) (v : Bytes) (hg : get n k = some v)
    (r : Bool) (items : List Bytes) :
    getProof H r n k items = some (items ++ ownElem H r n ++ below H n k) := by
  revert hg
  fun_induction get n k generalizing r items with
  | case1 | case3 | case4 => nofun
  | case2 x k => intro _; simp only [getProof, if_true, push_ownElem, below, List.append_nil]
  | case5 ks nx k h ih =>
    intro hg
    obtain ⟨r', rfl⟩ := prefix_of_cpl h
    rw [cpl_append, List.drop_left] at hg ih
    simp only [getProof, cpl_append', Nat.lt_irrefl, if_false, List.drop_left', push_ownElem]
    rw [ih _ _ hg, below_ext_append, List.append_assoc]
  | case6 ch w => intro _; simp only [getProof, push_ownElem, below, List.append_nil]
  | case7 ch w i r' ih =>
    intro hg
    simp only [getProof, isEmpty_of_get hg, Bool.false_eq_true, if_false, push_ownElem]
    rw [ih _ _ hg, below, List.append_assoc]

theorem getProofRoot_of_get (t : Node) (k : List Nibble) (v : Bytes) (hg : get t k = some v) :
    getProofRoot H t k = some (serialize H t :: below H t k) := by
  rw [getProofRoot, getProof_of_get H t k v hg]
  simp [ownElem, hasHash]

/-- a hashed node `c` accepts its own serialisation followed by the honest proof below it; a
    hashed leaf wants to be the last element, and below a leaf the honest proof is empty -/
theorem complete_hashed (P : Node → Prop) (hdec : DecOK H P) (c : Node) (hc : P c)
    (r' : List Nibble) (v : Bytes) (ihw : Acc H (toP H c) r' (below H c r') v) :
    proveHash H (serialize H c :: below H c r') (H (serialize H c)) r' = .ok v := by
  refine (proveHash_ok_iff H _ _ _ r' v).2 ⟨rfl, _, hdec c hc, ?_, ihw⟩
  cases c <;> rfl

/-- continuing a proof below a referenced child `c` (hashed or embedded) -/
theorem complete_step (P : Node → Prop) (hdec : DecOK H P) (c : Node) (hc : P c)
    (r' : List Nibble) (v : Bytes) (ihw : Acc H (toP H c) r' (below H c r') v) :
    Acc H (ref H c) r' (ownElem H false c ++ below H c r') v := by
  rcases ref_cases H c with ⟨hr, hh⟩ | ⟨hr, hh⟩ <;> rw [hr, hh]
  · exact complete_hashed H P hdec c hc r' v ihw
  · exact ihw

theorem getProof_complete (P : Node → Prop) (hP : Hered P) (hdec : DecOK H P)
    (n : Node) (hn : P n) (k : List Nibble) (v : Bytes) (hg : get n k = some v) (hv : v ≠ []) :
    Acc H (toP H n) k (below H n k) v := by
  revert hg
  fun_induction get n k with
  | case1 | case3 | case4 => nofun
  | case2 x k => intro hg; cases hg; simp [Acc, toP, walk]
  | case5 ks nx k h ih =>
    intro hg
    obtain ⟨r', rfl⟩ := prefix_of_cpl h
    rw [cpl_append, List.drop_left] at hg ih
    unfold Acc
    rw [walk_ext_append, below_ext_append]
    exact complete_step H P hdec nx (hP.ext ks nx hn) r' v (ih (hP.ext ks nx hn) hg)
  | case6 ch w =>
    rintro rfl
    cases v with
    | nil => exact absurd rfl hv
    | cons a t => simp [Acc, toP, walk]
  | case7 ch w i r' ih =>
    intro hg
    have he := isEmpty_of_get hg
    have hci := hP.branch ch w i hn he
    unfold Acc
    rw [walk_branch_cons, he, if_neg (by simp), below]
    exact complete_step H P hdec (ch i) hci r' v (ih hci hg)

/-- what an accepted proof `π` says at node `n`: the value is the stored one and the honest proof
    below `n` is a prefix of `π` -/
def Honest (n : Node) (k : List Nibble) (π : List Bytes) (v : Bytes) : Prop :=
  get n k = some v ∧ below H n k <+: π

theorem accept_hashed (P : Node → Prop) (hdec : DecOK H P) (c : Node) (hc : P c)
    (r' : List Nibble) (π : List Bytes) (v : Bytes)
    (ih : ∀ π, Acc H (toP H c) r' π v → Forged H P π ∨ Honest H c r' π v)
    (h : proveHash H π (H (serialize H c)) r' = .ok v) :
    Forged H P π ∨ get c r' = some v ∧ (serialize H c :: below H c r') <+: π := by
  cases π with
  | nil => simp [proveHash] at h
  | cons b rest =>
    obtain ⟨hh, n, hd, _, hacc⟩ := (proveHash_ok_iff H b rest _ r' v).1 h
    by_cases hb : b = serialize H c
    · subst hb
      cases (hdec c hc).symm.trans hd
      exact (ih rest hacc).imp (Forged.cons H _) fun ⟨hg, hpre⟩ =>
        ⟨hg, List.cons_prefix_cons.2 ⟨rfl, hpre⟩⟩
    · exact Or.inl ⟨b, List.mem_cons_self, c, hc, hb, hh⟩

theorem accept_step (P : Node → Prop) (hdec : DecOK H P) (c : Node) (hc : P c)
    (r' : List Nibble) (π : List Bytes) (v : Bytes)
    (ih : ∀ π, Acc H (toP H c) r' π v → Forged H P π ∨ Honest H c r' π v)
    (h : Acc H (ref H c) r' π v) :
    Forged H P π ∨ get c r' = some v ∧ (ownElem H false c ++ below H c r') <+: π := by
  rcases ref_cases H c with ⟨hr, hh⟩ | ⟨hr, hh⟩ <;> rw [hr] at h <;> rw [hh]
  · exact accept_hashed H P hdec c hc r' π v ih h
  · exact ih π h

/-- **soundness**, with the honest proof: whatever the verifier accepts at `n` is what the trie
    stores, and GetProof's elements below `n` are the first it has consumed -/
theorem accept_spec (P : Node → Prop) (hP : Hered P) (hdec : DecOK H P)
    (n : Node) (hn : P n) (k : List Nibble) (v : Bytes) (π : List Bytes)
    (h : Acc H (toP H n) k π v) : Forged H P π ∨ Honest H n k π v := by
  unfold Honest
  unfold Acc at h
  fun_induction get n k generalizing π with
  | case1 => exact absurd hn hP.notEmpty
  | case2 x k =>
    simp only [toP, walk, if_pos] at h
    exact Or.inr ⟨congrArg some h, List.nil_prefix⟩
  | case3 ks x k hk => simp [toP, walk, Ne.symm hk] at h
  | case4 ks nx k hc => rw [walk_ext_of_cpl_lt H ks nx k hc] at h; exact h.elim
  | case5 ks nx k hc ih =>
    obtain ⟨r', rfl⟩ := prefix_of_cpl hc
    rw [cpl_append, List.drop_left] at ih ⊢
    rw [walk_ext_append] at h
    rw [below_ext_append]
    exact accept_step H P hdec nx (hP.ext ks nx hn) r' π v (ih (hP.ext ks nx hn)) h
  | case6 ch w =>
    refine Or.inr ⟨?_, List.nil_prefix⟩
    -- for no value and for an empty one `walk` says `.notFound` (`toP` reads `some []` back as none): there `h` is `False`
    match w, h with
    | some (_ :: _), h => exact congrArg some h
  | case7 ch w i r' ih =>
    rw [walk_branch_cons] at h
    by_cases he : (ch i).isEmpty = true
    · rw [if_pos he] at h; exact h.elim
    · have he' : (ch i).isEmpty = false := by simpa using he
      rw [if_neg he] at h
      exact accept_step H P hdec (ch i) (hP.branch ch w i hn he') r' π v (ih (hP.branch ch w i hn he')) h

end
end Goloop.C18
