/-
  Proofs/C09Retry: the retry pattern preserves the invariant of `Sim`.
-/
import Goloop.Proofs.C09Ser
import Goloop.Model.C09Retry
namespace Goloop.C09.Proofs
open Goloop.C09

variable {txs : List Tx} {retry : List Bool} {init : List Nat}

/-- `fire` moves the state of transaction `i` only; its pc advances iff a step was left -/
theorem stOf_fire (txs : List Tx) (lks : List Locks) (s : Sim) {i : Nat} (hl : i < s.sts.length) :
    ∃ st' : TxSt, (∀ j, stOf (fire txs lks s i) j = if j = i then st' else stOf s j) ∧
      st'.pc = (if ((txAt txs i).prog[(stOf s i).pc]?).isSome then (stOf s i).pc + 1 else (stOf s i).pc) := by
  unfold txAt stOf
  -- on every path `fire` sets entry `i` of `sts`; what the path found at `prog[pc]?` decides the `if`
  fun_cases fire txs lks s i <;> exact ⟨_, fun j => stOf_set s i _ hl j _ _, by rw [‹_[_]? = _›]; rfl⟩

theorem restore_length (l : List (Nat × Nat)) : ∀ real : List Nat, (restore real l).length = real.length := by
  induction l with
  | nil => intro real; rfl
  | cons p rest ih => intro real; exact (ih _).trans (List.length_set ..)

/-- entries taken from a store `σ` as long as the live one: `restore` puts `σ`'s values back at their keys -/
theorem restore_getD (σ : List Nat) (l : List (Nat × Nat)) (hv : ∀ p ∈ l, p.2 = σ.getD p.1 0) (a : Nat) :
    ∀ real : List Nat, σ.length = real.length →
      (restore real l).getD a 0 = if hasKey l a = true then σ.getD a 0 else real.getD a 0 := by
  induction l with
  | nil => intro real _; rfl
  | cons p rest ih =>
    intro real hlen
    show (restore (real.set p.1 p.2) rest).getD a 0 = if (decide (p.1 = a) || hasKey rest a) = true then _ else _
    rw [ih (fun q hq => hv q (List.mem_cons_of_mem _ hq)) _ (hlen.trans List.length_set.symm), getD_set]
    cases hasKey rest a
    · by_cases hp : p.1 = a
      · subst hp
        by_cases hlt : p.1 < real.length
        · simp [hlt, hv p List.mem_cons_self]
        · -- a key beyond the stores: nothing is set, and both stores read the default
          simp [hlt, List.getD_eq_getElem?_getD, List.getElem?_eq_none (hlen ▸ Nat.le_of_not_lt hlt)]
      · simp [hp]
    · simp

structure RInv (txs : List Tx) (retry : List Bool) (init : List Nat) (r : RSim) : Prop where
  inv : Inv txs init r.sim
  lenRS : r.rs.length = txs.length
  notSnapped : ∀ i, i < txs.length → retry.getD i false = true → (rsOf r i).snapped = false →
    (stOf r.sim i).pc = 0
  wsnapOk : ∀ i, i < txs.length → ∀ σ, (rsOf r i).wsnap = some σ →
    σ.length = init.length ∧ (∀ a, σ.getD a 0 = (seqState txs init i).getD a 0) ∧
    (∀ j, j < i → (stOf r.sim j).committed = true)
  wsnapSome : ∀ i, i < txs.length → (rsOf r i).snapped = true → (lkAt txs i).world = 2 →
    ∃ σ, (rsOf r i).wsnap = some σ
  /-- `smallerDone` makes `i` the owner (`Inv.own`) of an account with a start entry: what Reset puts back there is what
      `own` asks of `i` at pc 0 -/
  startOk : ∀ i, i < txs.length → retry.getD i false = true → ∀ p ∈ (rsOf r i).start,
    writer txs i p.1 = true ∧ p.2 = (seqState txs init i).getD p.1 0 ∧ smallerDone txs r.sim i p.1
  /-- a writable account without a start entry still has, in the sequential run of `i` up to its pc, the value from
      before `i`: Reset need not restore it -/
  startCover : ∀ i, i < txs.length → retry.getD i false = true → (lkAt txs i).world = 0 →
    ∀ a, writer txs i a = true → hasKey (rsOf r i).start a = false →
    (P txs init i (stOf r.sim i).pc).1.getD a 0 = (seqState txs init i).getD a 0

/-- what `RInv` says about the retry data `rs` of transaction `i` when it stands at `pc` and the committed
    transactions are those of `s` -/
structure RAt (txs : List Tx) (retry : List Bool) (init : List Nat) (s : Sim) (pc : Nat) (rs : RSt) (i : Nat) : Prop where
  notSnapped : retry.getD i false = true → rs.snapped = false → pc = 0
  wsnapOk : ∀ σ, rs.wsnap = some σ →
    σ.length = init.length ∧ (∀ a, σ.getD a 0 = (seqState txs init i).getD a 0) ∧
    (∀ j, j < i → (stOf s j).committed = true)
  wsnapSome : rs.snapped = true → (lkAt txs i).world = 2 → ∃ σ, rs.wsnap = some σ
  startOk : retry.getD i false = true → ∀ p ∈ rs.start,
    writer txs i p.1 = true ∧ p.2 = (seqState txs init i).getD p.1 0 ∧ smallerDone txs s i p.1
  startCover : retry.getD i false = true → (lkAt txs i).world = 0 →
    ∀ a, writer txs i a = true → hasKey rs.start a = false →
    (P txs init i pc).1.getD a 0 = (seqState txs init i).getD a 0

theorem RInv.at {r : RSim} (h : RInv txs retry init r)
    {i : Nat} (hi : i < txs.length) : RAt txs retry init r.sim (stOf r.sim i).pc (rsOf r i) i :=
  ⟨h.notSnapped i hi, h.wsnapOk i hi, h.wsnapSome i hi, h.startOk i hi, h.startCover i hi⟩

theorem RAt.mono {s s' : Sim} {pc : Nat} {rs : RSt} {i : Nat} (h : RAt txs retry init s pc rs i)
    (hmono : ∀ j, (stOf s j).committed = true → (stOf s' j).committed = true) : RAt txs retry init s' pc rs i := by
  refine ⟨h.notSnapped, fun σ hσ => ?_, h.wsnapSome, fun hr p hp => ?_, h.startCover⟩
  · obtain ⟨a1, a2, a3⟩ := h.wsnapOk σ hσ
    exact ⟨a1, a2, fun j hj => hmono j (a3 j hj)⟩
  · obtain ⟨a1, a2, a3⟩ := h.startOk hr p hp
    exact ⟨a1, a2, fun j hj hja => hmono j (a3 j hj hja)⟩

/-- An event of an uncommitted transaction `i`: besides the invariant of `Sim`, only the retry data
    of `i` itself have to be looked at. -/
theorem rinv_event {r : RSim} (h : RInv txs retry init r)
    {i : Nat} (hi : i < txs.length) {sim' : Sim} {st' : RSt} (hinv : Inv txs init sim')
    (hnc : (stOf r.sim i).committed = false) (hother : ∀ j, j ≠ i → stOf sim' j = stOf r.sim j)
    (hat : RAt txs retry init sim' (stOf sim' i).pc st' i) : RInv txs retry init { sim := sim', rs := r.rs.set i st' } := by
  have key : ∀ j, j < txs.length → RAt txs retry init sim' (stOf sim' j).pc (rsOf ⟨sim', r.rs.set i st'⟩ j) j := by
    intro j hj
    rw [rsOf, getD_set_lt _ _ _ _ _ (h.lenRS ▸ hi)]
    split
    · subst j; exact hat
    · rw [hother j ‹_›]; exact (h.at hj).mono (committed_mono hnc hother)
  exact ⟨hinv, by simp [h.lenRS], fun j hj => (key j hj).notSnapped, fun j hj => (key j hj).wsnapOk,
    fun j hj => (key j hj).wsnapSome, fun j hj => (key j hj).startOk, fun j hj => (key j hj).startCover⟩

theorem hasKey_true {l : List (Nat × Nat)} {a : Nat} (h : hasKey l a = true) : ∃ p ∈ l, p.1 = a := by
  unfold hasKey at h
  rw [List.any_eq_true] at h
  obtain ⟨p, hp, hpa⟩ := h
  exact ⟨p, hp, of_decide_eq_true hpa⟩

theorem rinv_snap {r : RSim}
    (h : RInv txs retry init r) {i : Nat}
    (hen : enabledEv true txs retry (build txs) r (.snap i) = true) :
    RInv txs retry init (fireEv txs (build txs) r (.snap i)) := by
  simp only [enabledEv, Bool.and_eq_true, decide_eq_true_eq, Bool.not_eq_true'] at hen
  obtain ⟨⟨⟨⟨hi, hret⟩, hns⟩, hnc⟩, hg⟩ := hen
  have hat := h.at hi
  have hpc0 := hat.notSnapped hret hns
  have hP0 : (P txs init i (stOf r.sim i).pc).1 = seqState txs init i := by rw [hpc0]; rfl
  refine rinv_event h hi h.inv hnc (fun _ _ => rfl) ?_
  show RAt txs retry init r.sim _ (if (lkAt txs i).world = 2 then _ else _) i
  split
  · rename_i h2
    have hall : ∀ k, k < i → (stOf r.sim k).committed = true := by
      rw [if_pos ⟨h2, trivial⟩] at hg
      exact (allBefore_iff r.sim i).mp hg
    refine ⟨fun _ _ => hpc0, fun σ hσ => ?_, fun _ _ => ⟨_, rfl⟩, hat.startOk, hat.startCover⟩
    cases hσ
    exact ⟨h.inv.lenR, fun a => (h.inv.own a i hi (writer_of_world hi h2 a) hnc fun k hk _ => hall k hk).trans
      (by rw [hP0]), hall⟩
  · rename_i h2
    refine ⟨fun _ _ => hpc0, hat.wsnapOk, fun _ hw => absurd hw h2, fun _ p hp => ?_,
      fun _ _ a _ _ => by rw [hP0]⟩
    obtain ⟨l, hl, hlp⟩ := List.mem_filterMap.mp hp
    split at hlp
    · rename_i hcond
      cases hlp
      have hwr := (writer_iff_entry hi h2 _).mpr ⟨l, hl, rfl, hcond.1⟩
      have hsm : smallerDone txs r.sim i l.acct := fun k hk hka => by
        rw [(dep_spec (Nat.le_of_lt hi) l.acct).2 ((las_dep hi hl).symm.trans hcond.2) k hk] at hka
        cases hka
      exact ⟨hwr, (h.inv.own _ i hi hwr hnc hsm).trans (by rw [hP0]), hsm⟩
    · cases hlp

theorem rinv_reset (hs : Supported txs) {r : RSim}
    (h : RInv txs retry init r) {i : Nat}
    (hen : enabledEv true txs retry (build txs) r (.reset i) = true) :
    RInv txs retry init (fireEv txs (build txs) r (.reset i)) := by
  simp only [enabledEv, Bool.and_eq_true, decide_eq_true_eq, Bool.not_eq_true'] at hen
  obtain ⟨⟨⟨⟨hi, hret⟩, hsn⟩, _⟩, hnc⟩ := hen
  have hat := h.at hi
  have hso := hat.startOk hret
  -- The store after Reset is `seqState i` on the accounts `i` owns: by `restore_getD` where `start` has an entry, by
  -- `startCover` and `own` where not. (`real'` with an equation, so that `split` meets the `if` of the store only.)
  have hspec : ∀ real', real' = (if (lkAt txs i).world = 2 then (rsOf r i).wsnap.getD r.sim.real
        else restore r.sim.real (rsOf r i).start) →
      real'.length = init.length ∧
      (∀ a, writer txs i a = true → smallerDone txs r.sim i a →
        real'.getD a 0 = (seqState txs init i).getD a 0) ∧
      (∀ a, ¬ (writer txs i a = true ∧ smallerDone txs r.sim i a) → real'.getD a 0 = r.sim.real.getD a 0) := by
    rintro _ rfl
    split
    · rename_i h2
      obtain ⟨σ, hσ⟩ := hat.wsnapSome hsn h2
      obtain ⟨hl, hv, hall⟩ := hat.wsnapOk σ hσ
      rw [hσ]
      exact ⟨hl, fun a _ _ => hv a,
        fun a hneg => absurd ⟨writer_of_world hi h2 a, fun k hk _ => hall k hk⟩ hneg⟩
    · rename_i h2
      have h0 : (lkAt txs i).world = 0 := (world_cases hs hi).resolve_right h2
      have hget := fun a => restore_getD (seqState txs init i) _ (fun p hp => (hso p hp).2.1) a r.sim.real
        ((seqState_length ..).trans h.inv.lenR.symm)
      refine ⟨by rw [restore_length]; exact h.inv.lenR, fun a hwa hsm => ?_, fun a hneg => ?_⟩
      · rw [hget]
        split
        · rfl
        · rename_i hk
          exact (h.inv.own a i hi hwa hnc hsm).trans (hat.startCover hret h0 a hwa (Bool.eq_false_iff.mpr hk))
      · rw [hget, if_neg]
        intro hk
        obtain ⟨p, hp, rfl⟩ := hasKey_true hk
        exact hneg ⟨(hso p hp).1, (hso p hp).2.2⟩
  obtain ⟨hl', hR1, hR2⟩ := hspec _ rfl
  have hsq := fun j => stOf_set r.sim i { stOf r.sim i with pc := 0, loc := ⟨0, []⟩ } (h.inv.lenS ▸ hi) j
    (if (lkAt txs i).world = 2 then (rsOf r i).wsnap.getD r.sim.real else restore r.sim.real (rsOf r i).start)
    r.sim.snaps
  have hother := fun j (hji : j ≠ i) => (hsq j).trans (if_neg hji)
  have hpc := congrArg TxSt.pc ((hsq i).trans (if_pos rfl))
  have hat' := hat.mono (committed_mono hnc hother)
  -- the transaction is back at its start: `P txs init i 0` is the sequential state before it
  exact rinv_event h hi
    (inv_update h.inv hi hnc (Nat.zero_le _) rfl hl' hR1 hR2 (fun _ h0 => absurd h0 (Nat.lt_irrefl 0))
      (fun _ _ _ _ _ _ => rfl))
    hnc hother (hpc.symm ▸ ⟨fun _ _ => rfl, hat'.wsnapOk, hat'.wsnapSome, hat'.startOk, fun _ _ _ _ _ => rfl⟩)

/-- `act` at the end of the program is the Commit of `Sim`; the retry data stay -/
theorem fireEv_act_commit (txs : List Tx) (r : RSim) (i : Nat)
    (hp : (txAt txs i).prog[(stOf r.sim i).pc]? = none) :
    fireEv txs (build txs) r (.act i) = { sim := fire txs (build txs) r.sim i, rs := r.rs.set i (rsOf r i) } := by
  have hp' : (List.getD txs i ⟨[], []⟩).prog[(r.sim.sts.getD i {}).pc]? = none := hp
  simp only [fireEv, hp']

/-- `act` at a program step: of the retry data only `start` can change; the first access through a
    write entry leaves a start entry -/
theorem fireEv_act_step (txs : List Tx) (r : RSim) (i : Nat) {step : Step}
    (hp : (txAt txs i).prog[(stOf r.sim i).pc]? = some step) :
    ∃ start', fireEv txs (build txs) r (.act i) =
        { sim := fire txs (build txs) r.sim i, rs := r.rs.set i { rsOf r i with start := start' } } ∧
      (start' = (rsOf r i).start ∨
        ∃ d, access (lkAt txs i) step.acct = .rw d ∧ hasKey (rsOf r i).start step.acct = false ∧
          start' = (rsOf r i).start ++ [(step.acct, r.sim.real.getD step.acct 0)]) ∧
      (∀ d, access (lkAt txs i) step.acct = .rw d → hasKey start' step.acct = true) := by
  have hp' : (List.getD txs i ⟨[], []⟩).prog[(r.sim.sts.getD i {}).pc]? = some step := hp
  simp only [fireEv, hp']
  split
  · rename_i d hacc
    have hacc' : access (lkAt txs i) step.acct = .rw d := hacc
    by_cases hk : hasKey (rsOf r i).start step.acct = true
    · rw [if_pos hk]
      exact ⟨_, rfl, .inl rfl, fun _ _ => hk⟩
    · rw [if_neg hk]
      exact ⟨_, rfl, .inr ⟨d, hacc', Bool.eq_false_iff.mpr hk, rfl⟩,
        fun _ _ => by simp [hasKey, List.any_append]⟩
  · rename_i hno
    exact ⟨_, rfl, .inl rfl, fun d h3 => absurd h3 (hno d)⟩

theorem rinv_act (hs : Supported txs) {r : RSim}
    (h : RInv txs retry init r) {i : Nat}
    (hen : enabledEv true txs retry (build txs) r (.act i) = true) :
    RInv txs retry init (fireEv txs (build txs) r (.act i)) := by
  simp only [enabledEv, Bool.and_eq_true, decide_eq_true_eq, Bool.or_eq_true, Bool.not_eq_true'] at hen
  obtain ⟨⟨hi, hena⟩, hretry⟩ := hen
  have hnc : (stOf r.sim i).committed = false := by
    cases hc : (stOf r.sim i).committed
    · rfl
    · rw [enabledTx_eq, hc] at hena; cases hena
  have hat := h.at hi
  obtain ⟨fst, hfs, hfpc⟩ := stOf_fire txs (build txs) r.sim (h.inv.lenS ▸ hi)
  have hother := fun j (hji : j ≠ i) => (hfs j).trans (if_neg hji)
  have hmono := committed_mono hnc hother
  cases hstp : (txAt txs i).prog[(stOf r.sim i).pc]? with
  | none =>
    rw [fireEv_act_commit txs r i hstp]
    refine rinv_event h hi (inv_fire hs h.inv hi hena) hnc hother ?_
    rw [hfs, if_pos rfl, hfpc, hstp]
    exact hat.mono hmono
  | some step =>
    obtain ⟨start', hshape, hstart, hkey⟩ := fireEv_act_step txs r i hstp
    rw [hshape]
    have hat' := hat.mono hmono
    refine rinv_event h hi (inv_fire hs h.inv hi hena) hnc hother ?_
    rw [hfs, if_pos rfl, hfpc, hstp]
    refine ⟨fun hr hn => ?_, hat'.wsnapOk, hat'.wsnapSome, fun hr p hp => ?_, fun hr hw0 a hwa hk => ?_⟩
    · rcases hretry with h1 | ⟨h1, _⟩
      · rw [hr] at h1; cases h1
      · cases hn.symm.trans h1
    · rcases hstart with h1 | ⟨d, hacc, hnk, h1⟩
      · exact hat'.startOk hr p (h1 ▸ hp)
      · rw [h1, List.mem_append] at hp
        rcases hp with hp | hp
        · exact hat'.startOk hr p hp
        · -- the entry made at the first access: the account is the transaction's and still untouched
          cases List.mem_singleton.mp hp
          have hsp := access_spec hi step.acct
          rw [hacc] at hsp
          obtain ⟨rfl, hwr⟩ := hsp
          have hw0 : (lkAt txs i).world = 0 :=
            (world_cases hs hi).resolve_right fun h2 => by rw [access_world h2] at hacc; cases hacc
          have hdep : depOK r.sim (dep txs i step.acct) = true := by
            have hen2 := hena
            rw [enabledTx_eq] at hen2
            simpa only [hnc, Bool.false_eq_true, if_false, hstp, hacc] using hen2
          have hsm : smallerDone txs r.sim i step.acct := (dep_done hs h.inv hi _ hdep).1
          exact ⟨hwr, (h.inv.own _ i hi hwr hnc hsm).trans (hat.startCover hr hw0 _ hwr hnk),
            fun j hj hja => hmono j (hsm j hj hja)⟩
    · have hkold : hasKey (rsOf r i).start a = false := by
        rcases hstart with h1 | ⟨_, _, _, h1⟩ <;> rw [h1] at hk
        · exact hk
        · simp only [hasKey, List.any_append, Bool.or_eq_false_iff] at hk
          exact hk.1
      have hold := hat.startCover hr hw0 a hwa hkold
      show (P txs init i ((stOf r.sim i).pc + 1)).1.getD a 0 = _
      rw [P_succ init hstp]
      by_cases hsa : step.acct = a
      · -- a step on `a` that made no entry does not go to the live store
        subst hsa
        rw [stepOn_quiet hs hi (List.mem_of_getElem? hstp) (fun d hacc => ?_) (fun hacc => ?_)]
        · exact hold
        · rw [hkey d hacc] at hk; cases hk
        · have hsp := access_spec hi step.acct
          rw [hacc, hw0] at hsp; cases hsp
      · rw [stepOn_getD_other _ _ _ _ _ a hsa]
        exact hold

theorem rsOf_rInit (nacc : Nat) (txs : List Tx) (i : Nat) : rsOf (rInit nacc txs) i = {} := by
  unfold rsOf rInit
  simp only [List.getD_eq_getElem?_getD, List.getElem?_map]
  cases txs[i]? <;> rfl

theorem rinv_init (hs : Supported txs) (retry : List Bool) (nacc : Nat) :
    RInv txs retry (initBal nacc) (rInit nacc txs) := by
  have hst : ∀ i, stOf (rInit nacc txs).sim i = {} := stOf_simInit nacc txs
  have hrs := rsOf_rInit nacc txs
  refine ⟨inv_init hs nacc, by simp [rInit], ?_, ?_, ?_, ?_, ?_⟩
  · intro i _ _ _; rw [hst]
  · intro i _ σ hσ; rw [hrs] at hσ; cases hσ
  · intro i _ hsn; rw [hrs] at hsn; cases hsn
  · intro i _ _ p hp; rw [hrs] at hp; cases hp
  · intro i _ _ _ a _ _; rw [hst]; rfl

theorem rinv_run (hs : Supported txs) :
    ∀ (evs : List Ev) (r r' : RSim), RInv txs retry init r →
      runEv true txs retry (build txs) evs r = some r' → RInv txs retry init r' := by
  intro evs r r'
  fun_induction runEv true txs retry (build txs) evs r with
  | case1 r => rintro h ⟨⟩; exact h
  | case2 e rest r hen ih =>
    refine fun h => ih ?_
    cases e with
    | snap i => exact rinv_snap h hen
    | act i => exact rinv_act hs h hen
    | reset i => exact rinv_reset hs h hen
  | case3 => exact fun _ => nofun

end Goloop.C09.Proofs
