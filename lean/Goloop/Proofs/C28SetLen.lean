/-
  Proofs/C28SetLen: the glue inside `Accumulator.SetLen` — `LevelFromLen l (+1 if powerOf16 l)` is
  the number of base-16 digits of `l`, the last `lvl` elements of `Prove(l-1, 0)` are the path
  nodes `truncRoots_path` needs — and what `Finalize` / `NewMerkleTree` / `Prove` return after
  plain `Add`s.
-/
import Goloop.Proofs.C28Tree
namespace Goloop.C28

theorem hexDigits_le_iff (d m : Nat) : hexDigits m ≤ d ↔ m < 16 ^ d := by
  induction m using hexDigits.induct generalizing d with
  | case1 => rw [hexDigits_zero]; exact ⟨fun _ => Nat.pow_pos (by decide), fun _ => Nat.zero_le _⟩
  | case2 n ih =>
    rw [hexDigits_pos (n + 1) (Nat.succ_pos n)]
    cases d with
    | zero => rw [Nat.pow_zero]; omega
    | succ d => rw [Nat.pow_succ, ← Nat.div_lt_iff_lt_mul (by decide), ← ih d]; omega
theorem one_eq_pow16 (n : Nat) (hn : n ≤ 15) : (n == 1) = true ↔ ∃ e, n = 16 ^ e := by
  constructor
  · intro h; exact ⟨0, by simpa using h⟩
  · rintro ⟨e, he⟩
    cases e with
    | zero => simpa using he
    | succ e =>
      have hp : 0 < 16 ^ e := Nat.pow_pos (by decide)
      rw [Nat.pow_succ] at he
      exact absurd (Nat.le_mul_of_pos_left 16 hp) (Nat.not_le.mpr (he ▸ Nat.lt_succ_of_le hn))

theorem pow16_step (n : Nat) (h : 15 < n) : (∃ e, n = 16 ^ e) ↔ n % 16 = 0 ∧ ∃ e, n / 16 = 16 ^ e := by
  constructor
  · rintro ⟨e, rfl⟩
    cases e with
    | zero => exact absurd h (by decide)
    | succ e =>
      rw [Nat.pow_succ]
      exact ⟨Nat.mul_mod_left _ _, e, Nat.mul_div_cancel _ (by decide)⟩
  · rintro ⟨hm, e, he⟩
    exact ⟨e + 1, by rw [Nat.pow_succ, ← he, Nat.div_mul_cancel (Nat.dvd_of_mod_eq_zero hm)]⟩

/-- the loop of `powerOf16` with `f+1` nibbles of fuel decides "is a power of 16" below `16^(f+1)` -/
theorem powerOf16Loop_spec : ∀ (f n : Nat), n < 16 ^ (f + 1) →
    (powerOf16Loop f n = true ↔ ∃ e, n = 16 ^ e) := by
  intro f
  induction f with
  | zero => intro n hn; exact one_eq_pow16 n (Nat.le_of_lt_succ hn)
  | succ f ih =>
    intro n hn
    rw [powerOf16Loop]
    by_cases hbig : n > 0xf
    · rw [if_pos hbig, pow16_step n hbig, guard_iff Bool.false_ne_true, Decidable.not_not,
        ih (n / 16) (Nat.div_lt_of_lt_mul (by rw [Nat.mul_comm, ← Nat.pow_succ]; exact hn))]
    · rw [if_neg hbig]; exact one_eq_pow16 n (Nat.le_of_not_lt hbig)

/-- for Go `int64` lengths `powerOf16` is exact -/
theorem powerOf16_spec (n : Nat) (hn : n < 2 ^ 63) : powerOf16 n = true ↔ ∃ e, n = 16 ^ e := by
  unfold powerOf16
  apply powerOf16Loop_spec
  -- `2 ^ 63`: `SetLen(l int64)`; the loop's fuel of 16 would do for every `n < 16 ^ 17`
  exact Nat.lt_trans hn (by decide)

/-- the level `SetLen` computes is the number of base-16 digits of `l` -/
theorem lvl_eq_hexDigits (l : Nat) (hl0 : 0 < l) (hl : l < 2 ^ 63) :
    levelFromLen l + (if powerOf16 l then 1 else 0) = hexDigits l := by
  -- both sides are the least `d` with `l < 16^d`
  have key : ∀ d, levelFromLen l + (if powerOf16 l then 1 else 0) ≤ d ↔ hexDigits l ≤ d := fun d => by
    rw [hexDigits_le_iff]
    by_cases hp : powerOf16 l = true
    · obtain ⟨e, rfl⟩ := (powerOf16_spec l hl).mp hp
      have he : levelFromLen (16 ^ e) = e := Nat.le_antisymm ((levelFromLen_le_iff hl0 e).mpr (Nat.le_refl _))
        ((Nat.pow_le_pow_iff_right (by decide)).mp ((levelFromLen_le_iff hl0 _).mp (Nat.le_refl _)))
      rw [if_pos hp, he, Nat.pow_lt_pow_iff_right (by decide)]; exact Nat.succ_le_iff
    · rw [if_neg hp, Nat.add_zero, levelFromLen_le_iff hl0]
      exact ⟨fun h => Nat.lt_of_le_of_ne h fun heq => hp ((powerOf16_spec l hl).mpr ⟨d, heq⟩), Nat.le_of_lt⟩
  exact Nat.le_antisymm ((key _).mpr (Nat.le_refl _)) ((key _).mp (Nat.le_refl _))

/-- the group on the path to key `l-1` at level `i` is the group in which the prefix of length
    `l` has something pending, whenever digit `i` of `l` is not 0 -/
theorem path_group (l i : Nat) (hl0 : 0 < l) (hq : (l / 16 ^ i) % 16 ≠ 0) :
    (l - 1) / 16 ^ (i + 1) = l / 16 ^ i / 16 := by
  obtain ⟨n, rfl⟩ : ∃ n, l = n + 1 := ⟨l - 1, (Nat.sub_add_cancel hl0).symm⟩
  rw [Nat.pow_succ, ← Nat.div_div_eq_div_mul, Nat.add_sub_cancel]
  -- `(n+1) / 16^i` is `n / 16^i` or one more, and is no multiple of 16
  rw [Nat.succ_div] at hq ⊢
  by_cases hd : 16 ^ i ∣ n + 1
  · rw [if_pos hd] at hq ⊢
    rw [Nat.succ_div, if_neg fun h => hq (Nat.mod_eq_zero_of_dvd h)]; rfl
  · rw [if_neg hd]; rfl

/-- what `Finalize`, `NewMerkleTree` and `Prove(key, 0)` return on the closed-form state of `xs`
    over a bucket as `Add` leaves it (content addressed, complete groups written) -/
theorem finalize_prove (H : Bytes → Bytes) (hlen : ∀ x, (H x).length = 32)
    (xs : List Bytes) (hx : All32 xs) (db : DB) (hok : AllOk H db) (hfw : FW H db xs) :
    ∃ db', Acc.finalize H { len := xs.length, roots := rootsOf H xs } db
        = some (⟨batch H xs, xs.length⟩, db') ∧ AllOk H db' ∧
      (NoCollVals H db' → 0 < xs.length →
        ∃ r, T H xs (levelFromLen xs.length) = [r] ∧
          (∀ d, newTree d ⟨batch H xs, xs.length⟩ =
            some { db := d, level := levelFromLen xs.length, root := r, cap := xs.length }) ∧
          ∀ key, key < xs.length →
            (⟨db', levelFromLen xs.length, r, xs.length⟩ : Tree).prove key 0 =
              .ok (pathNodes H xs key (levelFromLen xs.length))) := by
  obtain ⟨db', hfin, hg, haw⟩ := finalize_rootsOf H hlen xs hx db
  have hok' := hg.allOk hok
  have haw := haw hfw
  refine ⟨db', hfin, hok', ?_⟩
  intro hnc hpos
  obtain ⟨r, hr, hbatch, hL2⟩ := top_level H xs hpos
  have hr32 : r.length = 32 := T_all32 H hlen xs hx _ r (by rw [hr]; exact List.mem_singleton_self r)
  have hvalid : validNode r = true := by rw [validNode, hr32]; rfl
  refine ⟨r, hr, ?_, ?_⟩
  · intro d; rw [hbatch]; exact if_pos hvalid
  · intro key hkey
    have hk0 : key / 16 ^ (levelFromLen xs.length + 1) = 0 :=
      Nat.div_eq_of_lt (Nat.lt_of_lt_of_le hkey (Nat.le_trans ((levelFromLen_le_iff hpos _).mp (Nat.le_refl _))
        (Nat.pow_le_pow_right (by decide) (Nat.le_succ _))))
    have hroot : node (T H xs (levelFromLen xs.length)) (key / 16 ^ (levelFromLen xs.length + 1)) = r := by
      rw [hk0, hr]; exact List.append_nil r
    have hloop := proveLoop_spec H hlen db' xs hx hok' hnc haw key hkey (levelFromLen xs.length) hL2
    rw [hroot] at hloop
    exact prove_zero.mpr hloop

/-- the nodes `SetLen l` cuts (the last `hexDigits l` proof elements for key `l-1`, bottom level
    first), cut to the digits of `l`, are the roots of the prefix -/
theorem truncRoots_pathNodes (H : Bytes → Bytes) (hlen : ∀ x, (H x).length = 32)
    (xs : List Bytes) (hx : All32 xs) (l : Nat) (hl0 : 0 < l) (hl : l ≤ xs.length) :
    truncRoots (pathNodes H xs (l - 1) (hexDigits l)).reverse l = some (rootsOf H (xs.take l)) := by
  refine truncRoots_path H hlen _ xs l (fun i => (l - 1) / 16 ^ (i + 1)) hx hl (by rw [List.length_reverse, pathNodes_length])
    fun i hi => ⟨by simp [pathNodes_reverse], path_group l i hl0⟩

/-- `SetLen l` on the closed-form state of `xs` gives the closed-form
    state of `xs.take l` -/
theorem setLen_state (H : Bytes → Bytes) (hlen : ∀ x, (H x).length = 32)
    (xs : List Bytes) (hx : All32 xs) (db : DB) (hok : AllOk H db) (hfw : FW H db xs)
    (hbound : xs.length < 2 ^ 63) (l : Nat) (hl0 : 0 < l) (hl : l < xs.length) :
    ∃ db', Acc.finalize H { len := xs.length, roots := rootsOf H xs } db
        = some (⟨batch H xs, xs.length⟩, db') ∧
      (NoCollVals H db' →
        Acc.setLen H { len := xs.length, roots := rootsOf H xs } db l
          = ({ len := l, roots := rootsOf H (xs.take l) }, db', true, .ok)) := by
  obtain ⟨db', hfin, _, hrest⟩ := finalize_prove H hlen xs hx db hok hfw
  refine ⟨db', hfin, ?_⟩
  intro hnc
  have hpos : 0 < xs.length := Nat.lt_trans hl0 hl
  obtain ⟨r, _, hnew, hprove⟩ := hrest hnc hpos
  have hlvl := lvl_eq_hexDigits l hl0 (Nat.lt_trans hl hbound)
  have hle : hexDigits l ≤ levelFromLen xs.length :=
    (hexDigits_le_iff _ _).mpr (Nat.lt_of_lt_of_le hl ((levelFromLen_le_iff hpos _).mp (Nat.le_refl _)))
  have h1 : ¬ l > xs.length := Nat.not_lt.mpr (Nat.le_of_lt hl)
  have h2 : ¬ l = 0 := Nat.ne_of_gt hl0
  have h3 : ¬ l = xs.length := Nat.ne_of_lt hl
  have h4 : ¬ levelFromLen xs.length < hexDigits l := Nat.not_lt.mpr hle
  have htake : ((pathNodes H xs (l - 1) (hexDigits l)).reverse).take (hexDigits l)
      = (pathNodes H xs (l - 1) (hexDigits l)).reverse := by
    apply List.take_of_length_le; simp [pathNodes_length]
  unfold Acc.setLen
  simp only [h1, h2, h3, if_false, hfin, hnew db', hprove (l - 1) (Nat.lt_of_le_of_lt (Nat.sub_le _ _) hl), hlvl,
    pathNodes_length, h4, pathNodes_drop H xs (l - 1) hle, htake,
    truncRoots_pathNodes H hlen xs hx l hl0 (Nat.le_of_lt hl)]

end Goloop.C28
