/-
  Proofs/C02Trace — facts about effect traces (Model/C01: `walState`, `sentOf`, `finalizedOf`):
  durable-before-send and the height bound, both closed under taking prefixes (= crash points).
-/
import Goloop.Proofs.C01G1
namespace Goloop.C01

/-- one effect applied to the (synced, buffered) pair of WAL `w` -/
def walStep (w : Wal) (st : List Rec × List Rec) : Eff → List Rec × List Rec
  | .write w' r => if w' = w then (st.1, st.2 ++ [r]) else st
  | .sync w' => if w' = w then (st.1 ++ st.2, []) else st
  | .crash k => (st.1 ++ st.2.take k, [])
  | _ => st

theorem walGo_foldl (w : Wal) (st : List Rec × List Rec) (es : List Eff) :
    walGo w st es = es.foldl (walStep w) st := by
  induction es generalizing st with
  | nil => rfl
  | cons a t ih => cases a <;> simp only [walGo, List.foldl_cons, walStep] <;> (try split) <;> exact ih _

theorem walState_append (w : Wal) (es : List Eff) (e : Eff) :
    walState w (es ++ [e]) = walStep w (walState w es) e := by
  unfold walState
  rw [walGo_foldl, walGo_foldl, List.foldl_append]
  rfl

theorem walDurable_mono (w : Wal) (es : List Eff) (e : Eff) (r : Rec)
    (h : r ∈ walDurable w es) : r ∈ walDurable w (es ++ [e]) := by
  unfold walDurable at *
  rw [walState_append]
  fun_cases walStep w (walState w es) e <;> simp [h]

theorem walDurable_write_sync (w : Wal) (es : List Eff) (r : Rec) :
    r ∈ walDurable w ((es ++ [.write w r]) ++ [.sync w]) := by
  unfold walDurable
  rw [walState_append, walState_append]
  simp [walStep]

theorem lastFin_append_le (es : List Eff) (e : Eff) :
    lastFinalizedHeight es ≤ lastFinalizedHeight (es ++ [e]) := by
  unfold lastFinalizedHeight
  rw [finalizedOf_append, List.foldl_append]
  exact List.foldlRecOn _ _ (Nat.le_refl _) fun b hb x _ => Nat.le_trans hb (Nat.le_max_left _ _)

theorem lastFin_append_fin (es : List Eff) (h b : Nat) :
    lastFinalizedHeight (es ++ [.finalize h b]) = max (lastFinalizedHeight es) h := by
  unfold lastFinalizedHeight
  rw [finalizedOf_append, List.foldl_append]
  simp [finalizedOf]

theorem lastFin_append_other (es : List Eff) (e : Eff) (he : ∀ h b, e ≠ .finalize h b) :
    lastFinalizedHeight (es ++ [e]) = lastFinalizedHeight es := by
  unfold lastFinalizedHeight
  rw [finalizedOf_append]
  cases e <;> simp [finalizedOf] at he ⊢

/-- durable before send: every signed message handed to the network is in the synced round WAL -/
def DBS (es : List Eff) : Prop := ∀ m, m ∈ sentOf es → Rec.msg m ∈ walDurable .round es

/-- messages are only signed for a height at most one above the last finalized one -/
def HB (es : List Eff) : Prop :=
  ∀ m, m ∈ sentOf es → msgHeight m ≤ lastFinalizedHeight es + 1

/-- trace invariant, closed under prefixes (crash points) -/
structure TraceInv (me n : Nat) (es : List Eff) : Prop where
  dbs : ∀ p, DBS (es.take p)
  hb : ∀ p, HB (es.take p)
  /-- own signer, and own index below `n` on votes: what the replay asks of a WAL record before it advances
      (round, step) on it (`hm`, `hn` of `applyRoundWAL_dominates_msg`, supplied in `replayed_spec`) -/
  sg : ∀ m, m ∈ sentOf es → msgSigner m = me ∧ (∀ v, m = .vote v → me < n)

theorem take_append_one (es : List Eff) (e : Eff) (p : Nat) :
    (es ++ [e]).take p = es.take p ∨ (es ++ [e]).take p = es ++ [e] := by
  by_cases h : p ≤ es.length
  · left; rw [List.take_append_of_le_length h]
  · right; rw [List.take_of_length_le (by simp; omega)]

theorem traceInv_nil (me n : Nat) : TraceInv me n [] := by
  refine ⟨fun p m hm => ?_, fun p m hm => ?_, fun m hm => ?_⟩
  · rw [List.take_nil] at hm; cases hm
  · rw [List.take_nil] at hm; cases hm
  · cases hm

theorem TraceInv.dbs_all {me n : Nat} {es : List Eff} (h : TraceInv me n es) : DBS es :=
  List.take_length (l := es) ▸ h.dbs es.length

theorem TraceInv.hb_all {me n : Nat} {es : List Eff} (h : TraceInv me n es) : HB es :=
  List.take_length (l := es) ▸ h.hb es.length

theorem traceInv_take (me n : Nat) (es : List Eff) (c : Nat) (h : TraceInv me n es) :
    TraceInv me n (es.take c) := by
  refine ⟨?_, ?_, ?_⟩
  · intro p; rw [List.take_take]; exact h.dbs _
  · intro p; rw [List.take_take]; exact h.hb _
  · exact fun v hv => h.sg v ((sentOf_prefix (List.take_prefix c es)).subset hv)

/-- one more effect: the prefixes of the longer trace are those of the old one and the whole -/
theorem traceInv_append (me n : Nat) (es : List Eff) (e : Eff) (h : TraceInv me n es)
    (hd : DBS (es ++ [e])) (hb : HB (es ++ [e]))
    (hs : ∀ m, m ∈ sentOf (es ++ [e]) → msgSigner m = me ∧ (∀ v, m = .vote v → me < n)) :
    TraceInv me n (es ++ [e]) := by
  refine ⟨fun p => ?_, fun p => ?_, hs⟩ <;> rcases take_append_one es e p with h1 | h1 <;> rw [h1]
  · exact h.dbs p
  · exact hd
  · exact h.hb p
  · exact hb

theorem traceInv_append_nonsend (me n : Nat) (es : List Eff) (e : Eff) (he : ∀ m, e ≠ .send m)
    (h : TraceInv me n es) : TraceInv me n (es ++ [e]) :=
  traceInv_append me n es e h
    (fun m hm => walDurable_mono _ _ _ _ (h.dbs_all m (sentOf_nonsend es e he ▸ hm)))
    (fun m hm => Nat.le_trans (h.hb_all m (sentOf_nonsend es e he ▸ hm))
      (Nat.succ_le_succ (lastFin_append_le es e)))
    (fun m hm => h.sg m (sentOf_nonsend es e he ▸ hm))

theorem traceInv_append_send (me n : Nat) (es : List Eff) (m : Msg) (h : TraceInv me n es)
    (hin : Rec.msg m ∈ walDurable .round es)
    (hv : msgSigner m = me ∧ (∀ v, m = .vote v → me < n) ∧ msgHeight m ≤ lastFinalizedHeight es + 1) :
    TraceInv me n (es ++ [.send m]) := by
  have hl := Nat.succ_le_succ (lastFin_append_le es (.send m))
  refine traceInv_append me n es (.send m) h (fun m' hm' => walDurable_mono _ _ _ _ ?_) (fun m' hm' => ?_)
    (fun m' hm' => ?_) <;> rcases mem_sentOf_send hm' with h2 | rfl
  · exact h.dbs_all m' h2
  · exact hin
  · exact Nat.le_trans (h.hb_all m' h2) hl
  · exact Nat.le_trans hv.2.2 hl
  · exact h.sg m' h2
  · exact ⟨hv.1, hv.2.1⟩

end Goloop.C01
