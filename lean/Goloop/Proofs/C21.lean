/-
  Proofs/C21: (1) one coded part is read back whatever follows it (`parse_enc`), so `splitKeys` inverts
  `encodeParts` and `appendKeysB` is injective in the part list; (2) the integer encoders are those of C24
  (`*_eq_c24`), whose round trips make them injective; (3) the store's lookup laws, one ArrayDB operation against
  the list (`arr_step`), the key hypothesis for each builder, one DictDB operation against the map.
  `Small`, `AllSmall`, `ArrPre`, `DictOpOk` occur in statements of Props/C21.
-/
import Goloop.Model.C21
import Goloop.Base.Assoc
import Goloop.Props.C24
namespace Goloop.C21.Proofs
open Goloop Goloop.C21

theorem ofNat_toNat (n : Nat) (h : n < 256) : (UInt8.ofNat n).toNat = n :=
  UInt8.toNat_ofNat_of_lt' h

/-- started on `n / 256`, the loop counts the base-256 digits of `n` after the first -/
theorem countLoop_spec : ∀ (f n cnt : Nat), 1 ≤ n → n < 256 ^ (f + 1) →
    ∃ k, countLoop f (n / 256) cnt = cnt + k ∧ 256 ^ k ≤ n ∧ n < 256 ^ (k + 1)
  | 0, n, cnt, h1, h => ⟨0, rfl, h1, h⟩
  | f + 1, n, cnt, h1, h => by
    unfold countLoop
    by_cases hb : n / 256 > 0
    · rw [if_pos hb]
      obtain ⟨k, he, hlo, hhi⟩ := countLoop_spec f (n / 256) (cnt + 1) hb (Nat.div_lt_of_lt_mul (Nat.pow_succ' ▸ h))
      exact ⟨k + 1, by rw [he, Nat.add_assoc, Nat.add_comm 1], (Nat.le_div_iff_mul_le (by decide)).mp hlo,
        (Nat.div_lt_iff_lt_mul (by decide)).mp hhi⟩
    · rw [if_neg hb]; exact ⟨0, rfl, h1, Nat.lt_of_div_eq_zero (by decide) (Nat.eq_zero_of_not_pos hb)⟩

theorem countBytes_spec (n : Nat) (h1 : 1 ≤ n) (h : n ≤ maxInt) :
    ∃ k, countBytesForSize n = k + 1 ∧ k ≤ 7 ∧ 256 ^ k ≤ n ∧ n < 256 ^ (k + 1) := by
  have hm : maxInt < 256 ^ 8 := by decide
  obtain ⟨k, he, hlo, hhi⟩ := countLoop_spec 8 n 1 h1 (by omega)
  exact ⟨k, by rw [countBytesForSize, he, Nat.add_comm], Nat.le_of_lt_succ (lt_of_pow256 hlo (by omega)), hlo, hhi⟩

theorem beFixed_length (k n : Nat) : (beFixed k n).length = k := by
  induction k generalizing n with
  | zero => rfl
  | succ k ih => simp [beFixed, ih]

theorem beNat_beFixed : ∀ (k n : Nat), n < 256 ^ k → beNat (beFixed k n) = n
  | 0, n, h => by rw [Nat.lt_one_iff.mp h]; rfl
  | k + 1, n, h => beNat_snoc_digit (beNat_beFixed k (n / 256) (Nat.div_lt_of_lt_mul (Nat.pow_succ' ▸ h)))

theorem rlpReadSize_beFixed (k n : Nat) (rest : Bytes) (hlo : 256 ^ k ≤ n) (hhi : n < 256 ^ (k + 1))
    (h56 : 56 ≤ n) (hmax : n ≤ maxInt) : rlpReadSize (beFixed (k + 1) n ++ rest) (k + 1) = some n := by
  have hlen := beFixed_length (k + 1) n
  have hv := beNat_beFixed (k + 1) n hhi
  -- a size field worth at least `256 ^ k` in `k + 1` bytes cannot start with a zero byte
  have hhead : (beFixed (k + 1) n ++ rest).head? ≠ some 0 := by
    cases hb : beFixed (k + 1) n with
    | nil => rw [hb] at hlen; cases hlen
    | cons b r =>
      rw [hb] at hlen hv
      obtain rfl : r.length = k := Nat.succ.inj hlen
      exact fun h0 => (head_ne_zero_iff b r).mpr (hv ▸ hlo) (Option.some.inj h0)
  unfold rlpReadSize
  rw [if_neg (by rw [List.length_append, hlen]; omega)]
  simp only [List.take_left' hlen, hv]
  rw [if_neg (by rintro (h | h | h); omega; exact hhead h; omega)]

/-- a part is short enough to be a Go slice -/
def Small (p : Bytes) : Prop := p.length ≤ maxInt

theorem enc_cons (p : Bytes) : ∃ t r, rlpEncodeBytes p = t :: r := by
  fun_cases rlpEncodeBytes p with
  | case1 | case2 => exact ⟨_, _, rfl⟩
  | case3 _ h => exact ⟨_, _, if_pos h⟩
  | case4 _ h => exact ⟨_, _, if_neg h⟩

theorem parse_enc (p rest : Bytes) (hs : Small p) :
    rlpParseBytes (rlpEncodeBytes p ++ rest) = some (p, rest) := by
  -- one header byte: also the form of a single byte from `0x80` on
  have short : ∀ q : Bytes, q.length ≤ 55 →
      rlpParseBytes (UInt8.ofNat (0x80 + q.length) :: q ++ rest) = some (q, rest) := fun q hq => by
    simp only [List.cons_append, rlpParseBytes, ofNat_toNat (0x80 + q.length) (by omega)]
    rw [if_neg (not_add_lt _), if_pos (add_lt_of_le hq),
      Nat.add_sub_cancel_left, if_neg (not_length_append_lt _ _),
      List.take_left' rfl, List.drop_left' rfl]
  fun_cases rlpEncodeBytes p with
  | case1 x hx => exact if_pos hx
  | case2 x => exact short [x] (by decide : 1 ≤ 55)
  | case3 _ hshort => rw [if_pos hshort]; exact short p hshort
  | case4 _ hlong =>
    rw [if_neg hlong]
    obtain ⟨k, hk, k7, hlo, hhi⟩ := countBytes_spec p.length (by omega) hs
    rw [hk]
    simp only [List.cons_append, rlpParseBytes, ofNat_toNat (0x80 + 55 + (k + 1)) (by omega)]
    rw [if_neg (not_add_lt _), if_neg (Nat.not_lt.mpr (Nat.add_le_add_left (Nat.succ_le_succ (Nat.zero_le k)) _)),
      if_pos (add_lt_of_le (Nat.succ_le_succ k7)),
      show 0x80 + 55 + (k + 1) - 0xb7 = k + 1 by omega, List.append_assoc,
      rlpReadSize_beFixed k p.length (p ++ rest) hlo hhi (by omega) hs]
    simp only
    rw [List.drop_left' (beFixed_length _ _), if_neg (not_length_append_lt _ _), List.take_left' rfl, List.drop_left' rfl]

def AllSmall (ps : List Bytes) : Prop := ∀ p ∈ ps, Small p

theorem splitKeysF_encode (ps : List Bytes) (hs : AllSmall ps) (fuel : Nat)
    (hf : (encodeParts ps).length ≤ fuel) : splitKeysF fuel (encodeParts ps) = some ps := by
  induction ps generalizing fuel with
  | nil => cases fuel <;> simp [encodeParts, splitKeysF]
  | cons p ps ih =>
    have hp : Small p := hs p (List.mem_cons_self)
    have hps : AllSmall ps := fun q hq => hs q (List.mem_cons_of_mem _ hq)
    simp only [encodeParts] at hf ⊢
    obtain ⟨t, r, hte⟩ := enc_cons p
    cases fuel with
    | zero => rw [hte] at hf; exact absurd hf (Nat.not_succ_le_zero _)
    | succ f =>
      have hlen : (encodeParts ps).length ≤ f := by
        rw [hte] at hf; simp only [List.length_append, List.length_cons] at hf; omega
      have hpar := parse_enc p (encodeParts ps) hp
      rw [hte] at hpar ⊢
      simp only [List.cons_append] at hpar ⊢
      simp only [splitKeysF, hpar, ih hps f hlen]

theorem splitKeys_encodeParts (ps : List Bytes) (hs : AllSmall ps) :
    splitKeys (encodeParts ps) = some ps :=
  splitKeysF_encode ps hs _ (Nat.le_refl _)

theorem encodeParts_append (a b : List Bytes) : encodeParts (a ++ b) = encodeParts a ++ encodeParts b := by
  induction a with
  | nil => simp [encodeParts]
  | cons x xs ih => simp [encodeParts, ih]

theorem appendKeysB_append (k : Bytes) (a b : List Bytes) :
    appendKeysB (appendKeysB k a) b = appendKeysB k (a ++ b) := by
  simp [appendKeysB, encodeParts_append]

theorem appendKeysB_injective (k : Bytes) (ps qs : List Bytes) (hp : AllSmall ps) (hq : AllSmall qs)
    (h : appendKeysB k ps = appendKeysB k qs) : ps = qs := by
  have e := splitKeys_encodeParts ps hp
  rw [List.append_cancel_left h, splitKeys_encodeParts qs hq] at e
  exact (Option.some.inj e).symm

/-! The integer encoders are those of C24 (`common/intconv`), whose theorems are reused. -/

theorem int64ToBytes_eq_c24 (v : Int) : int64ToBytes v = Goloop.C24.int64ToBytes v := rfl

theorem bitLen_eq_c24 (v : Nat) : bitLen v = Goloop.C24.bitLen v := rfl

theorem bigIntToBytes_eq_c24 (i : Int) : bigIntToBytes i = Goloop.C24.bigIntToBytes i := by
  -- the copies are one term; `rfl` alone does not unfold the recursion of `natBytesAux` on a variable fuel
  delta bigIntToBytes natBytes natBytesAux Goloop.C24.bigIntToBytes Goloop.C24.natBytes Goloop.C24.natBytesAux
  rfl

theorem safeBytesToInt64_eq_c24 (bs : Bytes) : safeBytesToInt64 bs = Goloop.C24.safeBytesToInt64 bs := rfl

theorem safeBytesToInt64_int64ToBytes (v : Int) (h : -(2:Int)^63 ≤ v ∧ v < (2:Int)^63) :
    safeBytesToInt64 (int64ToBytes v) = some v := by
  rw [int64ToBytes_eq_c24, safeBytesToInt64_eq_c24]; exact Goloop.C24.int64_roundtrip v h

theorem int64ToBytes_inj (i j : Int) (hi : -(2:Int)^63 ≤ i ∧ i < (2:Int)^63)
    (hj : -(2:Int)^63 ≤ j ∧ j < (2:Int)^63) (h : int64ToBytes i = int64ToBytes j) : i = j := by
  have e := safeBytesToInt64_int64ToBytes i hi
  rw [h, safeBytesToInt64_int64ToBytes j hj] at e
  exact (Option.some.inj e).symm

theorem int64ToBytes_inj_nonneg (i j : Nat) (hi : i < 2 ^ 63) (hj : j < 2 ^ 63)
    (h : int64ToBytes (i : Int) = int64ToBytes (j : Int)) : i = j :=
  Int.ofNat.inj (int64ToBytes_inj i j (by omega) (by omega) h)

theorem int64ToBytes_length (n : Nat) (h : n < 2 ^ 63) :
    1 ≤ (int64ToBytes (n : Int)).length ∧ (int64ToBytes (n : Int)).length ≤ 8 := by
  rw [int64ToBytes_eq_c24]; exact Goloop.C24.int64_length n (by omega)

theorem int64ToBytes_small (n : Nat) (h : n < 2 ^ 63) : Small (int64ToBytes (n : Int)) :=
  Nat.le_trans (int64ToBytes_length n h).2 (by decide)

theorem bigIntToBytes_inj (i j : Int) (h : bigIntToBytes i = bigIntToBytes j) : i = j := by
  rw [bigIntToBytes_eq_c24, bigIntToBytes_eq_c24] at h
  have e := congrArg Goloop.C24.bigIntSetBytes h
  rwa [Goloop.C24.big_roundtrip, Goloop.C24.big_roundtrip] at e

theorem sget_sdel (s : Store) (k k' : Bytes) :
    sget (sdel s k) k' = if k = k' then none else sget s k' :=
  Assoc.get_del (fun _ => rfl) (fun _ _ _ _ => rfl) s k k'

theorem sget_sset (s : Store) (k k' : Bytes) (v : Bytes) :
    sget (sset s k v) k' = if k = k' then some v else sget s k' :=
  Assoc.get_set (fun _ => rfl) (fun _ _ _ _ => rfl) s k k' v

theorem arrSize_sset (H : Bytes → Bytes) (kb : KB) (s : Store) (n : Nat) (hn : n < 2 ^ 63) :
    arrSize H (sset s (sizeKey H kb) (int64ToBytes (n : Int))) kb = some (n : Int) := by
  unfold arrSize; rw [sget_sset, if_pos rfl]
  exact safeBytesToInt64_int64ToBytes n (by omega)

/-- one operation: same result as on the list, the store holds the new list, no foreign key changes -/
theorem arr_step (H : Bytes → Bytes) (kb : KB) (s : Store) (l : List Bytes) (o : ArrOp)
    (hk : ArrKeysOk H kb) (hr : ArrRep H kb s l) (hb : l.length + 1 < 2 ^ 63) :
    (arrStep H kb s o).2 = (listStep l o).2 ∧
    ArrRep H kb (arrStep H kb s o).1 (listStep l o).1 ∧
    ∀ k, ArrForeign H kb k → sget (arrStep H kb s o).1 k = sget s k := by
  obtain ⟨hsz, hel⟩ := hr
  have hl63 : l.length < 2 ^ 63 := Nat.lt_of_succ_lt hb
  cases o with
  | put v =>
    simp only [arrStep, arrPut, hsz, listStep]
    refine ⟨trivial, ⟨?_, ?_⟩, ?_⟩
    · rw [List.length_append]
      -- `hb`: the size `l.length + 1` is written with `int64ToBytes` and read back with `safeBytesToInt64`
      exact arrSize_sset H kb _ (l.length + 1) hb
    · intro i hi
      simp only [List.length_append, List.length_cons, List.length_nil] at hi
      have hi63 : i < 2 ^ 63 := Nat.lt_trans hi hb
      simp only [arrGet]
      rw [sget_sset, if_neg (fun e => hk.2 i hi63 e.symm), sget_sset]
      rcases Nat.lt_succ_iff_lt_or_eq.mp hi with hil | rfl
      · rw [if_neg (mt (hk.1 _ _ hl63 hi63) (Nat.ne_of_gt hil)), List.getElem?_append_left hil]
        exact hel i hil
      · rw [if_pos rfl, List.getElem?_concat_length]
    · intro k hf
      rw [sget_sset, if_neg (fun e => hf.1 e.symm), sget_sset,
        if_neg (fun e => hf.2 l.length hl63 e.symm)]
  | set i v =>
    simp only [arrStep, arrSet, hsz, listStep]
    by_cases hout : i < 0 ∨ i ≥ (l.length : Int)
    · simp only [hout, if_true]
      exact ⟨rfl, ⟨hsz, hel⟩, fun _ _ => trivial⟩
    · simp only [hout, if_false, if_true]
      obtain ⟨n, rfl⟩ : ∃ n : Nat, i = (n : Int) := ⟨i.toNat, by omega⟩
      have hn : n < l.length := by omega
      have hn63 : n < 2 ^ 63 := Nat.lt_trans hn hl63
      refine ⟨trivial, ⟨?_, ?_⟩, ?_⟩
      · simp only [List.length_set]
        unfold arrSize
        rw [sget_sset, if_neg (hk.2 n hn63)]
        exact hsz
      · intro j hj
        simp only [List.length_set] at hj
        simp only [arrGet, Int.toNat_natCast]
        rw [sget_sset]
        by_cases he : n = j
        · subst he; rw [if_pos rfl, List.getElem?_set_self hn]
        · rw [if_neg (mt (hk.1 _ _ hn63 (Nat.lt_trans hj hl63)) he), List.getElem?_set_ne he]
          exact hel j hj
      · intro k hf
        rw [sget_sset, if_neg (fun e => hf.2 n hn63 e.symm)]
  | pop =>
    simp only [arrStep, arrPop, hsz, listStep]
    rcases List.eq_nil_or_concat l with rfl | ⟨l', x, rfl⟩
    · simp only [List.length_nil, Int.natCast_zero, if_true, List.getLast?_nil]
      exact ⟨trivial, ⟨hsz, hel⟩, fun _ _ => trivial⟩
    · simp only [List.concat_eq_append, List.length_append, List.length_singleton, Int.natCast_add,
        Int.natCast_one, List.getLast?_concat, List.dropLast_concat] at hl63 hel ⊢
      have h63 : l'.length < 2 ^ 63 := Nat.lt_of_succ_lt hl63
      have hget : sget s (elemKey H kb (l'.length : Int)) = some x :=
        (hel l'.length (Nat.lt_succ_self _)).trans List.getElem?_concat_length
      have hne0 : ¬ ((l'.length : Int) + 1 = 0) := by omega
      simp only [hne0, if_false, Int.add_sub_cancel, hget]
      by_cases h1 : (l'.length : Int) + 1 > 1
      · simp only [h1, if_true]
        refine ⟨trivial, ⟨arrSize_sset H kb _ l'.length h63, ?_⟩, ?_⟩
        · intro j hj
          have hj63 : j < 2 ^ 63 := Nat.lt_trans hj h63
          simp only [arrGet]
          rw [sget_sset, if_neg (fun e => hk.2 j hj63 e.symm), sget_sdel, if_neg (mt (hk.1 _ _ h63 hj63) (Nat.ne_of_gt hj))]
          exact (hel j (Nat.lt_succ_of_lt hj)).trans (List.getElem?_append_left hj)
        · intro k hf
          rw [sget_sset, if_neg (fun e => hf.1 e.symm), sget_sdel, if_neg (fun e => hf.2 _ h63 e.symm)]
      · simp only [h1, if_false]
        obtain rfl : l' = [] := List.eq_nil_of_length_eq_zero (by omega)
        refine ⟨trivial, ⟨?_, fun j hj => absurd hj (Nat.not_lt_zero j)⟩, ?_⟩
        · unfold arrSize
          rw [sget_sdel, if_pos rfl]; rfl
        · intro k hf
          rw [sget_sdel, if_neg (fun e => hf.1 e.symm), sget_sdel, if_neg (fun e => hf.2 _ h63 e.symm)]

theorem listStep_length (l : List Bytes) (o : ArrOp) : (listStep l o).1.length ≤ l.length + 1 := by
  fun_cases listStep l o with
  | case1 => exact Nat.le_of_eq List.length_append
  | case2 | case4 => exact Nat.le_succ _
  | case3 => exact Nat.le_trans (Nat.le_of_eq List.length_dropLast) (by omega)
  | case5 => exact Nat.le_trans (Nat.le_of_eq List.length_set) (Nat.le_succ _)

theorem appendKeysB_single_ne (b x : Bytes) : appendKeysB b [x] ≠ b := by
  intro h
  obtain ⟨t, r, he⟩ := enc_cons x
  have := List.append_right_eq_self.mp h
  rw [encodeParts, he] at this
  cases this

theorem appendKeysB_single_inj (b x y : Bytes) (hx : Small x) (hy : Small y)
    (h : appendKeysB b [x] = appendKeysB b [y]) : x = y := by
  have := appendKeysB_injective b [x] [y] (fun p hp => List.mem_singleton.mp hp ▸ hx)
    (fun p hp => List.mem_singleton.mp hp ▸ hy) h
  simpa using this

/-- the pre-hash keys of one array -/
def ArrPre (pre : Bytes) (x : Bytes) : Prop :=
  x = pre ∨ ∃ i : Nat, i < 2 ^ 63 ∧ x = appendKeysB pre [int64ToBytes (i : Int)]

/-- the keys of one array do not collide when the size key is `F pre`, the key of element `i` is
    `F (pre ++ part i)`, and `F` is injective on these arguments (`F` = identity for the RLP builder,
    the hash for the hash builder, hash-then-prefix for the prefixed hash builder) -/
theorem arrKeysOk_of_inj (H : Bytes → Bytes) (kb : KB) (pre : Bytes) (F : Bytes → Bytes)
    (hsize : sizeKey H kb = F pre)
    (helem : ∀ i : Int, elemKey H kb i = F (appendKeysB pre [int64ToBytes i]))
    (hF : ∀ x y, ArrPre pre x → ArrPre pre y → F x = F y → x = y) : ArrKeysOk H kb := by
  constructor
  · intro i j hi hj h
    rw [helem, helem] at h
    exact int64ToBytes_inj_nonneg i j hi hj (appendKeysB_single_inj pre _ _ (int64ToBytes_small i hi)
      (int64ToBytes_small j hj) (hF _ _ (Or.inr ⟨i, hi, rfl⟩) (Or.inr ⟨j, hj, rfl⟩) h))
  · intro i hi h
    rw [helem, hsize] at h
    exact appendKeysB_single_ne pre _ (hF _ _ (Or.inr ⟨i, hi, rfl⟩) (Or.inl rfl) h)

theorem arrKeysOk_raw (H : Bytes → Bytes) (b : Bytes) : ArrKeysOk H (.raw b) := by
  constructor
  · intro i j hi hj h
    simp only [elemKey, KB.append, KB.build, appendRawKeysB, concatParts, List.append_nil] at h
    exact int64ToBytes_inj_nonneg i j hi hj (List.append_cancel_left h)
  · intro i hi h
    simp only [elemKey, sizeKey, KB.append, KB.build, appendRawKeysB, concatParts, List.append_nil] at h
    have := (int64ToBytes_length i hi).1
    rw [List.append_right_eq_self.mp h] at this
    cases this

theorem eq_or_collision {α β : Type} (f : α → β) {a b : α} (h : f a = f b) : a = b ∨ (a ≠ b ∧ f a = f b) :=
  (Classical.em (a = b)).imp_right fun he => ⟨he, h⟩

def DictOpOk (d : Dict) (P : List Bytes → Prop) : DictOp → Prop
  | .set ks _ => P ks ∧ (ks.length : Int) = d.depth
  | .del ks => P ks ∧ (ks.length : Int) = d.depth

theorem dictGet_dictStep (H : Bytes → Bytes) (d : Dict) (P : List Bytes → Prop) (s : Store) (o : DictOp)
    (k : List Bytes) (hk : DictKeysOk H d P) (ho : DictOpOk d P o) (h2 : P k)
    (hl : (k.length : Int) = d.depth) (m : List Bytes → Option Bytes) (hm : dictGet H s d k = m k) :
    dictGet H (dictStep H d s o) d k = mapStep m o k := by
  have c2 : ¬ ((k.length : Int) ≠ d.depth) := by omega
  -- the store compares entry keys, the map compares key tuples
  have hkey : ∀ ks, P ks → ((d.kb.append ks).build H = (d.kb.append k).build H ↔ ks = k) :=
    fun ks hks => ⟨hk ks k hks h2, fun e => e ▸ rfl⟩
  cases o with
  | set ks v =>
    have c1 : ¬ ((ks.length : Int) + 1 ≠ d.depth + 1) := by have := ho.2; omega
    simp only [dictStep, dictSet, c1, if_false, dictGet, c2, sget_sset, mapStep, hkey ks ho.1, ← hm]
  | del ks =>
    have c1 : ¬ ((ks.length : Int) ≠ d.depth) := by have := ho.2; omega
    simp only [dictStep, dictDel, c1, if_false, dictGet, c2, sget_sdel, mapStep, hkey ks ho.1, ← hm]

theorem dictGet_foldl (H : Bytes → Bytes) (d : Dict) (P : List Bytes → Prop) (hk : DictKeysOk H d P) :
    ∀ (ops : List DictOp) (s : Store) (m : List Bytes → Option Bytes), (∀ o ∈ ops, DictOpOk d P o) →
    (∀ k, P k → (k.length : Int) = d.depth → dictGet H s d k = m k) →
    ∀ k, P k → (k.length : Int) = d.depth →
      dictGet H (ops.foldl (dictStep H d) s) d k = (ops.foldl mapStep m) k
  | [], _, _, _, h => h
  | o :: r, s, m, hok, h =>
    dictGet_foldl H d P hk r _ _ (fun o' ho' => hok o' (List.mem_cons_of_mem _ ho')) fun k hk2 hkl =>
      dictGet_dictStep H d P s o k hk (hok o List.mem_cons_self) hk2 hkl m (h k hk2 hkl)

end Goloop.C21.Proofs
