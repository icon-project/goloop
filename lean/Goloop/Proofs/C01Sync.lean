/-
  Proofs/C01Sync — the block-sync entry point (`syncBlock`: ReceiveBlockResult → processBlock) as an event.
  `EventS` = `Event` + `sync`; `runS` = histories that may contain sync steps.  Every crash-free `EventS` is a
  composition of moves of the machine (`moves_vstepS`; for sync: the commit votes are put into the vote set as
  known votes, and a block is committed / finalized only with a +2/3 precommit quorum of one round FOR THAT
  BLOCK, which is what the seeded change C01-5 breaks), so it keeps whatever the moves keep.
-/
import Goloop.Proofs.C01G3Step
import Goloop.Proofs.C02Restart
namespace Goloop.C01

variable {L : List VoteRec} {base : List Eff} {me n : Nat}

/-- the sync callback on the engine: a stopped engine receives none -/
def syncEv (s : S) (h r : Nat) (b : Blk) (signers : List Nat) : S :=
  if !s.started then s else syncBlock s h r b signers

/-- the events of the validator machine, block sync included -/
inductive EventS where
  | ev (e : Event)
  | sync (h r : Nat) (b : Blk) (signers : List Nat)

def vstepS (s : S) : EventS → S
  | .ev e => vstep s e
  | .sync h r b signers => syncEv s h r b signers

def runS (s : S) : List EventS → S
  | [] => s
  | e :: es => runS (vstepS s e) es

def EventS.noCrash : EventS → Prop
  | .ev e => e.noCrash
  | .sync _ _ _ _ => True

instance : DecidablePred Event.noCrash := fun e => by cases e <;> unfold Event.noCrash <;> infer_instance
instance : DecidablePred EventS.noCrash := fun e => by cases e <;> unfold EventS.noCrash <;> infer_instance

/-- the votes handed to the machine: by `vote` events and inside sync commit vote lists -/
def EventS.votes : EventS → List VoteRec
  | .ev (.vote m) => [m]
  | .sync h r b signers => syncVotes h r b signers
  | _ => []

def deliveredS (evs : List EventS) : List VoteRec := evs.flatMap EventS.votes

theorem moves_vstepS (s : S) (e : EventS) (hn : e.noCrash) (hl : ∀ m, m ∈ e.votes → m ∈ L) (hc : Core s) :
    Moves L s (vstepS s e) := by
  cases e with
  | ev e => exact moves_vstep s e hn (fun m hm => hl m (hm ▸ List.mem_singleton_self m)) hc
  | sync h r b signers => exact ite_both (Moves L s) .refl (moves_syncBlock s h r b signers hl hc)

theorem vstepS_a3 (s : S) (e : EventS) (hn : e.noCrash)
    (hl : ∀ m, m ∈ e.votes → m ∈ L) (ha : A3 L base s) : A3 L base (vstepS s e) :=
  (moves_vstepS s e hn hl ha.core).a3 ha

theorem vstepS_stopped (s : S) (e : EventS) (hn : e.noCrash) (hs : s.started = false) : vstepS s e = s := by
  cases e with
  | ev e => exact vstep_stopped s e hn hs
  | sync h r b signers => exact if_pos (by rw [hs]; rfl)

theorem vstepS_inv (s : S) (e : EventS) (hi : Inv me n s) : Inv me n (vstepS s e) := by
  cases e with
  | ev e => exact vstep_inv s e hi
  | sync h r b signers =>
    rcases hi.run with hns | ⟨hc, ha⟩
    · rw [vstepS_stopped s (.sync h r b signers) trivial hns]; exact hi
    · exact inv_of_moves (moves_vstepS (L := syncVotes h r b signers) s (.sync h r b signers) trivial (fun _ h => h) hc) hc ha

theorem runS_foldl (s : S) (evs : List EventS) : runS s evs = evs.foldl vstepS s := by
  induction evs generalizing s with
  | nil => rfl
  | cons e t ih => exact ih _

theorem runS_a3 (s : S) (evs : List EventS)
    (hn : ∀ e, e ∈ evs → e.noCrash) (hl : ∀ e, e ∈ evs → ∀ m, m ∈ e.votes → m ∈ L) (ha : A3 L base s) :
    A3 L base (runS s evs) :=
  runS_foldl s evs ▸ List.foldlRecOn evs vstepS ha fun s hs e he => vstepS_a3 s e (hn e he) (hl e he) hs

theorem runS_inv (s : S) (evs : List EventS) (hi : Inv me n s) : Inv me n (runS s evs) :=
  runS_foldl s evs ▸ List.foldlRecOn evs vstepS hi fun s hs e _ => vstepS_inv s e hs

theorem mem_deliveredS {evs : List EventS} {e : EventS} {m : VoteRec} (he : e ∈ evs) (hm : m ∈ e.votes) :
    m ∈ deliveredS evs := by
  unfold deliveredS
  rw [List.mem_flatMap]
  exact ⟨e, he, hm⟩

theorem EventS.ev_votes {e : Event} {m : VoteRec} (h : m ∈ (EventS.ev e).votes) : e = .vote m := by
  cases e with
  | vote m' => rw [List.mem_singleton.mp h]
  | _ => cases h

end Goloop.C01
