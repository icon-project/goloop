import Goloop.Model.C19
import Goloop.Base.Assoc
namespace Goloop.C19.Proofs
open Goloop Goloop.C19

theorem sget_sdel (s : Store) (k k' : BK) :
    sget (sdel s k) k' = if k = k' then none else sget s k' :=
  Assoc.get_del (fun _ => rfl) (fun _ _ _ _ => rfl) s k k'

theorem sget_sset (s : Store) (k k' : BK) (v : Bytes) :
    sget (sset s k v) k' = if k = k' then some v else sget s k' :=
  Assoc.get_set (fun _ => rfl) (fun _ _ _ _ => rfl) s k k' v

theorem sget_applyItem (st : Store) (it : Item) (k : BK) :
    sget (applyItem st it) k = if it.bkey = k then it.value else sget st k := by
  unfold applyItem
  cases it.value with
  | none => exact sget_sdel st _ k
  | some v => exact sget_sset st _ k v

def keys (items : List Item) : List BK := items.map Item.bkey

theorem findItem_cons (it : Item) (r : List Item) (k : BK) :
    findItem (it :: r) k = if it.bkey = k then some it else findItem r k := by
  unfold findItem
  rw [List.find?_cons]
  by_cases h : it.bkey = k <;> simp [h]

theorem findItem_some {items : List Item} {k : BK} {it : Item} (h : findItem items k = some it) :
    it ∈ items ∧ it.bkey = k :=
  ⟨List.mem_of_find?_eq_some h, by simpa using List.find?_some h⟩

theorem findItem_eq_none (items : List Item) (k : BK) : findItem items k = none ↔ k ∉ keys items := by
  simp [findItem, keys]

theorem ival_cons (it : Item) (r : List Item) (k : BK) (d : Option Bytes) :
    ival (it :: r) k d = if it.bkey = k then it.value else ival r k d := by
  unfold ival
  rw [findItem_cons]
  by_cases h : it.bkey = k
  · rw [if_pos h, if_pos h]
  · rw [if_neg h, if_neg h]

theorem ival_of_not_mem {items : List Item} {k : BK} (h : k ∉ keys items) (d : Option Bytes) :
    ival items k d = d := by
  rw [ival, (findItem_eq_none items k).mpr h]

theorem ival_append_single (l : List Item) (x : Item) (k : BK) (d : Option Bytes) :
    ival (l ++ [x]) k d = ival l k (if x.bkey = k then x.value else d) := by
  induction l with
  | nil => exact ival_cons x [] k d
  | cons a r ih => rw [List.cons_append, ival_cons, ival_cons, ih]

theorem ival_erase_ne (l : List Item) (a : Item) (k : BK) (d : Option Bytes) (h : a.bkey ≠ k) :
    ival (l.erase a) k d = ival l k d := by
  induction l with
  | nil => rfl
  | cons x r ih =>
    by_cases hx : x = a
    · rw [hx, List.erase_cons_head, ival_cons, if_neg h]
    · rw [List.erase_cons_tail (by simpa using hx), ival_cons, ival_cons, ih]

theorem keys_erase_sub (l : List Item) (a : Item) (k : BK) (h : k ∈ keys (l.erase a)) : k ∈ keys l := by
  unfold keys at *
  rw [List.mem_map] at *
  obtain ⟨x, hx, hk⟩ := h
  exact ⟨x, List.mem_of_mem_erase hx, hk⟩

theorem not_mem_keys_erase (l : List Item) (a : Item) (h : (keys l).Nodup) (ha : a ∈ l) :
    a.bkey ∉ keys (l.erase a) := by
  induction l with
  | nil => cases ha
  | cons x r ih =>
    rw [keys, List.map_cons, List.nodup_cons] at h
    by_cases hx : x = a
    · rw [hx, List.erase_cons_head]; exact hx ▸ h.1
    · have ha' : a ∈ r := (List.mem_cons.mp ha).resolve_left (fun e => hx e.symm)
      rw [List.erase_cons_tail (by simpa using hx), keys, List.map_cons, List.mem_cons, not_or]
      exact ⟨fun e => h.1 (e ▸ List.mem_map_of_mem ha'), ih h.2 ha'⟩

/-- an item under a new key, put at the back: keys stay unique, and it is what is read under its key -/
theorem snoc_spec {l : List Item} {x : Item} (h : (keys l).Nodup) (hx : x.bkey ∉ keys l) :
    (keys (l ++ [x])).Nodup ∧
    ∀ k d, ival (l ++ [x]) k d = if x.bkey = k then x.value else ival l k d := by
  -- `l ++ [x]` is a permutation of `x :: l`, and `Nodup` does not see the order
  refine ⟨((List.perm_append_singleton x l).map _).nodup_iff.mpr (List.nodup_cons.mpr ⟨hx, h⟩), fun k d => ?_⟩
  rw [ival_append_single]
  by_cases hk : x.bkey = k
  · rw [if_pos hk, if_pos hk]; exact ival_of_not_mem (hk ▸ hx) _
  · rw [if_neg hk, if_neg hk]

/-- `touch` keeps the keys unique and writes `v` under `k`, whether the key had an item or not -/
theorem touch_spec (items : List Item) (k : BK) (v : Option Bytes) (h : (keys items).Nodup) :
    (keys (touch items k v)).Nodup ∧
    ∀ k' d, ival (touch items k v) k' d = if k = k' then v else ival items k' d := by
  fun_cases touch items k v with
  | case2 hf => exact snoc_spec h ((findItem_eq_none items k).mp hf)
  | case1 it hf =>
    obtain ⟨hmem, hkey⟩ := findItem_some hf
    obtain ⟨hn, hv⟩ := snoc_spec (x := { it with value := v }) (h.sublist (List.erase_sublist.map _))
      (not_mem_keys_erase items it h hmem)
    refine ⟨hn, fun k' d => (hv k' d).trans ?_⟩
    subst hkey
    exact ite_congr rfl (fun _ => rfl) (ival_erase_ne items it k' d)

theorem sget_replay (items : List Item) (st : Store) (k : BK) (h : (keys items).Nodup) :
    sget (replay st items) k = ival items k (sget st k) := by
  induction items generalizing st with
  | nil => rfl
  | cons it r ih =>
    rw [keys, List.map_cons, List.nodup_cons] at h
    show sget (replay (applyItem st it) r) k = _
    rw [ih _ h.2, sget_applyItem, ival_cons]
    by_cases hk : it.bkey = k
    · rw [if_pos hk, if_pos hk]; exact ival_of_not_mem (hk ▸ h.1) _
    · rw [if_neg hk, if_neg hk]

/-- In the terms of common/db/layer_db.go.  `nodup`: `ldb.list` has one element per (bucket, key), since `Set` and `Delete`
    reuse the element `bk.data[key]` points to.  `live`: every bucket of `ldb.buckets` has `bk.data != nil` exactly while the layer
    is not committed (`Flush` sets them all).  `empty`: `Flush` ends with `ldb.list.Init()`; `view_eq` needs it after a commit. -/
structure Inv (s : LDB) : Prop where
  nodup : (keys s.items).Nodup
  live : ∀ id b, lookupBucket s.buckets id = some b → b = !s.flushed
  empty : s.flushed = true → s.items = []

theorem inv_new (st : Store) : Inv (newLayerDB st) :=
  ⟨by simp [newLayerDB, keys], by simp [newLayerDB, lookupBucket], by simp [newLayerDB]⟩

/-- closed form of what is seen through the layer: the item written last, else the database
    (a committed layer holds no items, `Inv.empty`) -/
theorem view_eq (s : LDB) (hi : Inv s) (k : BK) : view s k = ival s.items k (base s k) := by
  obtain ⟨id, key⟩ := k
  unfold view base
  fun_cases getBucket s id with
  | case1 b hl =>
    have hb := hi.live id b hl
    simp only [bkGet, dataLive, hl, Option.getD_some]
    cases hf : s.flushed with
    | true => simp [hb, hf, hi.empty hf, ival, findItem]
    | false => simp [hb, hf]
  | case2 hl hf => simp [bkGet, hi.empty hf, ival, findItem]
  | case3 hl hf => simp [bkGet, dataLive, lookupBucket]

/-- with no items in the layer (none written yet, or committed) the view is the database -/
theorem view_empty {s : LDB} (hi : Inv s) (he : s.items = []) : view s = base s :=
  funext fun k => by rw [view_eq s hi, he]; rfl

theorem live_of_valid (s : LDB) (hi : Inv s) (id : Bytes) (hv : Valid s (.layer id)) :
    dataLive s id = !s.flushed := by
  obtain ⟨b, hb⟩ := Option.isSome_iff_exists.mp hv
  rw [dataLive, hb, hi.live id b hb]; rfl

theorem get_eq_view (s : LDB) (hi : Inv s) (h : Handle) (hv : Valid s h) (key : Bytes) :
    bkGet s h key = view s (h.id, key) := by
  cases h with
  | real id => exact (congrFun (view_empty hi (hi.empty hv)) _).symm
  | layer id =>
    rw [view_eq s hi]
    simp only [bkGet, live_of_valid s hi id hv, Handle.id]
    cases hf : s.flushed with
    | false => rfl
    | true => rw [hi.empty hf]; rfl

theorem bkHas_eq (s : LDB) (h : Handle) (key : Bytes) : bkHas s h key = (bkGet s h key).isSome := by
  fun_cases bkHas s h key <;> simp [bkGet, ival, *]

theorem lookupBucket_map (bs : List (Bytes × Bool)) (c : Bool) (id : Bytes) :
    lookupBucket (bs.map (fun b => (b.1, c))) id = (lookupBucket bs id).map (fun _ => c) := by
  fun_induction lookupBucket bs id with
  | case1 => rfl
  | case2 b r => simp [lookupBucket]
  | case3 i b r h ih => simp [lookupBucket, h, ih]

theorem live_map (bs : List (Bytes × Bool)) (c : Bool) :
    ∀ id b, lookupBucket (bs.map (fun b => (b.1, c))) id = some b → b = c := by
  intro i b hb
  rw [lookupBucket_map] at hb
  cases hx : lookupBucket bs i with
  | none => rw [hx] at hb; cases hb
  | some y => rw [hx] at hb; exact (Option.some.inj hb).symm

def write (s : LDB) (h : Handle) (key : Bytes) : Option Bytes → LDB
  | some v => bkSet s h key v
  | none => bkDelete s h key

/-- a write through a valid handle goes to the database once the layer is committed, into the layer before -/
theorem write_eq (s : LDB) (hi : Inv s) (h : Handle) (hv : Valid s h) (key : Bytes) (ov : Option Bytes) :
    write s h key ov =
      if s.flushed then { s with real := applyItem s.real ⟨h.id, key, ov⟩ }
      else { s with items := touch s.items (h.id, key) ov } := by
  cases h with
  | real id => rw [if_pos (show s.flushed = true from hv)]; cases ov <;> rfl
  | layer id =>
    have hl := live_of_valid s hi id hv
    cases hf : s.flushed <;> rw [hf] at hl <;> cases ov <;>
      simp [write, bkSet, bkDelete, hl, hf, applyItem, Handle.id, Item.bkey]

/-- a set (`some v`) or delete (`none`) through a valid handle: the view changes at that key only;
    the database follows once the layer is committed and is untouched before -/
theorem write_spec (s : LDB) (hi : Inv s) (h : Handle) (hv : Valid s h) (key : Bytes)
    (ov : Option Bytes) :
    Inv (write s h key ov) ∧ (write s h key ov).flushed = s.flushed ∧
    view (write s h key ov) = upd (view s) (h.id, key) ov ∧
    base (write s h key ov) = if s.flushed then upd (base s) (h.id, key) ov else base s := by
  cases hf : s.flushed with
  | true =>
    rw [write_eq s hi h hv key ov, if_pos hf]
    have hi' : Inv { s with real := applyItem s.real ⟨h.id, key, ov⟩ } := ⟨hi.nodup, hi.live, hi.empty⟩
    have hb : base { s with real := applyItem s.real ⟨h.id, key, ov⟩ } = upd (base s) (h.id, key) ov :=
      funext fun k' => sget_applyItem _ _ k'
    refine ⟨hi', hf, ?_, hb⟩
    rw [view_empty hi' (hi.empty hf), view_empty hi (hi.empty hf)]
    exact hb
  | false =>
    rw [write_eq s hi h hv key ov, if_neg (Bool.eq_false_iff.mp hf)]
    obtain ⟨hn, hv⟩ := touch_spec s.items (h.id, key) ov hi.nodup
    have hi' : Inv { s with items := touch s.items (h.id, key) ov } :=
      ⟨hn, hi.live, fun h => by rw [hf] at h; cases h⟩
    refine ⟨hi', hf, ?_, rfl⟩
    funext k'
    simp only [upd, view_eq _ hi', view_eq s hi, hv]
    rfl

theorem open_spec (s : LDB) (hi : Inv s) (id : Bytes) :
    Inv (getBucket s id).1 ∧ (getBucket s id).1.flushed = s.flushed ∧
    (getBucket s id).1.real = s.real ∧ view (getBucket s id).1 = view s := by
  fun_cases getBucket s id with
  | case1 b hl => exact ⟨hi, rfl, rfl, rfl⟩
  | case2 hl hf => exact ⟨hi, rfl, rfl, rfl⟩
  | case3 hl hf =>
    have hi' : Inv { s with buckets := (id, true) :: s.buckets } := by
      refine ⟨hi.nodup, ?_, hi.empty⟩
      intro i b hb
      simp only [lookupBucket] at hb
      by_cases h : id = i
      · simp [h] at hb; simp [← hb, hf]
      · simp only [h, if_false] at hb
        exact hi.live i b hb
    exact ⟨hi', rfl, rfl, funext fun k => (view_eq _ hi' k).trans (view_eq s hi k).symm⟩

def committed (s : LDB) : LDB :=
  { real := replay s.real s.items, flushed := true, buckets := s.buckets.map (fun b => (b.1, false)),
    items := [] }

def discarded (s : LDB) : LDB :=
  { s with buckets := s.buckets.map (fun b => (b.1, true)), items := [], flushed := false }

theorem flush_flushed (s : LDB) (hf : s.flushed = true) (w : Bool) : flush s w = (s, w) := by
  cases w <;> simp [flush, hf]

theorem flush_commit (s : LDB) (hf : s.flushed = false) : flush s true = (committed s, true) := by
  simp [flush, hf, committed]

theorem flush_discard (s : LDB) (hf : s.flushed = false) : flush s false = (discarded s, true) := by
  simp [flush, hf, discarded]

theorem commit_spec (s : LDB) (hi : Inv s) :
    Inv (committed s) ∧ base (committed s) = view s ∧ view (committed s) = view s := by
  have hi' : Inv (committed s) :=
    ⟨List.nodup_nil, fun i b hb => live_map s.buckets false i b hb, fun _ => rfl⟩
  have hb : base (committed s) = view s :=
    funext fun k => (sget_replay _ _ k hi.nodup).trans (view_eq s hi k).symm
  exact ⟨hi', hb, (view_empty hi' rfl).trans hb⟩

theorem discard_spec (s : LDB) : Inv (discarded s) ∧ view (discarded s) = base s := by
  have hi' : Inv (discarded s) :=
    ⟨List.nodup_nil, fun i b hb => live_map s.buckets true i b hb, nofun⟩
  exact ⟨hi', view_empty hi' rfl⟩

theorem base_congr {s s' : LDB} (h : s'.real = s.real) : base s' = base s :=
  funext fun k => congrArg (sget · k) h

/-- `specStep` on a set (`some v`) or delete (`none`) -/
theorem abs_write (s : LDB) (hi : Inv s) (h : Handle) (hv : Valid s h) (key : Bytes)
    (ov : Option Bytes) :
    Inv (write s h key ov) ∧ abs (write s h key ov) =
      if (abs s).flushed then
        { abs s with base := upd (abs s).base (h.id, key) ov, view := upd (abs s).view (h.id, key) ov }
      else { abs s with view := upd (abs s).view (h.id, key) ov } := by
  obtain ⟨h1, h2, h3, h4⟩ := write_spec s hi h hv key ov
  refine ⟨h1, ?_⟩
  show Abs.mk _ _ _ = if s.flushed = true then _ else _
  rw [h2, h3, h4]
  by_cases hf : s.flushed = true
  · rw [if_pos hf, if_pos hf]; rfl
  · rw [if_neg hf, if_neg hf]; rfl

/-- every operation keeps `Inv` and does to `abs` what the specification says -/
theorem step_ok (s : LDB) (hi : Inv s) (o : Op) (ho : OpOk s o) :
    Inv (step s o) ∧ abs (step s o) = specStep (abs s) o := by
  cases o with
  | «open» id =>
    obtain ⟨h1, h2, h3, h4⟩ := open_spec s hi id
    exact ⟨h1, by simp only [abs, step, specStep, h2, base_congr h3, h4]⟩
  | set h k v => exact abs_write s hi h ho k (some v)
  | del h k => exact abs_write s hi h ho k none
  | flush w =>
    cases hf : s.flushed with
    | true =>
      have e : step s (.flush w) = s := congrArg Prod.fst (flush_flushed s hf w)
      rw [e]
      exact ⟨hi, by cases w <;> simp [specStep, abs, hf]⟩
    | false =>
      cases w with
      | true =>
        obtain ⟨h1, h2, h3⟩ := commit_spec s hi
        have e : step s (.flush true) = committed s := congrArg Prod.fst (flush_commit s hf)
        rw [e]
        exact ⟨h1, by simp only [abs, specStep, h2, h3, hf]; rfl⟩
      | false =>
        obtain ⟨h1, h3⟩ := discard_spec s
        have e : step s (.flush false) = discarded s := congrArg Prod.fst (flush_discard s hf)
        rw [e]
        exact ⟨h1, by simp only [abs, specStep, h3, hf]; rfl⟩

theorem run_ok (ops : List Op) (s : LDB) (hi : Inv s) (hh : HistOk s ops) :
    Inv (run s ops) ∧ abs (run s ops) = specRun (abs s) ops := by
  induction ops generalizing s with
  | nil => exact ⟨hi, rfl⟩
  | cons o r ih =>
    obtain ⟨h1, h2⟩ := step_ok s hi o hh.1
    have := ih (step s o) h1 hh.2
    rw [h2] at this
    exact this

theorem inv_of_reachable (s : LDB) (h : Reachable s) : Inv s := by
  obtain ⟨st, ops, hh, rfl⟩ := h
  exact (run_ok ops _ (inv_new st) hh).1

end Goloop.C19.Proofs
