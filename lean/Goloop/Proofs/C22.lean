/-
  Proofs/C22: `Uint64ToBytes` is the encoder of C24 (`common/intconv`), whose output is the minimal two's-complement
  string of a natural number (`C24.Proofs.MinSigned`); on such strings `writeBytes` only puts a length byte in
  front (`writeBytes_canon`), longer ones have larger values and equally long ones compare like their values
  in the trie's order `klt`, which is `List`'s lexicographic `<` on bytes (`klt_iff_lt`).
  A key decodes to its index whatever follows it (`keyToInt_append`): no key is a prefix of another.
-/
import Goloop.Model.C22
import Goloop.Proofs.Intconv
namespace Goloop.C22.Proofs
open Goloop Goloop.C22

theorem ofNat_toNat (n : Nat) (h : n < 256) : (UInt8.ofNat n).toNat = n :=
  UInt8.toNat_ofNat_of_lt' h

theorem uint64ToBytes_eq_c24 (v : Nat) : uint64ToBytes v = C24.uint64ToBytes v := rfl

theorem u64_spec (v : Nat) (h : v < 2 ^ 64) :
    C24.Proofs.MinSigned (uint64ToBytes v) (v : Int) ∧ (uint64ToBytes v).length ≤ 9 :=
  uint64ToBytes_eq_c24 v ▸ C24.Proofs.uint64ToBytes_spec v h

theorem lt_iff_digits (b x y : Nat) : x < y ↔ x / b < y / b ∨ x / b = y / b ∧ x % b < y % b := by
  constructor
  · intro h
    rcases Nat.lt_or_ge (x / b) (y / b) with h1 | h1
    · exact .inl h1
    · have h2 : x / b = y / b := Nat.le_antisymm (Nat.div_le_div_right (Nat.le_of_lt h)) h1
      rw [← Nat.div_add_mod x b, ← Nat.div_add_mod y b, h2] at h
      exact .inr ⟨h2, Nat.lt_of_add_lt_add_left h⟩
  · rintro (h | ⟨h1, h2⟩)
    · exact Nat.lt_of_div_lt_div h
    · rw [← Nat.div_add_mod x b, ← Nat.div_add_mod y b, h1]
      exact Nat.add_lt_add_left h2 _

theorem klt_cons (a b : UInt8) (as bs : Bytes) :
    klt (a :: as) (b :: bs) = true ↔ a < b ∨ a = b ∧ klt as bs = true := by
  show nlt (a.toNat / 16 :: a.toNat % 16 :: nibs as) (b.toNat / 16 :: b.toNat % 16 :: nibs bs) = true ↔ _
  -- a byte compares as its pair of nibbles: `<` by `lt_iff_digits 16`, `=` by `Nat.ext_div_mod_iff 16`
  simp only [nlt, Bool.or_eq_true, Bool.and_eq_true, decide_eq_true_eq, UInt8.lt_iff_toNat_lt, ← UInt8.toNat_inj,
    lt_iff_digits 16 a.toNat, Nat.ext_div_mod_iff 16 a.toNat, and_or_left, or_assoc, and_assoc]
  rfl

theorem klt_nil_cons (b : UInt8) (bs : Bytes) : klt [] (b :: bs) = true := rfl

/-- `klt` is the lexicographic order of byte strings, a proper prefix first: its laws are those of `List`'s `<` -/
theorem klt_iff_lt : ∀ (a b : Bytes), klt a b = true ↔ a < b
  | [], [] => ⟨nofun, fun h => absurd h (List.lt_irrefl _)⟩
  | [], b :: bs => iff_of_true (klt_nil_cons b bs) (List.nil_lt_cons b bs)
  | _ :: _, [] => ⟨nofun, fun h => absurd h (List.not_lt_nil _)⟩
  | a :: as, b :: bs => by rw [klt_cons, List.cons_lt_cons_iff, klt_iff_lt as bs]

/-- strings of one length compare like their values -/
theorem lt_of_beNat_lt : ∀ {p q : Bytes}, p.length = q.length → beNat p < beNat q → p < q
  | [], [], _, h => absurd h (Nat.lt_irrefl _)
  | x :: xs, y :: ys, hl, h => by
    have hl' : xs.length = ys.length := Nat.succ.inj hl
    -- the first byte of the smaller value is not the larger one
    rcases Nat.lt_or_eq_of_le ((head_ge_iff _ y ys).mpr (Nat.le_trans
      (by rw [beNat_cons, hl']; exact Nat.le_add_right _ _) (Nat.le_of_lt h))) with hxy | he
    · exact List.cons_lt_cons_iff.mpr (.inl (UInt8.lt_iff_toNat_lt.mpr hxy))
    · rw [beNat_cons, beNat_cons, hl', he] at h
      exact List.cons_lt_cons_iff.mpr (.inr ⟨UInt8.toNat_inj.mp he, lt_of_beNat_lt hl' (Nat.lt_of_add_lt_add_left h)⟩)

theorem lenByte_toNat {n : Nat} (h : n ≤ 55) : (UInt8.ofNat (0x80 + n)).toNat = 0x80 + n :=
  ofNat_toNat _ (by omega)

theorem writeBytes_canon {p : Bytes} {v : Nat} (hc : C24.Proofs.MinSigned p (v : Int)) (h55 : p.length ≤ 55) :
    writeBytes p = (if p.length = 1 then [] else [UInt8.ofNat (0x80 + p.length)]) ++ p :=
  match p, hc, h55 with
  | [], hc, _ => absurd rfl hc.ne
  | [_], hc, _ => if_pos hc.head_lt
  | _ :: _ :: _, _, h55 => if_pos h55

theorem writeBytes_mono {p q : Bytes} {v w : Nat} (hp : C24.Proofs.MinSigned p (v : Int))
    (hq : C24.Proofs.MinSigned q (w : Int)) (h55 : q.length ≤ 55)
    (h : v < w) : writeBytes p < writeBytes q := by
  have hlen : p.length ≤ q.length := C24.Proofs.minSigned_length_mono hp hq (Nat.le_of_lt h)
  rw [writeBytes_canon hp (Nat.le_trans hlen h55), writeBytes_canon hq h55]
  rcases Nat.lt_or_eq_of_le hlen with hl | hl
  · -- shorter: the first byte is smaller than the length byte of `q`
    rw [if_neg (Nat.ne_of_gt (Nat.lt_of_le_of_lt (List.length_pos_iff.mpr hp.ne) hl) : q.length ≠ 1)]
    match p, hp, hl, hlen with
    | [], hp, _, _ => exact absurd rfl hp.ne
    | [a], hp, _, _ =>
      refine List.cons_lt_cons_iff.mpr (.inl (UInt8.lt_iff_toNat_lt.mpr ?_))
      rw [lenByte_toNat h55]
      exact Nat.lt_of_lt_of_le hp.head_lt (Nat.le_add_right _ _)
    | a :: b :: r, _, hl, hlen =>
      refine List.cons_lt_cons_iff.mpr (.inl (UInt8.lt_iff_toNat_lt.mpr ?_))
      rw [lenByte_toNat (Nat.le_trans hlen h55), lenByte_toNat h55]
      exact Nat.add_lt_add_left hl _
  · rw [hl]
    exact List.append_left_lt (lt_of_beNat_lt hl (by rw [hp.beNat_eq, hq.beNat_eq]; exact h))

theorem intToKey_mono (i j : Nat) (hij : i < j) (hj : j < 2 ^ 64) : intToKey i < intToKey j :=
  writeBytes_mono (u64_spec i (Nat.lt_trans hij hj)).1 (u64_spec j hj).1
    (Nat.le_trans (u64_spec j hj).2 (by decide)) hij

theorem keyToInt_writeBytes {p : Bytes} {v : Nat} (hc : C24.Proofs.MinSigned p (v : Int)) (h55 : p.length ≤ 55) :
    keyToInt (writeBytes p) = safeBytesToUint64 p := by
  rw [writeBytes_canon hc h55]
  match p, hc, h55 with
  | [], hc, _ => exact absurd rfl hc.ne
  | [x], hc, _ => exact if_pos hc.head_lt
  | a :: b :: r, _, h55 =>
    show keyToInt (UInt8.ofNat (0x80 + (a :: b :: r).length) :: a :: b :: r) = _
    rw [keyToInt, lenByte_toNat h55, if_neg (not_add_lt _), if_pos (Nat.add_le_add_left h55 _),
      Nat.add_sub_cancel_left,
      if_neg (Nat.lt_irrefl _), List.take_length]

theorem keyToInt_intToKey (v : Nat) (h : v < 2 ^ 64) : keyToInt (intToKey v) = some v := by
  obtain ⟨hc, h9⟩ := u64_spec v h
  rw [intToKey, keyToInt_writeBytes hc (Nat.le_trans h9 (by decide))]
  rw [uint64ToBytes_eq_c24]; exact C24.Proofs.safeBytesToUint64_uint64ToBytes v h

/-- the decoder reads the bytes its first byte announces and nothing after them -/
theorem keyToInt_append {k : Bytes} {v : Nat} (ext : Bytes) (h : keyToInt k = some v) :
    keyToInt (k ++ ext) = some v := by
  revert h
  fun_cases keyToInt k with
  | case1 | case3 | case5 => nofun
  | case2 t r h1 => exact (if_pos h1).trans
  | case4 t r h1 h2 n h3 =>
    intro h
    rw [List.cons_append, keyToInt, if_neg h1, if_pos h2,
      if_neg (fun hc => h3 (Nat.lt_of_le_of_lt (List.length_append ▸ Nat.le_add_right _ _) hc)),
      List.take_append_of_le_length (Nat.le_of_not_lt h3)]
    exact h

/-- a key that continues the key of `i` still decodes to `i`, so it is the key of no other index -/
theorem intToKey_prefix_free (i j : Nat) (hi : i < 2 ^ 64) (hj : j < 2 ^ 64)
    (h : intToKey i <+: intToKey j) : i = j := by
  obtain ⟨ext, he⟩ := h
  have e := keyToInt_append ext (keyToInt_intToKey i hi)
  rw [he, keyToInt_intToKey j hj] at e
  exact (Option.some.inj e).symm

theorem intToKey_injective (i j : Nat) (hi : i < 2 ^ 64) (hj : j < 2 ^ 64)
    (h : intToKey i = intToKey j) : i = j :=
  intToKey_prefix_free i j hi hj (h ▸ List.prefix_refl _)

/-- the trie content for items stored under indices idx, idx+1, … in that order -/
def entries {α : Type} (idx : Nat) : List α → Trie α
  | [] => []
  | x :: xs => (intToKey idx, x) :: entries (idx + 1) xs

theorem idx_step {idx n : Nat} (hb : idx + (n + 1) ≤ 2 ^ 64) : idx < 2 ^ 64 ∧ idx + 1 + n ≤ 2 ^ 64 := by
  omega

theorem tset_append {α : Type} (t : Trie α) (k : Bytes) (v : α) (h : ∀ e ∈ t, e.1 < k) :
    tset t k v = t ++ [(k, v)] := by
  induction t with
  | nil => rfl
  | cons e r ih =>
    obtain ⟨hk, hr⟩ := List.forall_mem_cons.mp h
    rw [tset, if_neg fun e' : e.1 = k => List.lt_irrefl k (e' ▸ hk), if_neg (mt (klt_iff_lt k e.1).mp (List.lt_asymm hk)),
      ih hr]
    rfl

/-- `h` is the loop invariant: every key in the trie is below every key still to come, so each `tset` appends
    (`tset_append`) -/
theorem fromSliceAux_eq {α : Type} (xs : List α) (t : Trie α) (idx : Nat) (hb : idx + xs.length ≤ 2 ^ 64)
    (h : ∀ e ∈ t, ∀ j, idx ≤ j → j < 2 ^ 64 → e.1 < intToKey j) :
    fromSliceAux t idx xs = t ++ entries idx xs := by
  induction xs generalizing t idx with
  | nil => exact (List.append_nil t).symm
  | cons x xs ih =>
    obtain ⟨hidx, hb⟩ := idx_step hb
    rw [fromSliceAux, entries, tset_append t _ x fun e he => h e he idx (Nat.le_refl _) hidx,
      ih _ (idx + 1) hb, List.append_assoc]
    · rfl
    · exact List.forall_mem_append.mpr ⟨fun e h1 j hj hj64 => h e h1 j (Nat.le_of_succ_le hj) hj64,
        List.forall_mem_singleton.mpr fun j hj hj64 => intToKey_mono idx j hj hj64⟩

theorem fromSlice_eq {α : Type} (l : List α) (h : l.length ≤ 2 ^ 64) : fromSlice l = entries 0 l :=
  fromSliceAux_eq l [] 0 (by omega) nofun

theorem iterate_entries {α : Type} (l : List α) (idx : Nat) (hb : idx + l.length ≤ 2 ^ 64) :
    iterate (entries idx l) = (l.zipIdx idx).map (fun p => (p.1, some p.2)) := by
  induction l generalizing idx with
  | nil => rfl
  | cons x xs ih =>
    obtain ⟨hidx, hb⟩ := idx_step hb
    rw [entries, iterate, List.map_cons, keyToInt_intToKey idx hidx, List.zipIdx_cons, List.map_cons]
    exact congrArg _ (ih (idx + 1) hb)

theorem iterateItems_entries {α : Type} (l : List α) (idx : Nat) : iterateItems (entries idx l) = l := by
  induction l generalizing idx with
  | nil => rfl
  | cons x xs ih => exact congrArg (x :: ·) (ih (idx + 1))

theorem tget_entries {α : Type} (l : List α) (idx i : Nat) (hb : idx + l.length ≤ 2 ^ 64) (hi : idx + i < 2 ^ 64) :
    tget (entries idx l) (intToKey (idx + i)) = l[i]? := by
  induction l generalizing idx i with
  | nil => rfl
  | cons x xs ih =>
    obtain ⟨hidx, hb⟩ := idx_step hb
    rw [entries, tget]
    cases i with
    | zero => exact if_pos rfl
    | succ i =>
      rw [if_neg fun e => Nat.succ_ne_zero i (Nat.add_left_cancel (intToKey_injective idx _ hidx hi e).symm)]
      rw [show idx + (i + 1) = idx + 1 + i from (Nat.add_right_comm idx 1 i).symm] at hi ⊢
      exact ih (idx + 1) i hb hi

end Goloop.C22.Proofs
