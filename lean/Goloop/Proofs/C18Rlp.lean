/-
  Proofs/C18Rlp: the RLP parser / node decoder of Model/C18 inverts the encoder of Model/C17
  on node serialisations:  `deserialize fuel (serialize H t) = .ok (toP H t)`.
  `IsItem` is the notion everything goes through: a self-delimiting item, i.e. a header that
  parses in front of arbitrary trailing data, followed by its payload.
-/
import Goloop.Proofs.C17
import Goloop.Base.BigEndian
namespace Goloop.C18
open Goloop.C17 Goloop

theorem beNat_beBytes (n : Nat) : beNat (beBytes n) = n := by
  fun_induction beBytes n with
  | case1 n h => exact (Nat.zero_add _).trans (UInt8.toNat_ofNat_of_lt' h)
  | case2 n h ih => exact beNat_snoc_digit ih

theorem beBytes_length_pos (n : Nat) : 0 < (beBytes n).length := by
  rw [beBytes]; split <;> simp

theorem beBytes_head (n : Nat) (h : 0 < n) : (beBytes n).head? ≠ some 0 := by
  fun_induction beBytes n with
  | case1 n h' =>
    intro e
    have := congrArg UInt8.toNat (Option.some.inj e)
    rw [UInt8.toNat_ofNat_of_lt' h'] at this
    exact Nat.ne_of_gt h this
  | case2 n h' ih =>
    exact head?_snoc_digit (beNat_beBytes _) (ih (Nat.div_pos (Nat.le_of_not_lt h') (by decide))) (Nat.ne_of_gt h)

theorem beBytes_length_le8 (n : Nat) (h : n < 2 ^ 64) : (beBytes n).length ≤ 8 := by
  by_cases h0 : n = 0
  · rw [h0, beBytes, dif_pos (by decide)]; decide
  · exact length_le_of_head_ne_zero (beBytes_head n (Nat.pos_of_ne_zero h0)) ((beNat_beBytes n).symm ▸ h)

@[simp] theorem Res.bind_ok {α β : Type} (a : α) (f : α → Res β) : (Res.ok a).bind f = f a := rfl
@[simp] theorem Res.bind_err {α β : Type} (f : α → Res β) : (Res.err : Res α).bind f = .err := rfl
@[simp] theorem Res.bind_panic {α β : Type} (f : α → Res β) : (Res.panic : Res α).bind f = .panic := rfl

theorem readSize_beBytes (n : Nat) (h56 : 56 ≤ n) (tail : Bytes) :
    readSize (beBytes n ++ tail) (beBytes n).length = .ok n := by
  have hh := beBytes_head n (Nat.lt_of_lt_of_le (by decide) h56)
  have hp := beBytes_length_pos n
  unfold readSize
  rw [if_neg (not_length_append_lt _ _), List.take_left' rfl,
    beNat_beBytes]
  refine if_neg (fun h => h.elim (Nat.not_lt.2 h56) (fun h => hh ?_))
  cases hb : beBytes n with
  | nil => simp [hb] at hp
  | cons x xs => rw [hb] at h; exact h

/-- `parseHeader` on a non-empty input with its tests on the tag byte as comparisons of `b.toNat`, which
    arithmetic on a tag `base + n` decides -/
theorem parseHeader_cons (b : UInt8) (rest : Bytes) :
    parseHeader (b :: rest) =
      (if b.toNat < 0x80 then .ok (false, 0, 1)
       else if b.toNat < 0xB8 then
         if b.toNat - 0x80 = 1 ∧ headLt128 rest = true then .err else .ok (false, 1, b.toNat - 0x80)
       else if b.toNat < 0xC0 then
         (readSize rest (b.toNat - 0xB7)).bind fun s => .ok (false, b.toNat - 0xB7 + 1, s)
       else if b.toNat < 0xF8 then .ok (true, 1, b.toNat - 0xC0)
       else (readSize rest (b.toNat - 0xF7)).bind fun s => .ok (true, b.toNat - 0xF7 + 1, s)).bind
      fun (l, ts, cs) => if cs > rest.length + 1 - ts then .err else .ok (l, ts, cs) := rfl

/-- the header `rlpBytes` (`base = 0x80`) and `rlpList` (`base = 0xC0`) put in front of a payload
    of `n` bytes -/
def rlpHdr (base n : Nat) : Bytes :=
  if n ≤ 55 then [UInt8.ofNat (base + n)]
  else UInt8.ofNat (base + 55 + (beBytes n).length) :: beBytes n

/-- `e` is a self-delimiting RLP item: in front of any trailing data its header parses to
    (`isl`, `ts`, `|p|`) and `e` is exactly `ts` header bytes followed by the payload `p`. -/
def IsItem (e : Bytes) (isl : Bool) (p : Bytes) : Prop :=
  ∃ ts, e.length = ts + p.length ∧ e.drop ts = p ∧
    ∀ rest, parseHeader (e ++ rest) = .ok (isl, ts, p.length)

/-- a header in front of its payload is an item; a one-byte string below 0x80 must not carry a header -/
theorem isItem_rlpHdr (base : Nat) (isl : Bool) (p : Bytes) (h64 : p.length < 2 ^ 64)
    (hbase : base = 0x80 ∧ isl = false ∧ (∀ x, p = [x] → ¬ x < 0x80) ∨ base = 0xC0 ∧ isl = true) :
    IsItem (rlpHdr base p.length ++ p) isl p := by
  refine ⟨(rlpHdr base p.length).length, List.length_append, List.drop_left, fun rest => ?_⟩
  rw [List.append_assoc]
  generalize htl : p ++ rest = tl
  have hl : p.length ≤ tl.length := htl ▸ List.length_append ▸ Nat.le_add_right _ _
  have h8 := beBytes_length_le8 p.length h64
  have h1 := beBytes_length_pos p.length
  unfold rlpHdr
  -- the short form (one tag byte `base + n`), then the long form (tag `base + 55 +` the number of size bytes,
  -- from 0xB8 for a string, from 0xF8 for a list); in each a string and a list
  by_cases hs : p.length ≤ 55
  · have hn : p.length < 56 := Nat.lt_succ_of_le hs
    rw [if_pos hs, List.singleton_append, parseHeader_cons, UInt8.toNat_ofNat']
    rcases hbase with ⟨rfl, rfl, hc⟩ | ⟨rfl, rfl⟩
    · have hc' : ¬ (p.length = 1 ∧ headLt128 tl = true) := fun ⟨h1, h2⟩ => by
        obtain ⟨x, rfl⟩ := List.length_eq_one_iff.1 h1
        rw [← htl] at h2
        exact hc x rfl (of_decide_eq_true h2)
      rw [Nat.mod_eq_of_lt (add_lt_of_le hs), if_neg (not_add_lt _),
        if_pos (Nat.add_lt_add_left hn 0x80), Nat.add_sub_cancel_left, if_neg hc', Res.bind_ok]
      exact if_neg (Nat.not_lt.2 hl)
    · rw [Nat.mod_eq_of_lt (add_lt_of_le hs), if_neg (not_add_lt _), if_neg (not_add_lt _),
        if_neg (not_add_lt _), if_pos (Nat.add_lt_add_left hn 0xC0), Nat.add_sub_cancel_left,
        Res.bind_ok]
      exact if_neg (Nat.not_lt.2 hl)
  · have hr := readSize_beBytes p.length (Nat.lt_of_not_le hs) tl
    have hfin : ¬ p.length > (beBytes p.length ++ tl).length + 1 - ((beBytes p.length).length + 1) := by
      rw [List.length_append, Nat.add_right_comm, Nat.add_sub_cancel_left]; exact Nat.not_lt.2 hl
    rw [if_neg hs, List.cons_append, parseHeader_cons, UInt8.toNat_ofNat']
    rcases hbase with ⟨rfl, rfl, _⟩ | ⟨rfl, rfl⟩
    · rw [Nat.mod_eq_of_lt (add_lt_of_le h8), if_neg (not_add_lt _),
        if_neg (Nat.not_lt.2 (Nat.add_le_add_left h1 0xB7)),
        if_pos (add_lt_of_le h8),
        show 0x80 + 55 + (beBytes p.length).length - 0xB7 = (beBytes p.length).length from Nat.add_sub_cancel_left ..,
        hr, Res.bind_ok, Res.bind_ok]
      exact if_neg hfin
    · rw [Nat.mod_eq_of_lt (add_lt_of_le h8), if_neg (not_add_lt _), if_neg (not_add_lt _),
        if_neg (not_add_lt _), if_neg (Nat.not_lt.2 (Nat.add_le_add_left h1 0xF7)),
        show 0xC0 + 55 + (beBytes p.length).length - 0xF7 = (beBytes p.length).length from Nat.add_sub_cancel_left ..,
        hr, Res.bind_ok, Res.bind_ok]
      exact if_neg hfin

theorem rlpList_eq (items : List Bytes) :
    rlpList items = rlpHdr 0xC0 items.flatten.length ++ items.flatten := by
  simp only [rlpList, rlpHdr]; split <;> rfl

theorem rlpBytes_eq (b : Bytes) (h : ∀ x, b = [x] → ¬ x < 0x80) :
    rlpBytes b = rlpHdr 0x80 b.length ++ b := by
  unfold rlpBytes rlpHdr
  split
  · rename_i x; rw [if_neg (h x rfl)]; rfl
  · split <;> rfl

theorem rlpList_isItem (items : List Bytes) (h : items.flatten.length < 2 ^ 64) :
    IsItem (rlpList items) true items.flatten :=
  rlpList_eq items ▸ isItem_rlpHdr 0xC0 true _ h (Or.inr ⟨rfl, rfl⟩)

theorem rlpBytes_isItem (b : Bytes) (h : b.length < 2 ^ 64) : IsItem (rlpBytes b) false b := by
  by_cases hx : ∃ x, b = [x] ∧ x < 0x80
  · obtain ⟨x, rfl, hlt⟩ := hx
    rw [show rlpBytes [x] = [x] from if_pos hlt]
    refine ⟨0, rfl, rfl, fun rest => ?_⟩
    rw [List.singleton_append, parseHeader_cons, if_pos (show x.toNat < 0x80 from UInt8.lt_iff_toNat_lt.1 hlt)]
    rfl
  · have hx' : ∀ x, b = [x] → ¬ x < 0x80 := fun x hb hlt => hx ⟨x, hb, hlt⟩
    exact rlpBytes_eq b hx' ▸ isItem_rlpHdr 0x80 false b h (Or.inl ⟨rfl, rfl, hx'⟩)

/-- an item as the parsers meet it, with nothing behind it: its header, and its payload where they cut it out -/
theorem IsItem.header {e p : Bytes} {isl : Bool} (h : IsItem e isl p) :
    ∃ ts, parseHeader e = .ok (isl, ts, p.length) ∧ (e.drop ts).take p.length = p := by
  obtain ⟨ts, _, hd, hp⟩ := h
  exact ⟨ts, List.append_nil e ▸ hp [], by rw [hd, List.take_length]⟩

theorem IsItem.ne_nil {e p : Bytes} {isl : Bool} (h : IsItem e isl p) : e ≠ [] := by
  obtain ⟨ts, hp, _⟩ := h.header
  rintro rfl
  cases hp

-- in the `IsItem.*` declarations after them the bare `parseBytes`, `parseList` are these lemmas: the model's functions are
-- written `C18.parseBytes`, `C18.parseList`
theorem IsItem.parseBytes {e p : Bytes} (h : IsItem e false p) : parseBytes e = .ok p := by
  obtain ⟨ts, hp, hd⟩ := h.header
  simp [C18.parseBytes, hp, hd]

theorem IsItem.parseBytes_list {e p : Bytes} (h : IsItem e true p) : C18.parseBytes e = .err := by
  obtain ⟨ts, hp, _⟩ := h.header
  simp [C18.parseBytes, hp]

theorem IsItem.parseList {e p : Bytes} (h : IsItem e true p) :
    parseList e = splitItems (e.length + 1) p := by
  obtain ⟨ts, hp, hd⟩ := h.header
  simp [C18.parseList, hp, hd]

theorem parseBytes_rlpBytes (b : Bytes) (h : b.length < 2 ^ 64) : parseBytes (rlpBytes b) = .ok b :=
  (rlpBytes_isItem b h).parseBytes

/-- an encoded item of either kind -/
def Item (e : Bytes) : Prop := ∃ isl p, IsItem e isl p

/-- the item loop takes a list of items apart; a turn per byte is more than enough, an item is not empty -/
theorem splitItems_flatten (items : List Bytes) (h : ∀ e ∈ items, Item e) (fuel : Nat)
    (hf : items.flatten.length ≤ fuel) : splitItems fuel items.flatten = .ok items := by
  induction items generalizing fuel with
  | nil => cases fuel <;> simp [splitItems]
  | cons e r ih =>
    obtain ⟨isl, p, hi⟩ := h e (by simp)
    have hne := hi.ne_nil
    have hpos := List.length_pos_iff.2 hne
    obtain ⟨ts, hl, hd, hp⟩ := hi
    rw [List.flatten_cons, List.length_append] at hf
    cases fuel with
    | zero => omega
    | succ f =>
      have ihr := ih (fun x hx => h x (by simp [hx])) f (by omega)
      rw [List.flatten_cons]
      unfold splitItems
      split
      · rename_i heq; simp [hne] at heq
      · rw [hp]
        simp only [Res.bind_ok, ← hl]
        simp [ihr]

theorem flatten_length_le (items : List Bytes) (k : Nat) (h : ∀ e ∈ items, e.length ≤ k) :
    items.flatten.length ≤ items.length * k := by
  induction items with
  | nil => simp
  | cons e r ih =>
    have := ih (fun x hx => h x (by simp [hx]))
    have := h e (by simp)
    simp only [List.flatten_cons, List.length_append, List.length_cons, Nat.succ_mul]; omega

theorem rlpList_length_gt (items : List Bytes) : items.flatten.length < (rlpList items).length := by
  rw [rlpList_eq, List.length_append]
  refine Nat.lt_add_of_pos_left ?_
  unfold rlpHdr; split <;> simp

theorem parseList_rlpList (items : List Bytes) (h : ∀ e ∈ items, Item e)
    (hlen : items.flatten.length < 2 ^ 64) : parseList (rlpList items) = .ok items :=
  (rlpList_isItem items hlen).parseList.trans
    (splitItems_flatten items h _ (Nat.le_succ_of_le (Nat.le_of_lt (rlpList_length_gt items))))

theorem rlpBytes_length_le (b : Bytes) (h : b.length < 2 ^ 64) :
    (rlpBytes b).length ≤ b.length + 9 := by
  have h8 := beBytes_length_le8 _ h
  unfold rlpBytes
  split
  · split <;> simp
  · split <;> simp <;> omega

/-- the header byte of an odd-length key: flag 0x10 set, the first nibble in the low half,
    the leaf/extension bit 0x20 that of the tag -/
theorem oddHdr (tag : UInt8) (htag : tag = 0x00 ∨ tag = 0x20) (a : Fin 16) :
    (tag ||| 0x10 ||| UInt8.ofNat a.val) &&& 0x10 ≠ 0 ∧
      loNib (tag ||| 0x10 ||| UInt8.ofNat a.val) = a ∧
      (tag ||| 0x10 ||| UInt8.ofNat a.val) &&& 0x20 = tag := by
  rcases htag with rfl | rfl <;> revert a <;> decide +kernel

theorem unpack_packNibs (ks : List Nibble) (h : ks.length % 2 = 0) :
    (packNibs ks).flatMap (fun b => [hiNib b, loNib b]) = ks := by
  fun_induction packNibs ks with
  | case1 a b r ih =>
    rw [List.flatMap_cons, hiNib_pack, loNib_pack, ih ((Nat.add_mod_right r.length 2).symm.trans h)]
    rfl
  | case2 ks hk =>
    match ks, hk, h with
    | [], _, _ => rfl
    | a :: b :: r, hk, _ => exact absurd rfl (hk a b r)

theorem packNibs_length_le (ks : List Nibble) : (packNibs ks).length ≤ ks.length := by
  fun_induction packNibs ks with
  | case1 a b r ih => simp only [List.length_cons]; omega
  | case2 ks hk => exact Nat.zero_le _

theorem encodeKeys_cases (tag : UInt8) (ks : List Nibble) :
    (∃ a r, ks = a :: r ∧ r.length % 2 = 0 ∧
        encodeKeys tag ks = (tag ||| 0x10 ||| UInt8.ofNat a.val) :: packNibs r) ∨
      (ks.length % 2 = 0 ∧ encodeKeys tag ks = tag :: packNibs ks) := by
  fun_cases encodeKeys tag ks with
  | case1 a r h => exact Or.inl ⟨a, r, rfl, by rw [List.length_cons] at h; omega, rfl⟩
  | case2 h => exact absurd h (by decide)
  | case3 ks h => exact Or.inr ⟨(Nat.mod_two_eq_zero_or_one _).resolve_right h, rfl⟩

theorem encodeKeys_length_le (tag : UInt8) (ks : List Nibble) (h : ks.length < 2 ^ 32) :
    (encodeKeys tag ks).length ≤ 2 ^ 32 := by
  rcases encodeKeys_cases tag ks with ⟨a, r, rfl, _, he⟩ | ⟨_, he⟩
  · rw [he]; exact Nat.le_of_lt (Nat.lt_of_le_of_lt (Nat.succ_le_succ (packNibs_length_le r)) h)
  · rw [he]; exact Nat.le_trans (Nat.succ_le_succ (packNibs_length_le ks)) h

theorem decodeKeys_encodeKeys (tag : UInt8) (htag : tag = 0x00 ∨ tag = 0x20) (ks : List Nibble) :
    decodeKeys (encodeKeys tag ks) = .ok ks := by
  rcases encodeKeys_cases tag ks with ⟨a, r, rfl, hr, he⟩ | ⟨hk, he⟩
  · obtain ⟨h1, h2, _⟩ := oddHdr tag htag a
    rw [he, decodeKeys, if_pos h1, h2, unpack_packNibs r hr]
  · have h1 : ¬ (tag &&& 0x10 ≠ 0) := by rcases htag with rfl | rfl <;> decide
    rw [he, decodeKeys, if_neg h1, unpack_packNibs ks hk]

/-- an encoded key string parses back to a non-empty header that carries the leaf / extension
    bit of the tag and decodes to the key -/
theorem parse_encodeKeys (tag : UInt8) (htag : tag = 0x00 ∨ tag = 0x20) (ks : List Nibble)
    (h : ks.length < 2 ^ 32) :
    ∃ h0 tl, parseBytes (rlpBytes (encodeKeys tag ks)) = .ok (h0 :: tl) ∧ h0 &&& 0x20 = tag ∧
      decodeKeys (h0 :: tl) = .ok ks := by
  have hp := parseBytes_rlpBytes (encodeKeys tag ks)
    (Nat.lt_of_le_of_lt (encodeKeys_length_le _ ks h) (by decide))
  have hd := decodeKeys_encodeKeys tag htag ks
  rcases encodeKeys_cases tag ks with ⟨a, r, rfl, hr, he⟩ | ⟨hk, he⟩
  · rw [he] at hp hd ⊢; exact ⟨_, _, hp, (oddHdr tag htag a).2.2, hd⟩
  · rw [he] at hp hd ⊢; exact ⟨_, _, hp, by rcases htag with rfl | rfl <;> decide, hd⟩

/-- size bound: every key string and value is shorter than 2^32, hence every node payload
    is (far) below 2^64 and all RLP long-form length fields fit in 8 bytes -/
def Small : Node → Prop
  | .empty => True
  | .leaf ks v => ks.length < 2 ^ 32 ∧ v.length < 2 ^ 32
  | .ext ks nx => ks.length < 2 ^ 32 ∧ Small nx
  | .branch ch v => (∀ x, v = some x → x.length < 2 ^ 32) ∧ ∀ i, Small (ch i)

/-- the part of normal form the decoder relies on: an extension's next node is not nil -/
def ExtOk : Node → Prop
  | .empty => True
  | .leaf _ _ => True
  | .ext _ nx => nx ≠ .empty ∧ ExtOk nx
  | .branch ch _ => ∀ i, ExtOk (ch i)

/-- the RLP items of a node's serialisation -/
def sitems (H : Bytes → Bytes) : Node → List Bytes
  | .empty => []
  | .leaf ks v => [rlpBytes (encodeKeys 0x20 ks), rlpBytes v]
  | .ext ks nx => [rlpBytes (encodeKeys 0x00 ks), link H nx]
  | .branch ch v =>
    ((List.finRange 16).map fun i => link H (ch i)) ++ [rlpBytes (v.getD [])]

theorem serialize_eq (H : Bytes → Bytes) (t : Node) (ht : t ≠ .empty) :
    serialize H t = rlpList (sitems H t) := by
  cases t with
  | empty => exact absurd rfl ht
  | leaf ks v => rfl
  | ext ks nx => rfl
  | branch ch v => cases v <;> rfl

/-- `nodeFromLink` as inlined in `deserialize` -/
def fromLink (f : Nat) (b : Bytes) : Res PNode :=
  match b with
  | [] => .panic
  | b0 :: _ =>
    if b0 ≥ 0xC0 then deserialize f b
    else (parseBytes b).bind fun v => if v = [] then .ok .nil else .ok (.hash v)

/-- a list in the short form starts with a byte from 0xC0 on, which sends `nodeFromLink` to the decoder -/
theorem fromLink_rlpList (f : Nat) (items : List Bytes) (h : items.flatten.length ≤ 55) :
    fromLink f (rlpList items) = deserialize f (rlpList items) := by
  have hb0 : UInt8.ofNat (0xC0 + items.flatten.length) ≥ 0xC0 := by
    rw [ge_iff_le, UInt8.le_iff_toNat_le, UInt8.toNat_ofNat', Nat.mod_eq_of_lt (add_lt_of_le h)]
    exact Nat.le_add_right _ _
  rw [show rlpList items = _ :: _ from if_pos h]
  exact if_pos hb0

theorem deserialize_succ (f : Nat) (s : Bytes) :
    deserialize (f + 1) s =
      (parseList s).bind fun bl =>
        if bl.length = 2 then
          (parseBytes (bl.getD 0 [])).bind fun kh =>
            match kh with
            | [] => .err
            | h0 :: _ =>
              if h0 &&& 0x20 = 0 then
                (fromLink f (bl.getD 1 [])).bind fun nx =>
                  if nx.isNil then .err
                  else (decodeKeys kh).bind fun ks => .ok (.ext ks nx)
              else
                (decodeKeys kh).bind fun ks => (parseBytes (bl.getD 1 [])).bind fun v => .ok (.leaf ks v)
        else if bl.length = 17 then
          (mapRes (fromLink f) (bl.take 16)).bind fun cs =>
            (parseBytes (bl.getD 16 [])).bind fun v =>
              .ok (.branch (fun i => cs.getD i.val .nil) (if v = [] then none else some v))
        else .err := by
  rw [deserialize]; rfl

/-- a list of an encoded key and one more item decodes to an extension (`tag = 0x00`) or to a leaf (`tag = 0x20`) -/
theorem deserialize_pair (f : Nat) (tag : UInt8) (htag : tag = 0x00 ∨ tag = 0x20) (ks : List Nibble)
    (hk : ks.length < 2 ^ 32) {s b : Bytes} (hs : parseList s = .ok [rlpBytes (encodeKeys tag ks), b]) :
    deserialize (f + 1) s =
      if tag = 0x00 then (fromLink f b).bind fun nx => if nx.isNil then .err else .ok (.ext ks nx)
      else (parseBytes b).bind fun v => .ok (.leaf ks v) := by
  obtain ⟨h0, tl, hpk, hbit, hdk⟩ := parse_encodeKeys tag htag ks hk
  rw [deserialize_succ, hs, Res.bind_ok, if_pos (show [_, b].length = 2 from rfl)]
  show (parseBytes (rlpBytes (encodeKeys tag ks))).bind _ = _
  rw [hpk]
  simp only [hbit, hdk, Res.bind_ok]
  rfl

theorem mapRes_map {α β γ : Type} (f : β → Res γ) (g : α → β) (h : α → γ) (l : List α)
    (hl : ∀ a ∈ l, f (g a) = .ok (h a)) : mapRes f (l.map g) = .ok (l.map h) := by
  induction l with
  | nil => rfl
  | cons a r ih =>
    simp only [List.map_cons, mapRes]
    rw [hl a (by simp), ih (fun x hx => hl x (by simp [hx]))]
    rfl

theorem getD_map_finRange {α : Type} (P : Fin 16 → α) (i : Fin 16) (d : α) :
    ((List.finRange 16).map P).getD i.val d = P i := by
  rw [List.getD_eq_getElem?_getD, List.getElem?_map, List.getElem?_eq_getElem (by simp)]
  simp

theorem deserialize_branch (f : Nat) {s a v : Bytes} {g : Fin 16 → Bytes} {P : Fin 16 → PNode}
    (hs : parseList s = .ok ((List.finRange 16).map g ++ [a]))
    (hc : ∀ i, fromLink f (g i) = .ok (P i)) (hv : parseBytes a = .ok v) :
    deserialize (f + 1) s = .ok (.branch P (if v = [] then none else some v)) := by
  have hl : ((List.finRange 16).map g).length = 16 := by simp
  have h17 : ((List.finRange 16).map g ++ [a]).length = 17 := by rw [List.length_append, hl]; rfl
  have ha : ((List.finRange 16).map g ++ [a]).getD 16 [] = a := by
    rw [List.getD_eq_getElem?_getD, List.getElem?_append_right (Nat.le_of_eq hl), hl]; rfl
  rw [deserialize_succ, hs, Res.bind_ok, if_neg (by omega), if_pos h17, List.take_left' hl,
    mapRes_map (fromLink f) g P _ fun i _ => hc i, Res.bind_ok, ha, hv]
  simp only [Res.bind_ok, getD_map_finRange]

theorem rlpBytes_hash (b : Bytes) (h : b.length = 32) : rlpBytes b = 0xa0 :: b := by
  unfold rlpBytes
  split
  · simp at h
  · rw [if_pos (by omega), h]; rfl

theorem hash_ne_nil (H : Bytes → Bytes) (hH : ∀ s, (H s).length = 32) (s : Bytes) : H s ≠ [] :=
  fun h => absurd (hH s) (by rw [h]; decide)

/-- of a child that is embedded in its parent (`¬ … > 32`, as `link` tests it) -/
theorem embedded_flatten_lt (H : Bytes → Bytes) (c : Node) (hc : c ≠ .empty)
    (hle : ¬ (serialize H c).length > 32) : (sitems H c).flatten.length < 32 :=
  Nat.lt_of_lt_of_le (rlpList_length_gt _) (serialize_eq H c hc ▸ Nat.le_of_not_lt hle)

/-- the link of any child is an item of at most 33 bytes: the string of a hash, the empty string, or a list of at most 32 bytes -/
theorem link_ok (H : Bytes → Bytes) (hH : ∀ s, (H s).length = 32) (c : Node) :
    Item (link H c) ∧ (link H c).length ≤ 33 := by
  unfold link
  simp only
  split
  · exact ⟨⟨_, _, rlpBytes_isItem _ (by rw [hH]; decide)⟩, by rw [rlpBytes_hash _ (hH _)]; simp [hH]⟩
  · rename_i hle
    refine ⟨?_, by omega⟩
    by_cases hc : c = .empty
    · subst hc
      exact ⟨_, _, rlpBytes_isItem [] (Nat.two_pow_pos 64)⟩
    · exact ⟨_, _, serialize_eq H c hc ▸
        rlpList_isItem _ (Nat.lt_trans (embedded_flatten_lt H c hc hle) (by decide))⟩

theorem sitems_ok (H : Bytes → Bytes) (hH : ∀ s, (H s).length = 32) (t : Node) (hs : Small t) :
    ∀ e ∈ sitems H t, Item e ∧ e.length ≤ 2 ^ 32 + 9 := by
  have hb : ∀ b : Bytes, b.length ≤ 2 ^ 32 → Item (rlpBytes b) ∧ (rlpBytes b).length ≤ 2 ^ 32 + 9 := fun b hb =>
    have h64 := Nat.lt_of_le_of_lt hb (by decide)
    ⟨⟨_, _, rlpBytes_isItem b h64⟩, Nat.le_trans (rlpBytes_length_le b h64) (Nat.add_le_add_right hb 9)⟩
  have hl : ∀ c, Item (link H c) ∧ (link H c).length ≤ 2 ^ 32 + 9 := fun c =>
    (link_ok H hH c).imp_right (Nat.le_trans · (by decide))
  intro e he
  cases t with
  | empty => simp [sitems] at he
  | leaf ks v =>
    simp only [sitems, List.mem_cons, List.not_mem_nil, or_false] at he
    rcases he with rfl | rfl
    · exact hb _ (encodeKeys_length_le _ ks hs.1)
    · exact hb _ (Nat.le_of_lt hs.2)
  | ext ks nx =>
    simp only [sitems, List.mem_cons, List.not_mem_nil, or_false] at he
    rcases he with rfl | rfl
    · exact hb _ (encodeKeys_length_le _ ks hs.1)
    · exact hl nx
  | branch ch v =>
    simp only [sitems, List.mem_append, List.mem_map, List.mem_cons, List.not_mem_nil, or_false] at he
    rcases he with ⟨i, _, rfl⟩ | rfl
    · exact hl (ch i)
    · cases v with
      | none => exact hb [] (Nat.zero_le _)
      | some x => exact hb x (Nat.le_of_lt (hs.1 x rfl))

theorem parseList_serialize (H : Bytes → Bytes) (hH : ∀ s, (H s).length = 32) (t : Node)
    (ht : t ≠ .empty) (hs : Small t) : parseList (serialize H t) = .ok (sitems H t) := by
  have hok := sitems_ok H hH t hs
  have h17 : (sitems H t).length ≤ 17 := by cases t <;> simp [sitems]
  rw [serialize_eq H t ht]
  exact parseList_rlpList _ (fun e he => (hok e he).1) (Nat.lt_of_le_of_lt
    (Nat.le_trans (flatten_length_le _ _ fun e he => (hok e he).2) (Nat.mul_le_mul_right _ h17)) (by decide))

/-- the reference under which a child appears in its parent's decoded serialisation
    (what `nodeFromLink` returns for its link) -/
def ref (H : Bytes → Bytes) (n : Node) : PNode :=
  if (serialize H n).length > 32 then .hash (H (serialize H n)) else toP H n

theorem ref_isNil (H : Bytes → Bytes) (n : Node) : (ref H n).isNil = n.isEmpty := by
  fun_cases ref H n with
  | case1 h =>
    cases n with
    | empty => simp [serialize] at h
    | _ => rfl
  | case2 => cases n <;> rfl

/-- `nodeFromLink` on the link of a child: a hash reference, nil, or, for an embedded child, what the decoder says of it -/
theorem fromLink_link (H : Bytes → Bytes) (hH : ∀ s, (H s).length = 32) (c : Node) (f : Nat)
    (hrec : c ≠ .empty → ¬ (serialize H c).length > 32 → deserialize f (serialize H c) = .ok (toP H c)) :
    fromLink f (link H c) = .ok (ref H c) := by
  unfold link ref
  simp only
  split
  · rw [rlpBytes_hash _ (hH _)]
    have hp := parseBytes_rlpBytes (H (serialize H c)) (by rw [hH]; decide)
    rw [rlpBytes_hash _ (hH _)] at hp
    have hne := hash_ne_nil H hH (serialize H c)
    simp only [fromLink]
    rw [if_neg (by decide), hp]
    simp [hne]
  · rename_i hle
    by_cases hc : c = .empty
    · subst hc
      have hp := parseBytes_rlpBytes [] (Nat.two_pow_pos 64)
      show fromLink f [0x80] = _
      simp only [fromLink]
      rw [if_neg (by decide)]
      show (parseBytes (rlpBytes [])).bind _ = _
      rw [hp]; rfl
    · rw [← hrec hc hle, serialize_eq H c hc]
      exact fromLink_rlpList f _ (Nat.le_of_lt (Nat.lt_trans (embedded_flatten_lt H c hc hle) (by decide)))

/-- either fuel bound of a node carries over to a child embedded in it, with one less: the node count trivially,
    the byte length because the child is a proper part of the serialisation -/
theorem child_fuel (H : Bytes → Bytes) {t c : Node} {f : Nat} (ht : t ≠ .empty) (hmem : link H c ∈ sitems H t)
    (hsz : c.size < t.size) (hf : t.size ≤ f + 1 ∨ (serialize H t).length ≤ f + 1)
    (hle : ¬ (serialize H c).length > 32) : c.size ≤ f ∨ (serialize H c).length ≤ f := by
  have h2 := (List.sublist_flatten_of_mem hmem).length_le
  rw [link, if_neg hle] at h2
  rw [serialize_eq H t ht] at hf
  exact hf.imp (fun h => Nat.le_of_lt_succ (Nat.lt_of_lt_of_le hsz h)) fun h =>
    Nat.le_of_lt_succ (Nat.lt_of_le_of_lt h2 (Nat.lt_of_lt_of_le (rlpList_length_gt _) h))

theorem le_sum_of_mem {x : Nat} {l : List Nat} (h : x ∈ l) : x ≤ l.sum := by
  induction l with
  | nil => simp at h
  | cons a r ih =>
    simp only [List.sum_cons]
    rcases List.mem_cons.mp h with rfl | h
    · omega
    · have := ih h; omega

theorem child_size_lt (ch : Fin 16 → Node) (v : Option Bytes) (i : Fin 16) :
    (ch i).size < (Node.branch ch v).size := by
  have : (ch i).size ∈ (List.finRange 16).map fun i => (ch i).size :=
    List.mem_map.mpr ⟨i, List.mem_finRange i, rfl⟩
  have := le_sum_of_mem this
  simp only [Node.size]; omega

theorem fuel_pos (H : Bytes → Bytes) (t : Node) (fuel : Nat)
    (hf : t.size ≤ fuel ∨ (serialize H t).length ≤ fuel) : ∃ f, fuel = f + 1 := by
  have h1 := t.size_pos
  have h2 : 0 < (serialize H t).length := by
    by_cases ht : t = .empty
    · subst ht; exact Nat.succ_pos 0
    · rw [serialize_eq H t ht]; exact Nat.zero_lt_of_lt (rlpList_length_gt _)
  exact ⟨fuel - 1, (Nat.sub_add_cancel
    (hf.elim (Nat.lt_of_lt_of_le h1) (Nat.lt_of_lt_of_le h2))).symm⟩

/-- **Decoder inverts encoder**, weakest hypotheses: the node is not nil, no extension has a nil
    next node, sizes are bounded; fuel is at least the node count *or* the byte length. -/
theorem deserialize_serialize_of_extOk (H : Bytes → Bytes) (hH : ∀ s, (H s).length = 32)
    (t : Node) (hne : t ≠ .empty) (hok : ExtOk t) (hsm : Small t) (fuel : Nat)
    (hf : t.size ≤ fuel ∨ (serialize H t).length ≤ fuel) :
    deserialize fuel (serialize H t) = .ok (toP H t) := by
  induction t generalizing fuel with
  | empty => exact absurd rfl hne
  | leaf ks v =>
    obtain ⟨f, rfl⟩ := fuel_pos H _ fuel hf
    rw [deserialize_pair f 0x20 (Or.inr rfl) ks hsm.1 (parseList_serialize H hH _ hne hsm), if_neg (by decide),
      parseBytes_rlpBytes v (Nat.lt_trans hsm.2 (by decide))]
    rfl
  | ext ks nx ih =>
    obtain ⟨f, rfl⟩ := fuel_pos H _ fuel hf
    have hl := fromLink_link H hH nx f fun hc hle => ih hc hok.2 hsm.2 f
      (child_fuel H hne (by simp [sitems]) (by simp [Node.size]) hf hle)
    have hnil : (ref H nx).isNil = false := by
      rw [ref_isNil]; cases nx with
      | empty => exact absurd rfl hok.1
      | _ => rfl
    rw [deserialize_pair f 0x00 (Or.inl rfl) ks hsm.1 (parseList_serialize H hH _ hne hsm), if_pos rfl, hl,
      Res.bind_ok, hnil]
    rfl
  | branch ch v ih =>
    obtain ⟨f, rfl⟩ := fuel_pos H _ fuel hf
    have hc : ∀ i, fromLink f (link H (ch i)) = .ok (ref H (ch i)) := fun i =>
      fromLink_link H hH (ch i) f fun hc hle => ih i hc (hok i) (hsm.2 i) f
        (child_fuel H hne
          (by simp only [sitems, List.mem_append, List.mem_map]
              exact Or.inl ⟨i, List.mem_finRange i, rfl⟩)
          (child_size_lt ch v i) hf hle)
    have hv : (v.getD []).length < 2 ^ 64 := by
      cases v with
      | none => exact Nat.two_pow_pos 64
      | some x => exact Nat.lt_trans (hsm.1 x rfl) (by decide)
    rw [deserialize_branch f (parseList_serialize H hH _ hne hsm) hc (parseBytes_rlpBytes _ hv)]
    -- no value, an empty one, any other: the decoder's `if v = [] then none` is the `some [] => none` of `toP`
    rcases v with _ | _ | _ <;> rfl

theorem nfn_extOk (t : Node) : NFn t → ExtOk t := by
  induction t with
  | empty => intro h; exact h.elim
  | leaf ks v => intro _; trivial
  | ext ks nx ih =>
    intro ⟨_, ⟨c, w, hb⟩, hn⟩
    exact ⟨by rw [hb]; exact Node.noConfusion, ih hn⟩
  | branch ch v ih =>
    intro ⟨hc, _⟩ i
    rcases hc i with h | h
    · rw [h]; trivial
    · exact ih i h

/-- **Decoder inverts encoder** on normal-form nodes, for any fuel ≥ the number of nodes. -/
theorem deserialize_serialize (H : Bytes → Bytes) (hH : ∀ s, (H s).length = 32)
    (t : Node) (hnf : NFn t) (hsm : Small t) (fuel : Nat) (hf : t.size ≤ fuel) :
    deserialize fuel (serialize H t) = .ok (toP H t) :=
  deserialize_serialize_of_extOk H hH t (NFn_ne_empty t hnf) (nfn_extOk t hnf) hsm fuel (Or.inl hf)

/-- the fuel `proveHash` actually passes: byte length + 1 -/
theorem deserialize_serialize_len (H : Bytes → Bytes) (hH : ∀ s, (H s).length = 32)
    (t : Node) (hnf : NFn t) (hsm : Small t) :
    deserialize ((serialize H t).length + 1) (serialize H t) = .ok (toP H t) :=
  deserialize_serialize_of_extOk H hH t (NFn_ne_empty t hnf) (nfn_extOk t hnf) hsm _
    (Or.inr (by omega))

/-- `Small` implies the (insufficient on its own) `SmallVals` of C17Defs -/
theorem small_smallVals (t : Node) : Small t → SmallVals t := by
  induction t with
  | empty => intro _; trivial
  | leaf ks v => exact fun ⟨_, h⟩ => Nat.lt_trans h (by decide)
  | ext ks nx ih => intro ⟨_, h⟩; exact ih h
  | branch ch v ih =>
    intro ⟨h1, h2⟩
    exact ⟨fun x hx => Nat.lt_trans (h1 x hx) (by decide), fun i => ih i (h2 i)⟩

/-! non-vacuity: an extension over a branch with two leaf children and a value -/
section example_
def exH : Bytes → Bytes := fun _ => List.replicate 32 0
def exCh : Fin 16 → Node := upd (upd noCh 0 (.leaf [2] [0xaa])) 1 (.leaf [] [0xbb])
def exT : Node := .ext [1] (.branch exCh (some [0xcc]))

theorem exT_hyps : (∀ s, (exH s).length = 32) ∧ NFn exT ∧ Small exT ∧ exT.size ≤ 20 := by
  refine ⟨fun _ => List.length_replicate, ⟨List.cons_ne_nil _ _, ⟨_, _, rfl⟩,
    nf_upd (nf_upd nf_noCh (Or.inr trivial)) (Or.inr trivial), by decide⟩,
    ⟨by decide, ?_, ?_⟩, by decide⟩
  · intro x hx; cases hx; decide
  · intro i
    by_cases h1 : i = 1
    · subst h1; simp [exCh, upd, Small]
    · by_cases h0 : i = 0
      · subst h0; simp [exCh, upd, Small]
      · simp [exCh, upd, h1, h0, noCh, Small]

example : deserialize 20 (serialize exH exT) = .ok (toP exH exT) :=
  deserialize_serialize exH exT_hyps.1 exT exT_hyps.2.1 exT_hyps.2.2.1 20 exT_hyps.2.2.2

example : deserialize ((serialize exH exT).length + 1) (serialize exH exT) = .ok (toP exH exT) :=
  deserialize_serialize_len exH exT_hyps.1 exT exT_hyps.2.1 exT_hyps.2.2.1
end example_

end Goloop.C18
