/-
  Proofs/C17Iter: the iterator / Filter stack machine of mpt.go yields exactly the stored
  pairs, in ascending key order, and the prefix filter yields exactly the pairs whose key
  has the prefix.
-/
import Goloop.Proofs.C17
namespace Goloop.C17

theorem mem_map_prepend (p : List Nibble) (l : List (List Nibble × Bytes)) (k : List Nibble)
    (v : Bytes) : (k, v) ∈ l.map (fun e => (p ++ e.1, e.2)) ↔ p <+: k ∧ (k.drop p.length, v) ∈ l := by
  simp only [List.mem_map, Prod.mk.injEq]
  constructor
  · rintro ⟨⟨a, b⟩, hm, rfl, rfl⟩; exact ⟨List.prefix_append p a, by rwa [List.drop_left]⟩
  · rintro ⟨⟨r, rfl⟩, hm⟩; exact ⟨(r, v), by rwa [List.drop_left] at hm, rfl, rfl⟩

theorem mem_entries_iff (t : Node) (k : List Nibble) (v : Bytes) :
    (k, v) ∈ entries t ↔ get t k = some v := by
  induction t generalizing k with
  | empty => simp [entries]
  | leaf ks x =>
    rw [get_leaf, entries, List.mem_singleton, Prod.mk.injEq]
    by_cases h : k = ks
    · rw [if_pos h, Option.some.injEq]; exact ⟨fun e => e.2.symm, fun e => ⟨h, e.symm⟩⟩
    · rw [if_neg h]; exact ⟨fun e => absurd e.1 h, nofun⟩
  | ext ks nx ih =>
    rw [entries, mem_map_prepend, ih, get_ext]
    by_cases hp : ks <+: k <;> simp [hp]
  | branch ch w ih =>
    have hj : ∀ j, ((k, v) ∈ (entries (ch j)).map fun e => (j :: e.1, e.2)) ↔
        [j] <+: k ∧ get (ch j) (k.drop 1) = some v := fun j =>
      (mem_map_prepend [j] _ k v).trans (and_congr Iff.rfl (ih j _))
    simp only [entries, List.mem_append, List.mem_flatMap, List.mem_finRange, true_and, hj]
    cases k with
    | nil => cases w <;> simp [eq_comm]
    | cons i r =>
      constructor
      · rintro (h | ⟨j, hp, hg⟩)
        · cases w <;> simp at h
        · cases (List.cons_prefix_cons.1 hp).1; exact hg
      · exact fun h => Or.inr ⟨i, ⟨r, rfl⟩, h⟩

/-! The order on keys is the core `<` on `List (Fin 16)` (`List.Lex (· < ·)`). -/

theorem entries_sorted (t : Node) : (entries t).Pairwise (fun a b => a.1 < b.1) := by
  induction t with
  | empty => simp [entries]
  | leaf ks x => simp [entries]
  | ext ks nx ih =>
    rw [entries, List.pairwise_map]
    exact ih.imp List.append_left_lt
  | branch ch w ih =>
    have hch : ((List.finRange 16).flatMap fun i =>
        (entries (ch i)).map fun e => (i :: e.1, e.2)).Pairwise (fun a b => a.1 < b.1) := by
      rw [List.pairwise_flatMap]
      refine ⟨?_, ?_⟩
      · intro i _
        rw [List.pairwise_map]
        refine (ih i).imp ?_
        intro a b h
        exact List.cons_lt_cons_iff.2 (Or.inr ⟨rfl, h⟩)
      · refine (List.pairwise_lt_finRange 16).imp ?_
        intro i j hij x hx y hy
        simp only [List.mem_map] at hx hy
        obtain ⟨a, _, rfl⟩ := hx
        obtain ⟨b, _, rfl⟩ := hy
        exact List.cons_lt_cons_iff.2 (Or.inl hij)
    simp only [entries]
    rw [List.pairwise_append]
    refine ⟨?_, hch, ?_⟩
    · cases w <;> simp
    · intro a ha b hb
      cases w with
      | none => simp at ha
      | some x =>
        simp only [List.mem_singleton] at ha
        subst ha
        simp only [List.mem_flatMap, List.mem_map] at hb
        obtain ⟨i, _, e, _, rfl⟩ := hb
        exact List.nil_lt_cons _ _

theorem entries_keys_nodup (t : Node) : ((entries t).map (·.1)).Nodup := by
  rw [List.nodup_iff_pairwise_ne, List.pairwise_map]
  refine (entries_sorted t).imp ?_
  intro a b h he
  rw [he] at h
  exact List.lt_irrefl _ h

namespace Iter

/-- what one stack item contributes: the entries below it whose full key passes `q` -/
def outQ (q : List Nibble → Bool) (it : Item) : List (Bytes × Bytes) :=
  ((entries it.2).filter (fun e => q (it.1 ++ e.1))).map
    (fun e => (keysToBytes (it.1 ++ e.1), e.2))

/-- contribution of a stack item under the nibble prefix `P` -/
abbrev out (P : List Nibble) (it : Item) : List (Bytes × Bytes) := outQ P.isPrefixOf it

/-- the pair returned by one `Next()` step, as a list -/
def optOut : Option (List Nibble × Bytes) → List (Bytes × Bytes)
  | some kv => [(keysToBytes kv.1, kv.2)]
  | none => []

/-- total number of nodes below the stack: the fuel needed -/
def stSize (st : List Item) : Nat := (st.map (fun it => it.2.size)).sum

theorem stSize_nil : stSize [] = 0 := rfl
theorem stSize_cons (it : Item) (st : List Item) : stSize (it :: st) = it.2.size + stSize st := by
  simp [stSize]
theorem stSize_append (a b : List Item) : stSize (a ++ b) = stSize a + stSize b := by
  simp [stSize, List.sum_append]
theorem stSize_reverse (a : List Item) : stSize a.reverse = stSize a := by
  simp [stSize, List.sum_reverse]
theorem stSize_sublist {a b : List Item} (h : a.Sublist b) : stSize a ≤ stSize b := by
  induction h with
  | slnil => exact Nat.le_refl _
  | cons x _ ih => rw [stSize_cons]; exact Nat.le_trans ih (Nat.le_add_left _ _)
  | cons_cons x _ ih => rw [stSize_cons, stSize_cons]; exact Nat.add_le_add_left ih _

theorem filter_const_true {α : Type} (l : List α) : l.filter (fun _ => true) = l :=
  List.filter_eq_self.2 (by simp)

theorem flatMap_filter_of_nil {α β : Type} (p : α → Bool) (g : α → List β) (l : List α)
    (h : ∀ x, p x = false → g x = []) : (l.filter p).flatMap g = l.flatMap g := by
  induction l with
  | nil => rfl
  | cons x l ih =>
    simp only [List.filter_cons]
    cases hp : p x
    · simp [ih, h x hp]
    · simp [ih]

theorem iterRun_succ_cons (P : List Nibble) (f : Nat) (ii : Item) (st : List Item) :
    iterRun P (f + 1) (ii :: st) =
      optOut (iterTraverse P ii).2 ++ iterRun P f ((iterTraverse P ii).1.reverse ++ st) := by
  simp only [iterRun]
  split <;> simp_all [optOut]

theorem checkPrefix_true_iff (P v : List Nibble) :
    checkPrefix P v true = true ↔ (v <+: P ∨ P <+: v) := by
  unfold checkPrefix
  by_cases hl : v.length < P.length
  · simp only [Bool.true_and, hl, decide_true, if_true, List.isPrefixOf_iff_prefix]
    constructor
    · exact Or.inl
    · rintro (h | h)
      · exact h
      · exact absurd h.length_le (Nat.not_le.2 hl)
  · simp only [Bool.true_and, hl, decide_false, Bool.false_eq_true, if_false,
      List.isPrefixOf_iff_prefix]
    constructor
    · exact Or.inr
    · rintro (h | h)
      · rw [h.eq_of_length_le (Nat.le_of_not_lt hl)]
        exact List.prefix_refl _
      · exact h

theorem checkPrefix_false (P v : List Nibble) : checkPrefix P v false = P.isPrefixOf v := by
  simp [checkPrefix]

theorem out_of_not_compat (P : List Nibble) (it : Item) (h : checkPrefix P it.1 true = false) :
    out P it = [] := by
  have hn : ¬ (it.1 <+: P ∨ P <+: it.1) := by
    rw [← checkPrefix_true_iff]; simp [h]
  simp only [out, outQ, List.map_eq_nil_iff, List.filter_eq_nil_iff, List.isPrefixOf_iff_prefix]
  intro e _ hp
  exact hn ((List.prefix_or_prefix_of_prefix (List.prefix_append it.1 e.1) hp))

theorem out_of_prefix (P : List Nibble) (it : Item) (h : P <+: it.1) :
    out P it = outQ (fun _ => true) it := by
  simp only [out, outQ]
  congr 1
  apply List.filter_congr
  intro e _
  simp only [List.isPrefixOf_iff_prefix]
  exact h.trans (List.prefix_append _ _)

/-- one `node.traverse`: the returned pair and the scheduled items together cover the item -/
theorem trav_out (q : List Nibble → Bool) (k : List Nibble) (n : Node) :
    optOut ((traverseNode k n).2.filter (fun kv => q kv.1)) ++
      (traverseNode k n).1.reverse.flatMap (outQ q) = outQ q (k, n) := by
  cases n with
  | empty => simp [traverseNode, outQ, entries, optOut]
  | leaf ks v =>
    simp only [traverseNode, outQ, entries, Option.filter_some, List.filter_cons]
    split <;> simp [optOut]
  | ext ks nx =>
    simp [traverseNode, outQ, entries, optOut, List.filter_map, Function.comp_def,
      List.append_assoc]
  | branch ch w =>
    -- `branch.traverse` (branch.go) hands the children over from 15 down to 0 and `appendItem` pushes each, so
    -- child 0 is popped first: reversed, the scheduled list is in the order of `entries`
    have hch : (List.map (fun i => (k ++ [i], ch i))
          (List.filter (fun i => !(ch i).isEmpty) (List.finRange 16).reverse)).reverse.flatMap
            (outQ q) =
        (List.finRange 16).flatMap (fun i => outQ q (k ++ [i], ch i)) := by
      rw [← List.map_reverse, List.filter_reverse, List.reverse_reverse, List.flatMap_map]
      apply flatMap_filter_of_nil
      intro i hi
      rw [(isEmpty_iff (ch i)).1 (by simpa using hi)]; rfl
    simp only [traverseNode, hch]
    simp only [outQ, entries, List.filter_append, List.map_append, List.filter_flatMap,
      List.map_flatMap, List.filter_map, Function.comp_def, List.map_map, List.append_assoc,
      List.singleton_append]
    congr 1
    cases w with
    | none => simp [optOut]
    | some x =>
      simp only [Option.map_some, Option.filter_some, List.filter_cons, List.append_nil]
      split <;> simp [optOut]

theorem trav_key (k : List Nibble) (n : Node) (kv : List Nibble × Bytes)
    (h : (traverseNode k n).2 = some kv) : k <+: kv.1 := by
  cases n with
  | empty => cases h
  | leaf ks v => cases h; exact List.prefix_append _ _
  | ext ks nx => cases h
  | branch ch w =>
    cases w with
    | none => cases h
    | some x => cases h; exact List.prefix_refl _

theorem trav_sched_key (k : List Nibble) (n : Node) (it : Item)
    (h : it ∈ (traverseNode k n).1) : k <+: it.1 := by
  cases n with
  | empty => cases h
  | leaf ks v => cases h
  | ext ks nx => rw [List.mem_singleton.1 h]; exact List.prefix_append _ _
  | branch ch w =>
    simp only [traverseNode, List.mem_map] at h
    obtain ⟨i, _, rfl⟩ := h
    exact List.prefix_append _ _

theorem trav_size (k : List Nibble) (n : Node) : stSize (traverseNode k n).1 + 1 ≤ n.size := by
  cases n with
  | empty => exact Nat.le_refl 1
  | leaf ks v => exact Nat.le_refl 1
  | ext ks nx => exact Nat.le_refl _
  | branch ch w =>
    simp only [traverseNode, Node.size, Nat.add_le_add_iff_right]
    refine Nat.le_trans (stSize_sublist (List.filter_sublist.map _)) (Nat.le_of_eq ?_)
    simp [stSize, Function.comp_def, List.sum_reverse]

/-- the two shortcuts of `iterator.traverse` (no prefix; the item's key has the prefix already) are
    the cases in which its general branch drops nothing, so that branch describes all three -/
theorem iterTraverse_eq (P k : List Nibble) (n : Node) :
    iterTraverse P (k, n) =
      ((traverseNode k n).1.filter (fun it => checkPrefix P it.1 true),
       (traverseNode k n).2.filter (fun kv => P.isPrefixOf kv.1)) := by
  by_cases hp : P <+: k
  · have h1 : (traverseNode k n).1.filter (fun it => checkPrefix P it.1 true) = (traverseNode k n).1 :=
      List.filter_eq_self.2 fun it h =>
        (checkPrefix_true_iff P it.1).2 (Or.inr (hp.trans (trav_sched_key k n it h)))
    have h2 : (traverseNode k n).2.filter (fun kv => P.isPrefixOf kv.1) = (traverseNode k n).2 := by
      cases hr : (traverseNode k n).2 with
      | none => rfl
      | some kv =>
        rw [Option.filter_some, if_pos (List.isPrefixOf_iff_prefix.2 (hp.trans (trav_key k n kv hr)))]
    have : P.isPrefixOf k = true := List.isPrefixOf_iff_prefix.2 hp
    rw [h1, h2]
    simp [iterTraverse, checkPrefix_false, this]
  · have hne : P ≠ [] := by rintro rfl; exact hp List.nil_prefix
    have hpf : P.isPrefixOf k = false := by
      rw [Bool.eq_false_iff, ne_eq, List.isPrefixOf_iff_prefix]; exact hp
    simp only [iterTraverse, checkPrefix_false, hne, ne_eq, not_false_eq_true, if_true, hpf,
      Bool.false_eq_true, if_false]
    rcases (traverseNode k n).2 with _ | ⟨key, v⟩ <;> rfl

theorem step_out (P k : List Nibble) (n : Node) :
    optOut (iterTraverse P (k, n)).2 ++ (iterTraverse P (k, n)).1.reverse.flatMap (out P) =
      out P (k, n) := by
  unfold out
  rw [iterTraverse_eq, ← trav_out P.isPrefixOf k n, ← List.filter_reverse,
    flatMap_filter_of_nil _ _ _ (fun it h => out_of_not_compat P it h)]

theorem step_size (P k : List Nibble) (n : Node) (st : List Item) :
    stSize ((iterTraverse P (k, n)).1.reverse ++ st) < stSize ((k, n) :: st) := by
  rw [iterTraverse_eq, stSize_append, stSize_reverse, stSize_cons]
  exact Nat.add_lt_add_right (Nat.lt_of_le_of_lt (stSize_sublist List.filter_sublist) (trav_size k n)) _

/-- the stack machine, for an arbitrary nibble prefix `P` (empty = no filter): with enough
    fuel it outputs, item by item from the top of the stack, the entries below the item whose
    full key starts with `P`. -/
theorem iterRun_eq (P : List Nibble) (fuel : Nat) (st : List Item) (h : stSize st ≤ fuel) :
    iterRun P fuel st = st.flatMap (out P) := by
  induction fuel generalizing st with
  | zero =>
    cases st with
    | nil => rfl
    | cons it st =>
      rw [stSize_cons] at h
      exact absurd (Nat.le_trans (Nat.le_add_right _ _) h) (Nat.not_le.2 it.2.size_pos)
  | succ f ih =>
    cases st with
    | nil => rfl
    | cons it st =>
      obtain ⟨k, n⟩ := it
      rw [iterRun_succ_cons, ih, List.flatMap_append, ← List.append_assoc, step_out,
        List.flatMap_cons]
      exact Nat.le_of_lt_succ (Nat.lt_of_lt_of_le (step_size P k n st) h)

end Iter

theorem iterRun_nil_eq (st : List Item) (fuel : Nat)
    (h : (st.map (fun it => it.2.size)).sum ≤ fuel) :
    iterRun [] fuel st =
      st.flatMap (fun it => (entries it.2).map (fun e => (keysToBytes (it.1 ++ e.1), e.2))) := by
  rw [Iter.iterRun_eq [] fuel st h]
  congr 1
  funext it
  simp [Iter.out, Iter.outQ, Iter.filter_const_true]

theorem filter_eq_entries (t : Node) (pfx : Bytes) :
    filter t pfx =
      ((entries t).filter (fun e => (bytesToNibs pfx).isPrefixOf e.1)).map
        (fun e => (keysToBytes e.1, e.2)) := by
  -- the two paths through `filter`: the empty trie, any other
  fun_cases filter t pfx with
  | case1 => rfl
  | case2 t _ =>
    rw [Iter.iterRun_eq _ _ _ (by simp [Iter.stSize])]
    simp [Iter.out, Iter.outQ]

namespace Iter

theorem byte_lt_iff (x y : UInt8) :
    x < y ↔ hiNib x < hiNib y ∨ (hiNib x = hiNib y ∧ loNib x < loNib y) := by
  simp only [UInt8.lt_iff_toNat_lt, hiNib, loNib, Fin.lt_def, Fin.ext_iff]
  omega

theorem byte_eq_iff (x y : UInt8) :
    x = y ↔ hiNib x = hiNib y ∧ loNib x = loNib y :=
  ⟨fun h => h ▸ ⟨rfl, rfl⟩, fun ⟨h1, h2⟩ => by rw [← ofNat_hi_lo x, h1, h2, ofNat_hi_lo]⟩

end Iter

theorem keysToBytes_bytesToNibs (kb : Bytes) : keysToBytes (bytesToNibs kb) = kb := by
  induction kb with
  | nil => rfl
  | cons b r ih => simp only [bytesToNibs, keysToBytes, ih, ofNat_hi_lo]

theorem bytesToNibs_injective {a b : Bytes} (h : bytesToNibs a = bytesToNibs b) : a = b := by
  rw [← keysToBytes_bytesToNibs a, ← keysToBytes_bytesToNibs b, h]

/-- `bytesToNibs` is strictly monotone (and reflects the order): lexicographic order on byte
    strings (bytes compared as unsigned numbers) vs lexicographic order on nibble lists. -/
theorem bytesToNibs_lt_iff (a b : Bytes) : bytesToNibs a < bytesToNibs b ↔ a < b := by
  induction a generalizing b with
  | nil => cases b <;> simp [bytesToNibs]
  | cons x a ih =>
    cases b with
    | nil => simp [bytesToNibs]
    | cons y b =>
      simp only [bytesToNibs, List.cons_lt_cons_iff, ih, Iter.byte_lt_iff, Iter.byte_eq_iff,
        and_or_left, or_assoc, and_assoc]

theorem bytesToNibs_prefix_iff (a b : Bytes) : bytesToNibs a <+: bytesToNibs b ↔ a <+: b := by
  induction a generalizing b with
  | nil => simp [bytesToNibs]
  | cons x a ih =>
    cases b with
    | nil => simp [bytesToNibs]
    | cons y b => simp only [bytesToNibs, List.cons_prefix_cons, ih, Iter.byte_eq_iff, and_assoc]

/-- `Filter(prefix)` on a trie whose keys are byte keys: the stored pairs under that prefix, ascending -/
theorem filter_sorted_complete (t : Node) (pfx : Bytes)
    (hk : ∀ k v, get t k = some v → ∃ kb : Bytes, k = bytesToNibs kb) :
    (filter t pfx).Pairwise (fun a b => a.1 < b.1) ∧
      ∀ kb v, (kb, v) ∈ filter t pfx ↔ pfx <+: kb ∧ get t (bytesToNibs kb) = some v := by
  have hb : ∀ e ∈ entries t, bytesToNibs (keysToBytes e.1) = e.1 := fun e he => by
    obtain ⟨kb, h⟩ := hk e.1 e.2 ((mem_entries_iff t e.1 e.2).1 he)
    rw [h, keysToBytes_bytesToNibs]
  rw [filter_eq_entries]
  constructor
  · rw [List.pairwise_map]
    refine ((entries_sorted t).filter _).imp_of_mem fun {a b} ha hb' hab => ?_
    rwa [← bytesToNibs_lt_iff, hb a (List.mem_filter.1 ha).1, hb b (List.mem_filter.1 hb').1]
  · intro kb v
    simp only [List.mem_map, List.mem_filter, Prod.mk.injEq, List.isPrefixOf_iff_prefix]
    constructor
    · rintro ⟨e, ⟨hm, hp⟩, rfl, rfl⟩
      rw [← hb e hm, bytesToNibs_prefix_iff] at hp
      rw [hb e hm]
      exact ⟨hp, (mem_entries_iff t e.1 e.2).1 hm⟩
    · rintro ⟨hp, hg⟩
      exact ⟨(bytesToNibs kb, v), ⟨(mem_entries_iff t _ v).2 hg, (bytesToNibs_prefix_iff pfx kb).2 hp⟩,
        keysToBytes_bytesToNibs kb, rfl⟩

theorem iterator_sorted_complete (t : Node)
    (hk : ∀ k v, get t k = some v → ∃ kb : Bytes, k = bytesToNibs kb) :
    (iterator t).Pairwise (fun a b => a.1 < b.1) ∧
      ∀ kb v, (kb, v) ∈ iterator t ↔ get t (bytesToNibs kb) = some v := by
  simpa [iterator] using filter_sorted_complete t [] hk

namespace Iter

/-- a small trie holding the byte keys 12, 1234, 1235, 20 (one is a proper prefix of others) -/
def exTrie : Node :=
  set (set (set (set .empty (bytesToNibs [0x12, 0x34]) [1]) (bytesToNibs [0x12]) [2])
    (bytesToNibs [0x20]) [3]) (bytesToNibs [0x12, 0x35]) [4]

theorem exTrie_entries : entries exTrie =
    [(bytesToNibs [0x12], [2]), (bytesToNibs [0x12, 0x34], [1]), (bytesToNibs [0x12, 0x35], [4]),
     (bytesToNibs [0x20], [3])] := by decide +kernel

theorem exTrie_keys (k : List Nibble) (v : Bytes) (h : get exTrie k = some v) :
    ∃ kb : Bytes, k = bytesToNibs kb := by
  rw [← mem_entries_iff, exTrie_entries] at h
  simp only [List.mem_cons, Prod.mk.injEq, List.not_mem_nil, or_false] at h
  rcases h with ⟨rfl, _⟩ | ⟨rfl, _⟩ | ⟨rfl, _⟩ | ⟨rfl, _⟩ <;> exact ⟨_, rfl⟩

end Iter

example : (iterator Iter.exTrie).Pairwise (fun a b => a.1 < b.1) ∧
    ∀ kb v, (kb, v) ∈ iterator Iter.exTrie ↔ get Iter.exTrie (bytesToNibs kb) = some v :=
  iterator_sorted_complete Iter.exTrie Iter.exTrie_keys

example : iterator Iter.exTrie = [([0x12], [2]), ([0x12, 0x34], [1]), ([0x12, 0x35], [4]),
    ([0x20], [3])] := by decide +kernel

example : filter Iter.exTrie [0x12] = [([0x12], [2]), ([0x12, 0x34], [1]), ([0x12, 0x35], [4])] := by
  decide +kernel

/-- `iterRun_nil_eq` / `Iter.iterRun_eq`: the fuel hypothesis is satisfiable (and tight enough
    for `filter`, which uses `t.size + 1`) -/
example : ((([([], Iter.exTrie)] : List Item).map (fun it => it.2.size)).sum ≤
    Iter.exTrie.size + 1) := by simp

end Goloop.C17
