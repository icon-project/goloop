import Goloop.Model.C29
namespace Goloop.C29.Proofs
open Goloop Goloop.C29

variable {σ : Type}

/-- the signature `s` at index `i` recovers to validator `i`. -/
def Good (rec : σ → Option Bytes) (vals : List Bytes) (i : Nat) (s : σ) : Prop :=
  ∃ a, rec s = some a ∧ vals[i]? = some a

/-- `r` is `.ok v` if `good` holds, else an error other than `duplicated` -/
def OkIff (good : Prop) (v : Nat) (r : Except Err Nat) : Prop :=
  (good ∧ r = .ok v) ∨ (¬ good ∧ ∃ e, e ≠ .duplicated ∧ r = .error e)

theorem verifyPart_spec (rec : σ → Option Bytes) (vals : List Bytes) (i : Nat) (s : σ) :
    OkIff (Good rec vals i s) i (verifyPart rec vals (i : Int) s) := by
  fun_cases verifyPart rec vals (i : Int) s with
  | case1 h =>
    refine .inr ⟨?_, _, by decide, rfl⟩
    rintro ⟨a, _, ha⟩
    have := (List.getElem?_eq_some_iff.mp ha).1
    omega
  | case2 _ hr => exact .inr ⟨fun ⟨a, ha, _⟩ => (nomatch hr.symm.trans ha), _, by decide, rfl⟩
  | case3 _ a hr h | case4 _ a hr h =>
    refine .inr ⟨fun ⟨b, hb, hb'⟩ => ?_, _, by decide, rfl⟩
    rw [hr] at hb; cases hb; exact h (by rw [Int.toNat_natCast]; exact hb')
  | case5 _ a hr h =>
    rw [Int.toNat_natCast] at h ⊢
    exact .inl ⟨⟨a, hr, Decidable.not_not.mp h⟩, rfl⟩

/-- every occupied slot of `sigs`, the slots numbered from `i`, recovers to the validator of its number -/
def AllGood (rec : σ → Option Bytes) (vals : List Bytes) (i : Nat) (sigs : List (Option σ)) : Prop :=
  ∀ x ∈ sigs.zipIdx i, ∀ s, x.1 = some s → Good rec vals x.2 s

theorem present_cons_none (rest : List (Option σ)) : present (none :: rest) = present rest := rfl

theorem present_cons_some (s : σ) (rest : List (Option σ)) :
    present (some s :: rest) = present rest + 1 := rfl

/-- the loop counts the occupied slots if all of them are good, and fails otherwise -/
theorem loop_spec (rec : σ → Option Bytes) (vals : List Bytes) :
    ∀ (sigs : List (Option σ)) (i : Nat) (seen : List Nat) (valid : Nat), (∀ j ∈ seen, j < i) →
      OkIff (AllGood rec vals i sigs) (valid + present sigs) (verifyLoop rec vals sigs i seen valid)
  | [], i, seen, valid, _ => .inl ⟨fun x hx => (nomatch hx), rfl⟩
  | none :: rest, i, seen, valid, hs => by
    rw [verifyLoop, AllGood, List.zipIdx_cons, List.forall_mem_cons, present_cons_none,
      and_iff_right (show ∀ s, none = some s → Good rec vals i s from nofun)]
    exact loop_spec rec vals rest (i + 1) seen valid (fun j hj => Nat.lt_succ_of_lt (hs j hj))
  | some sig :: rest, i, seen, valid, hs => by
    rw [verifyLoop, AllGood, List.zipIdx_cons, List.forall_mem_cons, present_cons_some, ← Nat.add_assoc, Nat.add_right_comm valid]
    rcases verifyPart_spec rec vals i sig with ⟨hg, hp⟩ | ⟨hb, e, he, hp⟩ <;> rw [hp] <;> dsimp only
    · -- `seen` holds only indices already passed, so the `duplicated` test does not fire
      rw [if_neg (fun h => Nat.lt_irrefl _ (hs _ h)),
        and_iff_right (show ∀ s, some sig = some s → Good rec vals i s from fun s hs => Option.some.inj hs ▸ hg)]
      exact loop_spec rec vals rest (i + 1) (i :: seen) (valid + 1) fun j hj =>
        (List.mem_cons.mp hj).elim (fun e => e ▸ Nat.lt_succ_self i) (fun h => Nat.lt_succ_of_lt (hs j h))
    · exact .inr ⟨fun h => hb (h.1 sig rfl), e, he, rfl⟩

/-- the branch `duplicated proof parts` of `secp256k1ProofContext.Verify` (btp/ntm/secp256k1proof.go) is never
    taken: the loop sets `Index` to the slot number itself, and `set` holds the numbers of earlier slots only. -/
theorem loop_never_duplicated (rec : σ → Option Bytes) (vals : List Bytes) :
    ∀ (sigs : List (Option σ)) (i : Nat) (seen : List Nat) (valid : Nat),
      (∀ j ∈ seen, j < i) → verifyLoop rec vals sigs i seen valid ≠ .error .duplicated := by
  intro sigs i seen valid hs
  rcases loop_spec rec vals sigs i seen valid hs with ⟨_, h⟩ | ⟨_, e, he, h⟩ <;> rw [h]
  · nofun
  · exact fun h => he (Except.error.inj h)

theorem threshold_iff (k n : Nat) : ¬ (k ≤ 2 * n / 3) ↔ 3 * k > 2 * n := by
  rw [Nat.le_div_iff_mul_le (by decide), Nat.not_le, Nat.mul_comm k 3]

theorem verify_iff (rec : σ → Option Bytes) (vals : List Bytes) (sigs : List (Option σ)) :
    verify rec vals sigs = none ↔
      (∀ (i : Nat) (s : σ), sigs[i]? = some (some s) → Good rec vals i s) ∧
      3 * present sigs > 2 * vals.length := by
  have hg : AllGood rec vals 0 sigs ↔
      ∀ (i : Nat) (s : σ), sigs[i]? = some (some s) → Good rec vals i s :=
    ⟨fun h i s hi => h (some s, i) (List.mem_zipIdx_iff_getElem?.mpr hi) s rfl,
      fun h x hx s ho => h x.2 s (ho ▸ List.mem_zipIdx_iff_getElem?.mp hx)⟩
  unfold verify
  rcases loop_spec rec vals sigs 0 [] 0 (fun _ h => absurd h List.not_mem_nil) with ⟨h1, h⟩ | ⟨h1, e, _, h⟩ <;>
    rw [h, ← hg]
  · show (if 0 + present sigs ≤ 2 * vals.length / 3 then some Err.notEnough else none) = none ↔ _
    rw [Nat.zero_add, ← threshold_iff]
    exact ⟨fun h => ⟨h1, fun hc => by rw [if_pos hc] at h; cases h⟩, fun h => if_neg h.2⟩
  · exact iff_of_false (Option.some_ne_none _) (fun h => h1 h.1)

/-- the validators that signed: validator `i` for each occupied slot `i`. -/
def signers (vals : List Bytes) (sigs : List (Option σ)) : List Bytes :=
  (vals.zip sigs).filterMap (fun p => if p.2.isSome then some p.1 else none)

theorem signers_sublist : ∀ (vals : List Bytes) (sigs : List (Option σ)),
    (signers vals sigs).Sublist vals
  | [], _ => by simp [signers]
  | _ :: _, [] => by simp [signers]
  | v :: vs, s :: ss => by
    have ih := signers_sublist vs ss
    unfold signers at ih ⊢
    cases s with
    | none => simpa using ih.cons v
    | some x => simpa using ih.cons_cons v

theorem signers_length : ∀ (sigs : List (Option σ)) (vals : List Bytes),
    (∀ (i : Nat) (s : σ), sigs[i]? = some (some s) → i < vals.length) →
    (signers vals sigs).length = present sigs
  | [], _, _ => by simp [signers, present]
  | none :: ss, vals, h => by
    rw [present_cons_none, ← signers_length ss vals.tail (fun i x hx => by
      rw [List.length_tail]; exact Nat.lt_sub_of_add_lt (h (i + 1) x hx))]
    cases vals <;> rfl
  | some x :: ss, [], h => nomatch h 0 x rfl
  | some x :: ss, v :: vs, h => by
    rw [present_cons_some, ← signers_length ss vs (fun i y hy => Nat.lt_of_succ_lt_succ (h (i + 1) y hy))]
    rfl

/-- the `k`-th proof is a valid proof, in the sense of `verify`, for the context registered for the
    network type of the digest entry `d`, over the decision built from that same entry. -/
def GoodFor (pcm : Int → Option Ctx) (decode : Bytes → Option (List (Option σ)))
    (rec : Nat → Bytes → σ → Option Bytes) (src : Option Bytes) (height round : Int)
    (proofs : List Bytes) (k : Nat) (d : Int × Option Bytes) : Prop :=
  ∃ ctx sigs, pcm d.1 = some ctx ∧ decode (proofs.getD k []) = some sigs ∧
    verify (rec ctx.uid (Decision.bytes
      { src := src, ntid := d.1, height := height, round := round, ntsHash := d.2 })) ctx.vals sigs = none

theorem mapLoop_iff (pcm : Int → Option Ctx) (decode : Bytes → Option (List (Option σ)))
    (rec : Nat → Bytes → σ → Option Bytes) (src : Option Bytes) (height round : Int)
    (proofs : List Bytes) (digests : List (Int × Option Bytes)) (i : Nat) :
      verifyMapLoop pcm decode rec src height round proofs digests i = none ↔
      ∀ x ∈ (registered pcm digests).zipIdx i, GoodFor pcm decode rec src height round proofs x.2 x.1 := by
  fun_induction verifyMapLoop pcm decode rec src height round proofs digests i with
  | case1 => exact ⟨fun _ x hx => (nomatch hx), fun _ => rfl⟩
  | case2 ntid h rest i hp ih =>
    rw [show registered pcm ((ntid, h) :: rest) = registered pcm rest by simp [registered, hp]]
    exact ih
  | case3 ntid h rest i ctx hp hd =>
    refine iff_of_false nofun fun hall => ?_
    obtain ⟨_, _, _, h2, _⟩ := hall ((ntid, h), i) (by simp [registered, hp])
    cases hd.symm.trans h2
  | case4 ntid h rest i ctx hp sigs hd d e hv =>
    refine iff_of_false nofun fun hall => ?_
    obtain ⟨_, _, h1, h2, h3⟩ := hall ((ntid, h), i) (by simp [registered, hp])
    cases hp.symm.trans h1
    cases hd.symm.trans h2
    cases hv.symm.trans h3
  | case5 ntid h rest i ctx hp sigs hd d hv ih =>
    rw [show registered pcm ((ntid, h) :: rest) = (ntid, h) :: registered pcm rest by simp [registered, hp],
      List.zipIdx_cons, List.forall_mem_cons, ih]
    exact ⟨fun hall => ⟨⟨ctx, sigs, hp, hd, hv⟩, hall⟩, fun hall => hall.2⟩

end Goloop.C29.Proofs
