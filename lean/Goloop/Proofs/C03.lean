/-
  Proofs/C03: the WAL model against its bookkeeping: `Inv` ties writer and bookkeeping together, `Pre` is
  what a recovery needs from the disk it finds, `recovery_spec` covers every op that ends in a recovery.
-/
import Goloop.Model.C03
import Goloop.Base.Cases
namespace Goloop.C03.Proofs
open Goloop Goloop.C03

theorem prefix_drop {α : Type} {a b : List α} (k : Nat) (h : a <+: b) : a.drop k <+: b.drop k := by
  obtain ⟨t, rfl⟩ := h
  rw [List.drop_append]
  exact List.prefix_append _ _

theorem flatten_prefix {α : Type} {a b : List (List α)} (h : a <+: b) : a.flatten <+: b.flatten := by
  obtain ⟨t, rfl⟩ := h
  rw [List.flatten_append]; exact List.prefix_append _ _

theorem dropLast_prefix_of_prefix {α : Type} {a b : List α} (h : a <+: b) : a.dropLast <+: b.dropLast := by
  obtain ⟨t, rfl⟩ := h
  by_cases ht : t = []
  · rw [ht, List.append_nil]; exact List.prefix_refl _
  · rw [List.dropLast_append_of_ne_nil ht]
    exact (List.dropLast_prefix a).trans (List.prefix_append _ _)

theorem be32_length (n : Nat) : (be32 n).length = 4 := rfl

theorem beNat_be32 (n : Nat) : beNat (be32 n) = n % 2 ^ 32 := by
  -- peel one base-256 digit at a time
  have s : ∀ x j : Nat, x % (256 * j) = (x / 256 % j) * 256 + x % 256 := fun x j => by
    rw [Nat.mod_mul, Nat.mul_comm, Nat.add_comm]
  rw [show (2 : Nat) ^ 32 = 256 * (256 * (256 * 256)) from rfl, s, s, s]
  simp only [be32, beNat, List.foldl_cons, List.foldl_nil, UInt8.toNat_ofNat', Nat.zero_mul, Nat.zero_add,
    Nat.mod_mod, Nat.div_div_eq_div_mul, Nat.reducePow, Nat.reduceMul]

theorem frame_length (crc : Bytes → UInt32) (p : Bytes) : (frame crc p).length = 8 + p.length := by
  simp only [frame, List.length_append, be32_length]

theorem frames_append (crc : Bytes → UInt32) (a b : List Bytes) :
    frames crc (a ++ b) = frames crc a ++ frames crc b := by
  induction a with
  | nil => rfl
  | cons x xs ih => simp only [List.cons_append, frames, ih, List.append_assoc]

theorem frames_prefix_length {crc : Bytes → UInt32} {a b : List Bytes} (h : a <+: b) :
    (frames crc a).length ≤ (frames crc b).length := by
  obtain ⟨t, rfl⟩ := h
  rw [frames_append, List.length_append]
  exact Nat.le_add_right _ _

theorem frames_length_ge (crc : Bytes → UInt32) (l : List Bytes) : 8 * l.length ≤ (frames crc l).length := by
  induction l with
  | nil => exact Nat.le_refl _
  | cons x xs ih =>
    rw [frames, List.length_append, List.length_cons, frame_length, Nat.mul_succ, Nat.add_comm (8 * _)]
    exact Nat.add_le_add (Nat.le_add_right _ _) ih

theorem header_fields (c l : Nat) (r : Bytes) :
    beNat ((be32 c ++ (be32 l ++ r)).take 4) = c % 2 ^ 32
    ∧ beNat (((be32 c ++ (be32 l ++ r)).drop 4).take 4) = l % 2 ^ 32
    ∧ (be32 c ++ (be32 l ++ r)).drop headerLen = r := by
  refine ⟨?_, ?_, ?_⟩
  · rw [List.take_left' (be32_length c), beNat_be32]
  · rw [List.drop_left' (be32_length c), List.take_left' (be32_length l), beNat_be32]
  · rw [show headerLen = 4 + 4 from rfl, ← List.drop_drop, List.drop_left' (be32_length c),
      List.drop_left' (be32_length l)]

theorem readBytes_header (crc : Bytes → UInt32) {c : UInt32} {l : Nat} (r : Bytes) (hl32 : l + 8 < 2 ^ 32) :
    readBytes crc (be32 c.toNat ++ (be32 l ++ r)) =
      if r.length < l then .error .unexpectedEOF
      else if (crc (r.take l)).toNat ≠ c.toNat then .error .corrupted
      else .ok (r.take l, r.drop l) := by
  obtain ⟨h1, h2, h3⟩ := header_fields c.toNat l r
  have hl : (be32 c.toNat ++ (be32 l ++ r)).length = r.length + 8 := by
    rw [List.length_append, List.length_append, be32_length, be32_length, ← Nat.add_assoc, Nat.add_comm]
  unfold readBytes
  rw [h1, h2, h3, hl, if_neg (Nat.succ_ne_zero _),
    if_neg (show ¬ r.length + 8 < headerLen from Nat.not_lt.mpr (Nat.le_add_left _ _)),
    Nat.mod_eq_of_lt c.toNat_lt, Nat.mod_eq_of_lt (Nat.lt_of_le_of_lt (Nat.le_add_right _ _) hl32)]

theorem readBytes_frame (crc : Bytes → UInt32) (p t : Bytes) (hp : p.length + 8 < 2 ^ 32) :
    readBytes crc (frame crc p ++ t) = .ok (p, t) := by
  rw [frame, List.append_assoc, List.append_assoc,
    readBytes_header crc _ hp, List.take_left' rfl, List.drop_left' rfl,
    if_neg (not_length_append_lt _ _), if_neg (fun h => h rfl)]

theorem readBytes_torn (crc : Bytes → UInt32) (p : Bytes) (j : Nat) (hp : p.length + 8 < 2 ^ 32)
    (hj : j < (frame crc p).length) :
    readBytes crc ((frame crc p).take j) = .error (if j = 0 then .eof else .unexpectedEOF) := by
  rw [frame_length] at hj
  by_cases h8 : j < 8
  · have hlenT : ((frame crc p).take j).length = j := by
      rw [List.length_take, frame_length, Nat.min_eq_left (Nat.le_of_lt hj)]
    unfold readBytes
    rw [hlenT, if_pos (show j < headerLen from h8)]
    exact (apply_ite _ _ _ _).symm
  · have hs : (frame crc p).take j = be32 (crc p).toNat ++ (be32 p.length ++ p.take (j - 8)) := by
      rw [frame, List.take_append, List.take_of_length_le (Nat.le_of_not_lt h8), List.append_assoc]
      rfl
    rw [hs, readBytes_header crc _ hp,
      if_pos (by
        rw [List.length_take]
        exact Nat.lt_of_le_of_lt (Nat.min_le_left _ _) (Nat.sub_lt_left_of_lt_add (Nat.le_of_not_lt h8) hj)),
      if_neg fun h0 => h8 (by rw [h0]; decide)]

/-- F2b repaired: `Orig.readBytes` also reports a complete header without any payload byte as a clean end -/
theorem readBytes_eof {crc : Bytes → UInt32} {s : Bytes} : readBytes crc s = .error .eof → s = [] := by
  fun_cases readBytes crc s with
  | case1 h0 => exact fun _ => List.eq_nil_of_length_eq_zero h0
  | case2 | case3 | case4 | case5 => nofun

theorem readBytes_rejects (crc : Bytes → UInt32) (B : Bytes) (h : CrcRejects crc B) :
    ∃ e, readBytes crc B = .error e := by
  fun_cases readBytes crc B with
  | case1 | case2 | case3 | case4 => exact ⟨_, rfl⟩
  | case5 _ _ _ _ _ _ _ hc => exact absurd h hc

theorem altered_frame_rejects (crc : Bytes → UInt32) (c : Nat) (p' T : Bytes) (hp : p'.length + 8 < 2 ^ 32)
    (hdet : (crc p').toNat ≠ c % 2 ^ 32) : CrcRejects crc (be32 c ++ be32 p'.length ++ p' ++ T) := by
  obtain ⟨h1, h2, h3⟩ := header_fields c p'.length (p' ++ T)
  unfold CrcRejects
  simp only [List.append_assoc]
  rw [h1, h2, h3, Nat.mod_eq_of_lt (Nat.lt_of_le_of_lt (Nat.le_add_right _ _) hp), List.take_left' rfl]
  exact hdet

theorem readAllF_frames_append {crc : Bytes → UInt32} {A : List Bytes} {B : Bytes} {e : ReadEnd} {fuel : Nat}
    (hsmall : ∀ p ∈ A, p.length + 8 < 2 ^ 32) (hB : readBytes crc B = .error e) (hf : A.length ≤ fuel) :
    readAllF crc (fuel + 1) (frames crc A ++ B) = (A, (frames crc A).length, e) := by
  induction A generalizing fuel with
  | nil =>
    rw [frames, List.nil_append, readAllF, hB]
    rfl
  | cons p rest ih =>
    cases fuel with
    | zero => exact absurd hf (Nat.not_succ_le_zero _)
    | succ f =>
      obtain ⟨hp, hrest⟩ := List.forall_mem_cons.mp hsmall
      rw [frames, List.append_assoc, readAllF, readBytes_frame crc p _ hp]
      simp only
      rw [ih hrest (Nat.le_of_succ_le_succ hf),
        List.length_append, frame_length, headerLen, Nat.mod_eq_of_lt (by rw [Nat.add_comm]; exact hp)]

theorem readAll_frames_append {crc : Bytes → UInt32} {A : List Bytes} {B : Bytes} {e : ReadEnd}
    (hA : ∀ p ∈ A, p.length + 8 < 2 ^ 32) (hB : readBytes crc B = .error e) :
    readAll crc (frames crc A ++ B) = (A, (frames crc A).length, e) :=
  readAllF_frames_append hA hB (by
    -- fuel: a frame has at least its 8 header bytes, so there are no more records than bytes
    rw [List.length_append]
    exact Nat.le_trans (Nat.le_trans (Nat.le_mul_of_pos_left _ (by decide)) (frames_length_ge crc A))
      (Nat.le_add_right _ _))

theorem readAll_frames {crc : Bytes → UInt32} {a : List Bytes} (ha : ∀ p ∈ a, p.length + 8 < 2 ^ 32) :
    (readAll crc (frames crc a)).1 = a := by
  rw [← List.append_nil (frames crc a), readAll_frames_append ha (rfl : readBytes crc [] = .error .eof)]

/-- the last clause: `A` is the longest list of whole frames that fits into `S` -/
theorem prefix_frames {crc : Bytes → UInt32} {log : List Bytes} {S : Bytes}
    (hsmall : ∀ p ∈ log, p.length + 8 < 2 ^ 32) (hpre : S <+: frames crc log) :
    ∃ A B e, A <+: log ∧ S = frames crc A ++ B ∧ readBytes crc B = .error e
      ∧ (∀ A', A' <+: log → (frames crc A').length ≤ S.length → A' <+: A) := by
  induction log generalizing S with
  | nil =>
    rw [List.prefix_nil.mp hpre]
    exact ⟨[], [], .eof, List.prefix_refl _, rfl, rfl, fun _ hA' _ => hA'⟩
  | cons p rest ih =>
    obtain ⟨hp, hrest⟩ := List.forall_mem_cons.mp hsmall
    by_cases hlt : S.length < (frame crc p).length
    · have hS : S <+: frame crc p :=
        List.prefix_of_prefix_length_le hpre (List.prefix_append _ _) (Nat.le_of_lt hlt)
      have hrb := readBytes_torn crc p S.length hp hlt
      rw [← List.prefix_iff_eq_take.mp hS] at hrb
      refine ⟨[], S, _, List.nil_prefix, rfl, hrb, fun A' hA' hlen => ?_⟩
      cases A' with
      | nil => exact List.prefix_refl _
      | cons q A'' =>
        obtain ⟨rfl, _⟩ := List.cons_prefix_cons.mp hA'
        rw [frames, List.length_append] at hlen
        exact absurd (Nat.lt_of_le_of_lt (Nat.le_trans (Nat.le_add_right _ _) hlen) hlt) (Nat.lt_irrefl _)
    · obtain ⟨S', rfl⟩ : frame crc p <+: S :=
        List.prefix_of_prefix_length_le (List.prefix_append _ _) hpre (Nat.le_of_not_lt hlt)
      obtain ⟨A, B, e, hA, hS, hrb, hmax⟩ :=
        ih hrest ((List.prefix_append_right_inj _).mp hpre)
      refine ⟨p :: A, B, e, List.cons_prefix_cons.mpr ⟨rfl, hA⟩, ?_, hrb, fun A' hA' hlen => ?_⟩
      · rw [frames, List.append_assoc, ← hS]
      · cases A' with
        | nil => exact List.nil_prefix
        | cons q A'' =>
          obtain ⟨rfl, hA''⟩ := List.cons_prefix_cons.mp hA'
          rw [frames, List.length_append, List.length_append] at hlen
          exact List.cons_prefix_cons.mpr ⟨rfl, hmax A'' hA'' (Nat.le_of_add_le_add_left hlen)⟩

theorem readAll_prefix {crc : Bytes → UInt32} {log : List Bytes} {S : Bytes}
    (hsmall : ∀ p ∈ log, p.length + 8 < 2 ^ 32) (hpre : S <+: frames crc log) :
    (readAll crc S).1 <+: log
      ∧ (readAll crc S).2.1 = (frames crc (readAll crc S).1).length
      ∧ frames crc (readAll crc S).1 <+: S
      ∧ (∀ A', A' <+: log → (frames crc A').length ≤ S.length → A' <+: (readAll crc S).1) := by
  obtain ⟨A, B, e, hA, rfl, hrb, hmax⟩ := prefix_frames hsmall hpre
  rw [readAll_frames_append (fun p hp => hsmall p (hA.subset hp)) hrb]
  exact ⟨hA, rfl, List.prefix_append _ _, hmax⟩

theorem readAll_records_between {crc : Bytes → UInt32} {log : List Bytes} {S X : Bytes}
    (hsmall : ∀ p ∈ log, p.length + 8 < 2 ^ 32) (hS : S <+: frames crc log) (hX : X <+: S)
    (hge : (readAll crc S).2.1 ≤ X.length) :
    (readAll crc X).1 = (readAll crc S).1 := by
  obtain ⟨hA, hv, _, hmax⟩ := readAll_prefix hsmall hS
  obtain ⟨hA', _, hpf', hmax'⟩ := readAll_prefix hsmall (hX.trans hS)
  exact (hmax _ hA' (Nat.le_trans hpf'.length_le hX.length_le)).eq_of_length_le (hmax' _ hA (hv ▸ hge)).length_le

theorem repairLoop_spec {fs : List Bytes} {v : Nat} (hv : v ≤ fs.flatten.length) (hne : fs ≠ []) :
    repairLoop v fs ≠ [] ∧ (repairLoop v fs).flatten = fs.flatten.take v
    ∧ (repairLoop v fs).dropLast <+: fs.dropLast
    ∧ cutIndex v fs < fs.length ∧ v ≤ (fs.take (cutIndex v fs + 1)).flatten.length := by
  fun_induction repairLoop v fs with
  | case1 => exact absurd rfl hne
  | case2 v s rest hle =>
    rw [cutIndex, if_pos hle, List.flatten_singleton, List.flatten_cons, List.take_append_of_le_length hle,
      List.take_succ_cons, List.flatten_cons, List.length_append]
    refine ⟨List.cons_ne_nil _ _, ?_, List.nil_prefix, Nat.zero_lt_succ _, Nat.le_trans hle (Nat.le_add_right _ _)⟩
    exact ite_pred (· = s.take v) _ _ _ (fun _ => rfl) fun hlt => (List.take_of_length_le (Nat.le_of_not_lt hlt)).symm
  | case3 v s rest hle ih =>
    rw [List.flatten_cons, List.length_append] at hv
    have hrest : rest ≠ [] := fun h0 => hle (by rw [h0] at hv; exact hv)
    obtain ⟨h1, h2, h3, h4, h5⟩ := ih (Nat.sub_le_iff_le_add'.mpr hv) hrest
    rw [cutIndex, if_neg hle, List.flatten_cons, List.flatten_cons, h2, List.take_append,
      List.take_of_length_le (l := s) (Nat.le_of_lt (Nat.lt_of_not_le hle)),
      List.dropLast_cons_of_ne_nil h1, List.dropLast_cons_of_ne_nil hrest,
      Nat.add_comm 1, List.take_succ_cons, List.flatten_cons, List.length_append]
    exact ⟨List.cons_ne_nil _ _, rfl, (List.prefix_cons_inj _).mpr h3, Nat.succ_lt_succ h4,
      Nat.sub_le_iff_le_add'.mp h5⟩

/-- `s` ends on a record boundary, as every closed segment does (a segment is closed between two appends,
    `shift_inv`); so retention, which unlinks whole oldest segments, removes whole records (`dropSegs_inv`). -/
def Whole (crc : Bytes → UInt32) (s : Bytes) : Prop :=
  ∃ gs : List Bytes, (∀ p ∈ gs, p.length + 8 < 2 ^ 32) ∧ s = frames crc gs

theorem whole_rest {crc : Bytes → UInt32} {G L : List Bytes} {X : Bytes}
    (hG : ∀ p ∈ G, p.length + 8 < 2 ^ 32) (hL : ∀ p ∈ L, p.length + 8 < 2 ^ 32)
    (h : frames crc G ++ X = frames crc L) :
    ∃ L', L = G ++ L' ∧ (∀ p ∈ L', p.length + 8 < 2 ^ 32) ∧ X = frames crc L' := by
  -- reading `frames crc G` as a prefix of `frames crc L` returns `G` and a prefix of `L`
  obtain ⟨L', rfl⟩ := readAll_frames hG ▸ (readAll_prefix hL ⟨X, h⟩).1
  rw [frames_append] at h
  exact ⟨L', rfl, (List.forall_mem_append.mp hL).2, List.append_cancel_left h⟩

theorem flatten_whole {crc : Bytes → UInt32} {l : List Bytes} (h : ∀ s ∈ l, Whole crc s) :
    Whole crc l.flatten := by
  induction l with
  | nil => exact ⟨[], nofun, rfl⟩
  | cons s rest ih =>
    obtain ⟨⟨g1, hg1, he1⟩, hrest⟩ := List.forall_mem_cons.mp h
    obtain ⟨g2, hg2, he2⟩ := ih hrest
    refine ⟨g1 ++ g2, List.forall_mem_append.mpr ⟨hg1, hg2⟩, ?_⟩
    rw [List.flatten_cons, frames_append, he1, he2]

theorem bufWrite_spec (file buf p : Bytes) :
    (bufWrite file buf p).1 ++ (bufWrite file buf p).2 = file ++ (buf ++ p) ∧ file <+: (bufWrite file buf p).1 := by
  have hcat : file ++ (buf ++ p.take (bufSize - buf.length)) ++ p.drop (bufSize - buf.length)
      = file ++ (buf ++ p) := by
    rw [List.append_assoc, List.append_assoc, List.take_append_drop]
  fun_cases bufWrite file buf p with
  | case1 => exact ⟨rfl, List.prefix_refl _⟩
  | case2 _ h0 =>
    rw [List.eq_nil_of_length_eq_zero h0]
    exact ⟨List.append_nil _, List.prefix_append _ _⟩
  | case3 => exact ⟨hcat, List.prefix_append _ _⟩
  | case4 => exact ⟨(List.append_nil _).trans hcat, (List.prefix_append _ _).trans (List.prefix_append _ _)⟩

/-- `durable` is a bound in BYTES: the frames of the durable records fit into what is synced. Recovery turns
    it into "the durable records are a prefix of what is read" by the maximality clause of `prefix_frames`. -/
structure Inv (crc : Bytes → UInt32) (w : Writer) (g : Ghost) : Prop where
  stream : w.older.flatten ++ (w.tail ++ w.buf) = frames crc g.log
  syncedLe : w.synced ≤ w.tail.length
  durable : (frames crc (g.log.take g.nsynced)).length ≤ w.older.flatten.length + w.synced
  nLe : g.nsynced ≤ g.log.length
  small : ∀ p ∈ g.log, p.length + 8 < 2 ^ 32
  whole : ∀ s ∈ w.older, Whole crc s

theorem init_inv (crc : Bytes → UInt32) (cfg : Cfg) : Inv crc (Sys.init cfg) {} :=
  ⟨rfl, Nat.le_refl _, Nat.le_refl _, Nat.le_refl _, nofun, nofun⟩

/-- nothing buffered and the whole tail file durable: every record is durable -/
theorem Inv.of_synced {crc : Bytes → UInt32} {w : Writer} {log : List Bytes} (rt : Nat)
    (hst : w.older.flatten ++ w.tail = frames crc log) (hb : w.buf = []) (hs : w.synced = w.tail.length)
    (hsm : ∀ p ∈ log, p.length + 8 < 2 ^ 32) (hw : ∀ s ∈ w.older, Whole crc s) :
    Inv crc w { log := log, nsynced := log.length, retired := rt } := by
  refine ⟨?_, Nat.le_of_eq hs, ?_, Nat.le_refl _, hsm, hw⟩
  · rw [hb, List.append_nil]; exact hst
  · rw [List.take_length, ← hst, hs, List.length_append]
    exact Nat.le_refl _

/-- `Inv` as far as it can be seen on a disk `d` left by a crash or a close: `n` is the number of leading
    records of `log` whose frames are known to be on `d` in full (`dur`, again in bytes). -/
structure Pre (crc : Bytes → UInt32) (d : Disk) (log : List Bytes) (n : Nat) : Prop where
  ne : d.files ≠ []
  pre : d.files.flatten <+: frames crc log
  dur : (frames crc (log.take n)).length ≤ d.files.flatten.length
  whole : ∀ s ∈ d.files.dropLast, Whole crc s

theorem Pre.weaken {crc : Bytes → UInt32} {d : Disk} {log : List Bytes} {n n' : Nat}
    (h : Pre crc d log n') (hn : n ≤ n') : Pre crc d log n :=
  ⟨h.ne, h.pre, Nat.le_trans (frames_prefix_length (List.take_prefix_take_left hn)) h.dur, h.whole⟩

theorem openWriter_spec (cfg : Cfg) {d : Disk} (hne : d.files ≠ []) :
    openWriter cfg d = { cfg := cfg, head := d.head, older := d.files.dropLast, tail := d.files.getLast hne,
                         synced := (d.files.getLast hne).length } := by
  unfold openWriter
  rw [List.getLast?_eq_some_getLast hne]

theorem openWriter_flags (cfg : Cfg) (d : Disk) :
    (openWriter cfg d).cfg = cfg ∧ (openWriter cfg d).tailUnlinked = false := by
  unfold openWriter; cases d.files.getLast? <;> exact ⟨rfl, rfl⟩

theorem openWriter_buf (cfg : Cfg) (d : Disk) : (openWriter cfg d).buf = [] := by
  unfold openWriter; cases d.files.getLast? <;> rfl

theorem recoverReopen_snd (crc : Bytes → UInt32) (cfg : Cfg) (d : Disk) :
    (recoverReopen crc cfg d).2 = (readAll crc d.files.flatten).1 := by
  unfold recoverReopen
  fun_cases recover crc d with
  | case1 h => rw [h]; rfl
  | case2 | case3 => rfl

theorem recoverReopen_flags (crc : Bytes → UInt32) (cfg : Cfg) (d : Disk) :
    (recoverReopen crc cfg d).1.cfg = cfg ∧ (recoverReopen crc cfg d).1.tailUnlinked = false := by
  unfold recoverReopen; cases recover crc d <;> exact openWriter_flags _ _

theorem recoverReopen_buf (crc : Bytes → UInt32) (cfg : Cfg) (d : Disk) : (recoverReopen crc cfg d).1.buf = [] := by
  unfold recoverReopen; cases recover crc d <;> exact openWriter_buf _ _

theorem crashOp_buf (crc : Bytes → UInt32) (w : Writer) (op : Op) (hop : op.isCrash) :
    (stepOp crc w op).1.buf = [] := by
  cases op with
  | crashRecover | crashAt => exact recoverReopen_buf _ _ _
  | _ => exact False.elim hop

theorem recover_frames_append {crc : Bytes → UInt32} {d : Disk} {A : List Bytes} {B : Bytes} {e : ReadEnd}
    (hne : d.files ≠ []) (hflat : d.files.flatten = frames crc A ++ B)
    (hA : ∀ p ∈ A, p.length + 8 < 2 ^ 32) (hB : readBytes crc B = .error e) :
    ∃ d', recover crc d = some (A, e, d') ∧ d'.files ≠ [] ∧ d'.files.flatten = frames crc A
      ∧ d'.files.dropLast <+: d.files.dropLast := by
  unfold recover
  rw [if_neg hne, hflat, readAll_frames_append hA hB]
  cases e with
  | eof =>
    refine ⟨d, rfl, hne, ?_, List.prefix_refl _⟩
    rw [hflat, show B = [] from readBytes_eof hB, List.append_nil]
  | _ =>
    obtain ⟨h1, h2, h3, _⟩ := repairLoop_spec (v := (frames crc A).length)
      (by rw [hflat, List.length_append]; exact Nat.le_add_right _ _) hne
    refine ⟨_, rfl, h1, h2.trans ?_, h3⟩
    rw [hflat]
    exact List.take_left' rfl

theorem recoverReopen_spec {crc : Bytes → UInt32} (cfg : Cfg) {d : Disk} {log : List Bytes} {n : Nat} (rt : Nat)
    (h : Pre crc d log n) (hsmall : ∀ p ∈ log, p.length + 8 < 2 ^ 32) :
    log.take n <+: (recoverReopen crc cfg d).2 ∧ (recoverReopen crc cfg d).2 <+: log
      ∧ Inv crc (recoverReopen crc cfg d).1
          { log := (recoverReopen crc cfg d).2, nsynced := (recoverReopen crc cfg d).2.length, retired := rt } := by
  obtain ⟨A, B, e, hA, hS, hrb, hmax⟩ := prefix_frames hsmall h.pre
  have hsm : ∀ p ∈ A, p.length + 8 < 2 ^ 32 := fun p hp => hsmall p (hA.subset hp)
  obtain ⟨d', hrec, hne', hflat, hdl⟩ := recover_frames_append h.ne hS hsm hrb
  simp only [recoverReopen, hrec]
  rw [openWriter_spec cfg hne']
  refine ⟨hmax _ (List.take_prefix _ _) h.dur, hA,
    Inv.of_synced rt ?_ rfl rfl hsm fun s hs => h.whole s (hdl.subset hs)⟩
  rw [← List.flatten_concat, List.dropLast_concat_getLast, hflat]

theorem repairPartial_spec (fs : List Bytes) (v j : Nat) (hv : v ≤ fs.flatten.length) (hne : fs ≠ []) :
    repairPartial v j fs ≠ [] ∧ (repairPartial v j fs).flatten <+: fs.flatten
    ∧ v ≤ (repairPartial v j fs).flatten.length
    ∧ (repairPartial v j fs).dropLast <+: fs.dropLast := by
  obtain ⟨h1, h2, h3, hc1, hc2⟩ := repairLoop_spec hv hne
  fun_cases repairPartial v j fs with
  | case1 hj =>
    have hpre : fs.take (cutIndex v fs + 1) <+: fs.take (fs.length - j) :=
      List.take_prefix_take_left (Nat.le_sub_of_add_le' (Nat.add_le_of_le_sub hc1 hj))
    exact ⟨hpre.ne_nil fun h0 => (List.take_eq_nil_iff.mp h0).elim (Nat.succ_ne_zero _) hne,
      flatten_prefix (List.take_prefix _ _), Nat.le_trans hc2 (flatten_prefix hpre).length_le,
      dropLast_prefix_of_prefix (List.take_prefix _ _)⟩
  | case2 =>
    refine ⟨h1, h2 ▸ List.take_prefix _ _, ?_, h3⟩
    rw [h2, List.length_take]; exact Nat.le_min.mpr ⟨Nat.le_refl _, hv⟩

theorem recoverPartial_spec {crc : Bytes → UInt32} {d : Disk} {log : List Bytes} {n : Nat} (j : Nat)
    (h : Pre crc d log n) (hsmall : ∀ p ∈ log, p.length + 8 < 2 ^ 32) :
    Pre crc (recoverPartial crc j d) log n
    ∧ (readAll crc (recoverPartial crc j d).files.flatten).1 = (readAll crc d.files.flatten).1 := by
  obtain ⟨_, hv, hpf, hmax⟩ := readAll_prefix hsmall h.pre
  fun_cases recoverPartial crc j d with
  | case1 | case2 => exact ⟨h, rfl⟩  -- no file, or a clean end: nothing is repaired
  | case3 =>
    obtain ⟨h1, h2, h3, h4⟩ :=
      repairPartial_spec d.files (readAll crc d.files.flatten).2.1 j (by rw [hv]; exact hpf.length_le) h.ne
    refine ⟨⟨h1, h2.trans h.pre, Nat.le_trans ?_ h3, fun s hs => h.whole s (h4.subset hs)⟩,
      readAll_records_between hsmall h.pre h2 h3⟩
    rw [hv]
    exact frames_prefix_length (hmax _ (List.take_prefix _ _) h.dur)

theorem recoverPartial_pre (crc : Bytes → UInt32) (d : Disk) (log : List Bytes) (n j : Nat)
    (h : Pre crc d log n) (hsmall : ∀ p ∈ log, p.length + 8 < 2 ^ 32) (hn : n ≤ log.length) :
    Pre crc (recoverPartial crc j d) log n := (recoverPartial_spec j h hsmall).1

theorem recoverPartials_spec {crc : Bytes → UInt32} {log : List Bytes} {n : Nat}
    (hsmall : ∀ p ∈ log, p.length + 8 < 2 ^ 32) (js : List Nat) {d : Disk}
    (h : Pre crc d log n) :
    Pre crc (js.foldl (fun d j => recoverPartial crc j d) d) log n
    ∧ (readAll crc (js.foldl (fun d j => recoverPartial crc j d) d).files.flatten).1
        = (readAll crc d.files.flatten).1 := by
  induction js generalizing d with
  | nil => exact ⟨h, rfl⟩
  | cons j js ih =>
    obtain ⟨h1, h2⟩ := recoverPartial_spec j h hsmall
    obtain ⟨h3, h4⟩ := ih h1
    exact ⟨h3, h4.trans h2⟩

theorem retireLoop_spec (limit : Nat) (l : List Bytes) (total : Nat) :
    (retireLoop limit total l).1 ≤ l.length
    ∧ (total - (l.map List.length).sum ≤ limit → (retireLoop limit total l).2 ≤ limit) := by
  fun_induction retireLoop limit total l with
  | case1 => exact ⟨Nat.le_refl _, id⟩
  | case2 total s rest _ r ih =>
    refine ⟨Nat.succ_le_succ ih.1, fun h3 => ih.2 ?_⟩
    rw [Nat.sub_sub]
    exact h3
  | case3 total s rest h => exact ⟨Nat.zero_le _, fun _ => Nat.le_of_not_lt h⟩

theorem cfg_hkBase (w : Writer) : (hkBase w).cfg = w.cfg := by
  fun_cases hkBase w <;> rfl

theorem housekeep_spec (w : Writer) :
    ∃ j u, j ≤ (hkBase w).older.length
      ∧ w.housekeep = { hkBase w with head := (hkBase w).head + j, older := (hkBase w).older.drop j, tailUnlinked := u } := by
  -- `housekeep` ends in an `if` between two writers that differ in `tailUnlinked` only
  fun_cases Writer.housekeep w <;> exact ⟨_, _, (retireLoop_spec _ _ _).1, rfl⟩

/-- the bytes the retire loop would still count after removing every older segment fit one file -/
theorem hkBase_rest_le (w : Writer) :
    (w.files.map List.length).sum - ((hkBase w).older.map List.length).sum ≤ w.cfg.fileLimit := by
  have ht : (w.files.map List.length).sum = (w.older.map List.length).sum + w.tail.length := by
    rw [Writer.files, List.map_append, List.sum_append]; rfl
  rw [ht]
  fun_cases hkBase w with
  | case1 =>
    show _ - ((w.older ++ [w.tail ++ w.buf]).map List.length).sum ≤ _
    rw [List.map_append, List.sum_append, List.map_singleton, List.sum_singleton, List.length_append,
      Nat.sub_eq_zero_of_le (Nat.add_le_add_left (Nat.le_add_right _ _) _)]
    exact Nat.zero_le _
  | case2 h1 =>
    show _ + _ - (w.older.map List.length).sum ≤ _
    rw [Nat.add_sub_cancel_left]; exact Nat.le_of_not_lt h1
  | case3 h1 => rw [Nat.add_sub_cancel_left]; exact Nat.le_of_not_lt h1

theorem housekeep_keeps_tail (w : Writer) (hcfg : w.cfg.fileLimit ≤ w.cfg.totalLimit)
    (hu : w.tailUnlinked = false) : w.housekeep.tailUnlinked = false := by
  have hb : (hkBase w).tailUnlinked = false := by
    fun_cases hkBase w <;> exact hu
  fun_cases Writer.housekeep w with
  | case1 _ _ _ _ hc =>
    exact absurd hc.2 (Nat.not_lt.mpr ((retireLoop_spec _ _ _).2 (Nat.le_trans (hkBase_rest_le w) hcfg)))
  | case2 => exact hb

theorem step_flags (crc : Bytes → UInt32) (cfg : Cfg) (w : Writer) (op : Op)
    (hcfg : cfg.fileLimit ≤ cfg.totalLimit) (h : w.cfg = cfg ∧ w.tailUnlinked = false) :
    (stepOp crc w op).1.cfg = cfg ∧ (stepOp crc w op).1.tailUnlinked = false := by
  have hrec : ∀ d, (recoverReopen crc w.cfg d).1.cfg = cfg ∧ (recoverReopen crc w.cfg d).1.tailUnlinked = false :=
    fun d => h.1 ▸ recoverReopen_flags crc w.cfg d
  cases op with
  | write | sync | shift => exact h
  | housekeep =>
    have hc := (cfg_hkBase w).trans h.1
    exact ⟨ite_both (α := Writer) (·.cfg = cfg) hc hc, housekeep_keeps_tail w (by rw [h.1]; exact hcfg) h.2⟩
  | crashRecover | crashAt | restart => exact hrec _

theorem run_flags (crc : Bytes → UInt32) (cfg : Cfg) (hcfg : cfg.fileLimit ≤ cfg.totalLimit)
    (ops : List Op) (w : Writer) (h : w.cfg = cfg ∧ w.tailUnlinked = false) :
    (run crc w ops).cfg = cfg ∧ (run crc w ops).tailUnlinked = false := by
  induction ops generalizing w with
  | nil => exact h
  | cons op ops ih => exact ih _ (step_flags crc cfg w op hcfg h)

section
variable {crc : Bytes → UInt32} {w : Writer} {g : Ghost}

theorem write_inv {p : Bytes} (h : Inv crc w g)
    (hp : p.length + 8 < 2 ^ 32) : Inv crc (w.write crc p) { g with log := g.log ++ [p] } := by
  obtain ⟨hcat, hlen⟩ := bufWrite_spec w.tail w.buf (frame crc p)
  unfold Writer.write
  refine ⟨?_, Nat.le_trans h.syncedLe hlen.length_le, ?_, ?_,
    List.forall_mem_append.mpr ⟨h.small, List.forall_mem_singleton.mpr hp⟩, h.whole⟩
  · rw [hcat, frames_append, ← h.stream, frames, frames, List.append_nil]
    simp only [List.append_assoc]
  · rw [List.take_append_of_le_length h.nLe]
    exact h.durable
  · rw [List.length_append]
    exact Nat.le_trans h.nLe (Nat.le_add_right _ _)

theorem sync_inv (h : Inv crc w g) :
    Inv crc w.sync { g with nsynced := g.log.length } :=
  Inv.of_synced g.retired h.stream rfl rfl h.small h.whole

theorem shift_inv (h : Inv crc w g) :
    Inv crc w.shift { g with nsynced := g.log.length } := by
  have hst : (w.older ++ [w.tail ++ w.buf]).flatten = frames crc g.log := by
    rw [List.flatten_append, List.flatten_singleton]; exact h.stream
  refine Inv.of_synced g.retired ((List.append_nil _).trans hst) rfl rfl h.small
    (List.forall_mem_append.mpr ⟨h.whole, List.forall_mem_singleton.mpr ?_⟩)
  -- the closed segment: the stream minus the whole frames of the older segments
  obtain ⟨G, hG, hGe⟩ := flatten_whole h.whole
  have hstream := h.stream
  rw [hGe] at hstream
  obtain ⟨L', _, hsm, hX⟩ := whole_rest hG h.small hstream
  exact ⟨L', hsm, hX⟩

/-- removing the `j` oldest segments removes exactly the records they hold -/
theorem dropSegs_inv {b : Writer} (j hd : Nat) (u : Bool) (rt : Nat) (h : Inv crc b g) :
    Inv crc { b with head := hd, older := b.older.drop j, tailUnlinked := u }
      { log := g.log.drop (readAll crc (b.older.take j).flatten).1.length,
        nsynced := g.nsynced - (readAll crc (b.older.take j).flatten).1.length,
        retired := rt } := by
  obtain ⟨G, hG, hGe⟩ := flatten_whole (l := b.older.take j) (fun s hs => h.whole s (List.mem_of_mem_take hs))
  have hsplit : b.older.flatten = frames crc G ++ (b.older.drop j).flatten := by
    rw [← hGe, ← List.flatten_append, List.take_append_drop]
  have hst := h.stream
  rw [hsplit, List.append_assoc] at hst
  obtain ⟨L', hL, hsm, hX⟩ := whole_rest hG h.small hst
  have hdur := h.durable
  have hnle := h.nLe
  -- the dropped segments are `Whole`: reading them returns exactly their records `G`, a prefix of the log
  rw [hGe, readAll_frames hG, hL, List.drop_left' rfl]
  rw [hL] at hdur hnle
  rw [List.length_append] at hnle
  refine ⟨hX, h.syncedLe, ?_, (show g.nsynced - G.length ≤ L'.length from Nat.sub_le_iff_le_add'.mpr hnle), hsm,
    fun s hs => h.whole s (List.mem_of_mem_drop hs)⟩
  by_cases hn : g.nsynced ≤ G.length
  · rw [Nat.sub_eq_zero_of_le hn]; exact Nat.zero_le _
  · rw [List.take_append, List.take_of_length_le (Nat.le_of_lt (Nat.lt_of_not_le hn)), frames_append, hsplit,
      List.length_append, List.length_append, Nat.add_assoc] at hdur
    exact Nat.le_of_add_le_add_left hdur

theorem hkBase_inv (h : Inv crc w g) :
    Inv crc (hkBase w)
      { g with nsynced := if w.tail.length > w.cfg.fileLimit ∨ (w.dirty && w.cfg.syncDue) = true
                          then g.log.length else g.nsynced } := by
  fun_cases hkBase w with
  | case1 h1 => rw [if_pos (.inl h1)]; exact shift_inv h
  | case2 _ h2 => rw [if_pos (.inr h2)]; exact sync_inv h
  | case3 h1 h2 => rw [if_neg (fun hc => hc.elim h1 h2)]; exact h

theorem housekeep_inv (h : Inv crc w g) :
    Inv crc w.housekeep (stepGhost crc w g .housekeep) := by
  obtain ⟨j, u, _, he⟩ := housekeep_spec w
  have hjeq : w.housekeep.head - (hkBase w).head = j := by rw [he]; exact Nat.add_sub_cancel_left _ _
  rw [stepGhost, hjeq, he]
  exact dropSegs_inv j _ u _ (hkBase_inv h)

/-- the disk when the tail file holds a prefix `X` of what was written to it: a crash, or a clean close -/
theorem tail_pre (h : Inv crc w g) (X : Bytes) (n : Nat)
    (hX : X <+: w.tail ++ w.buf) (hn : (frames crc (g.log.take n)).length ≤ w.older.flatten.length + X.length) :
    Pre crc { head := w.head, files := w.older ++ [X] } g.log n := by
  refine ⟨List.append_ne_nil_of_right_ne_nil _ (List.cons_ne_nil _ _), ?_, ?_, fun s hs => h.whole s ?_⟩
  · rw [List.flatten_append, List.flatten_singleton, ← h.stream]
    exact (List.prefix_append_right_inj _).mpr hX
  · rw [List.flatten_append, List.flatten_singleton, List.length_append]
    exact hn
  · rwa [show (w.older ++ [X]).dropLast = w.older from List.dropLast_concat] at hs

theorem crash_pre (k : Nat) (h : Inv crc w g) :
    Pre crc (w.crash k) g.log g.nsynced := by
  refine tail_pre h _ _ (List.take_prefix _ _) (Nat.le_trans h.durable (Nat.add_le_add_left ?_ _))
  rw [List.length_take, List.length_append]
  exact Nat.le_min.mpr ⟨Nat.le_add_right _ _, Nat.le_trans h.syncedLe (Nat.le_add_right _ _)⟩

theorem close_pre (h : Inv crc w g) :
    Pre crc w.close g.log g.log.length := by
  refine tail_pre h _ _ (List.prefix_refl _) ?_
  rw [List.take_length, ← h.stream, List.length_append]
  exact Nat.le_refl _

theorem crashAt_pre (p : CrashPoint) (h : Inv crc w g) :
    Pre crc (w.crashAt p) g.log g.nsynced := by
  cases p with
  | appending k => exact crash_pre k h
  | inShift j k =>
    -- the two `if`s of `Writer.crashInShift`; after its fsync all of `g.log` is durable, `weaken` comes back to `g.nsynced`
    exact ite_both (Pre crc · g.log g.nsynced) (crash_pre k h)
      (ite_both (Pre crc · g.log g.nsynced)
        ((crash_pre 0 (sync_inv h)).weaken h.nLe)
        ((crash_pre 0 (shift_inv h)).weaken h.nLe))

theorem stepOp_recovery {op : Op} (h : Inv crc w g) (hop : op.isCrash ∨ op = .restart) :
    ∃ d, Pre crc d g.log g.nsynced ∧ stepOp crc w op = recoverReopen crc w.cfg d := by
  rcases hop with hop | rfl
  · cases op with
    | crashRecover k => exact ⟨_, crash_pre k h, rfl⟩
    | crashAt p js => exact ⟨_, (recoverPartials_spec h.small js (crashAt_pre p h)).1, rfl⟩
    | _ => exact False.elim hop
  · exact ⟨_, (close_pre h).weaken h.nLe, rfl⟩

theorem stepGhost_recovery {op : Op}
    (hop : op.isCrash ∨ op = .restart) :
    stepGhost crc w g op
      = { g with log := (stepOp crc w op).2, nsynced := (stepOp crc w op).2.length } := by
  rcases hop with hop | rfl
  · cases op with
    | crashRecover | crashAt => rfl
    | _ => exact False.elim hop
  · rfl

theorem recovery_spec {op : Op} (h : Inv crc w g) (hop : op.isCrash ∨ op = .restart) :
    g.durable <+: (stepOp crc w op).2 ∧ (stepOp crc w op).2 <+: g.log
      ∧ Inv crc (stepOp crc w op).1 (stepGhost crc w g op) := by
  obtain ⟨d, hd, hstep⟩ := stepOp_recovery h hop
  rw [stepGhost_recovery hop, hstep]
  exact recoverReopen_spec w.cfg g.retired hd h.small

theorem crashAt_resumable (p : CrashPoint) (js : List Nat)
    (h : Inv crc w g) :
    (stepOp crc w (.crashAt p js)).2 = (stepOp crc w (.crashAt p [])).2 := by
  show (recoverReopen crc w.cfg _).2 = (recoverReopen crc w.cfg (w.crashAt p)).2
  rw [recoverReopen_snd, recoverReopen_snd, (recoverPartials_spec h.small js (crashAt_pre p h)).2]

theorem step_inv {op : Op} (h : Inv crc w g)
    (hop : op.plain) : Inv crc (stepOp crc w op).1 (stepGhost crc w g op) := by
  have hrec := fun hr => (recovery_spec (op := op) h hr).2.2
  cases op with
  | write p => exact write_inv h hop
  | sync => exact sync_inv h
  | shift => exact shift_inv h
  | housekeep => dsimp only [stepOp]; exact housekeep_inv h
  | crashRecover | crashAt => exact hrec (.inl trivial)
  | restart => exact hrec (.inr rfl)

theorem step_retired_eq (crc : Bytes → UInt32) (w : Writer) (g : Ghost) (op : Op) (hop : op ≠ .housekeep) :
    (stepGhost crc w g op).retired = g.retired := by
  cases op with
  | housekeep => exact absurd rfl hop
  | _ => rfl

/-- the durable prefix only ever grows, except for the `k` records removed by retention -/
theorem step_durable_mono (op : Op) (h : Inv crc w g) :
    ∃ k, (stepGhost crc w g op).retired = g.retired + k ∧ g.durable.drop k <+: (stepGhost crc w g op).durable := by
  have hall : g.log.take g.nsynced <+: g.log.take g.log.length := by
    rw [List.take_length]; exact List.take_prefix _ _
  have hrec : op.isCrash ∨ op = .restart → g.durable <+: (stepGhost crc w g op).durable := fun hop => by
    rw [stepGhost_recovery hop]
    show _ <+: (stepOp crc w op).2.take (stepOp crc w op).2.length
    rw [List.take_length]
    exact (recovery_spec h hop).1
  cases op with
  | write p =>
    refine ⟨0, rfl, ?_⟩
    show g.log.take g.nsynced <+: (g.log ++ [p]).take g.nsynced
    rw [List.take_append_of_le_length h.nLe]
    exact List.prefix_refl _
  | sync | shift => exact ⟨0, rfl, hall⟩
  | housekeep =>
    -- `dsimp` first: a unification through `stepGhost … .housekeep` would start evaluating the read loop
    dsimp only [stepGhost, Ghost.durable]
    refine ⟨_, rfl, ?_⟩
    rw [List.drop_take]
    refine List.take_prefix_take_left (Nat.sub_le_sub_right ?_ _)
    exact ite_both (g.nsynced ≤ ·) h.nLe (Nat.le_refl _)
  | crashRecover | crashAt => exact ⟨0, rfl, hrec (.inl trivial)⟩
  | restart => exact ⟨0, rfl, hrec (.inr rfl)⟩

theorem step_log_sub (op : Op) (h : Inv crc w g) :
    ∀ x ∈ (stepGhost crc w g op).log, x ∈ g.log ∨ op = .write x := by
  intro x hx
  have hrec : op.isCrash ∨ op = .restart → x ∈ g.log := fun hop => by
    rw [stepGhost_recovery hop] at hx
    exact (recovery_spec h hop).2.1.subset hx
  cases op with
  | write p =>
    rcases List.mem_append.mp hx with hx | hx
    · exact .inl hx
    · exact .inr (by rw [List.mem_singleton.mp hx])
  | sync | shift => exact .inl hx
  | housekeep => dsimp only [stepGhost] at hx; exact .inl (List.mem_of_mem_drop hx)
  | crashRecover | crashAt => exact .inl (hrec (.inl trivial))
  | restart => exact .inl (hrec (.inr rfl))

theorem runG_fst (crc : Bytes → UInt32) (ops : List Op) (w : Sys) (g : Ghost) :
    (runG crc w g ops).1 = run crc w ops := by
  induction ops generalizing w g with
  | nil => rfl
  | cons op ops ih => exact ih _ _

theorem runG_append (crc : Bytes → UInt32) (a b : List Op) (w : Sys) (g : Ghost) :
    runG crc w g (a ++ b) = runG crc (runG crc w g a).1 (runG crc w g a).2 b := by
  induction a generalizing w g with
  | nil => rfl
  | cons op ops ih => exact ih _ _

theorem runG_inv {ops : List Op} (h : Inv crc w g)
    (hp : ∀ op ∈ ops, op.plain) : Inv crc (runG crc w g ops).1 (runG crc w g ops).2 := by
  induction ops generalizing w g with
  | nil => exact h
  | cons op ops ih =>
    obtain ⟨hop, hp⟩ := List.forall_mem_cons.mp hp
    exact ih (step_inv h hop) hp

theorem runG_retired_eq (crc : Bytes → UInt32) {ops : List Op} (w : Sys) (g : Ghost)
    (h : ∀ op ∈ ops, op ≠ .housekeep) : (runG crc w g ops).2.retired = g.retired := by
  induction ops generalizing w g with
  | nil => rfl
  | cons op ops ih =>
    obtain ⟨hop, h⟩ := List.forall_mem_cons.mp h
    exact (ih _ _ h).trans (step_retired_eq crc w g op hop)

theorem runG_durable_mono {ops : List Op} (h : Inv crc w g)
    (hp : ∀ op ∈ ops, op.plain) :
    ∃ k, (runG crc w g ops).2.retired = g.retired + k ∧ g.durable.drop k <+: (runG crc w g ops).2.durable := by
  induction ops generalizing w g with
  | nil => exact ⟨0, rfl, List.prefix_refl _⟩
  | cons op ops ih =>
    obtain ⟨hop, hp⟩ := List.forall_mem_cons.mp hp
    obtain ⟨k1, e1, p1⟩ := step_durable_mono op h
    obtain ⟨k2, e2, p2⟩ := ih (step_inv h hop) hp
    refine ⟨k1 + k2, by rw [runG, e2, e1, Nat.add_assoc], ?_⟩
    rw [← List.drop_drop]
    exact (prefix_drop k2 p1).trans p2

theorem runG_log_sub {ops : List Op} (h : Inv crc w g)
    (hp : ∀ op ∈ ops, op.plain) : ∀ x ∈ (runG crc w g ops).2.log, x ∈ g.log ∨ Op.write x ∈ ops := by
  induction ops generalizing w g with
  | nil => exact fun x hx => .inl hx
  | cons op ops ih =>
    intro x hx
    obtain ⟨hop, hp⟩ := List.forall_mem_cons.mp hp
    rcases ih (step_inv h hop) hp x hx with h1 | h1
    · rcases step_log_sub op h x h1 with h2 | h2
      · exact .inl h2
      · exact .inr (h2 ▸ List.mem_cons_self)
    · exact .inr (List.mem_cons_of_mem _ h1)

theorem runG_writes (crc : Bytes → UInt32) (ps : List Bytes) (w : Sys) (g : Ghost) :
    (runG crc w g (ps.map Op.write)).2 = { g with log := g.log ++ ps } := by
  induction ps generalizing w g with
  | nil => rw [List.append_nil]; rfl
  | cons p ps ih =>
    rw [List.map_cons, runG, ih]
    show ({ g with log := g.log ++ [p] ++ ps } : Ghost) = _
    rw [List.append_assoc]; rfl

end

end Goloop.C03.Proofs
