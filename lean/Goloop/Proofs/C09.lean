/-
  Proofs/C09: the lock-request bookkeeping (applyLockRequests / getLocker / setLocker) records, for
  every account entry, the last earlier transaction that may write the account; what that means
  for how a transaction of the block reaches an account (`access`).
-/
import Goloop.Model.C09
namespace Goloop.C09.Proofs
open Goloop.C09

theorem lk_num_le (l : Lk) : l.num ≤ 2 := by cases l <;> decide
theorem lk_num_eq_two {l : Lk} : l.num = 2 ↔ l = .write := by cases l <;> decide

def hasWorldW (reqs : List Req) : Bool := reqs.any (fun r => r.acct = none ∧ r.lock = .write)

/-- The first loop of applyLockRequests, from any start value: the result is the start value or the
    level of some world request, and is below neither the start value nor any world request. -/
theorem worldFold (reqs : List Req) : ∀ wl0 wl,
    reqs.foldl (fun wl r => if r.acct = none ∧ r.lock.num > wl then r.lock.num else wl) wl0 = wl →
    (wl0 ≤ wl ∧ ∀ r ∈ reqs, r.acct = none → r.lock.num ≤ wl) ∧
      (wl = wl0 ∨ ∃ r ∈ reqs, r.acct = none ∧ r.lock.num = wl) := by
  induction reqs with
  | nil => rintro wl0 _ rfl; exact ⟨⟨Nat.le_refl _, fun _ h => nomatch h⟩, .inl rfl⟩
  | cons q rest ih =>
    intro wl0 wl h
    rw [List.foldl_cons] at h
    by_cases hq : q.acct = none ∧ q.lock.num > wl0
    · rw [if_pos hq] at h
      obtain ⟨⟨h1, h2⟩, h3⟩ := ih _ wl h
      refine ⟨⟨Nat.le_trans (Nat.le_of_lt hq.2) h1, fun r hr ha => ?_⟩, .inr ?_⟩
      · rcases List.mem_cons.mp hr with rfl | hr
        · exact h1
        · exact h2 r hr ha
      · rcases h3 with h3 | ⟨r, hr, h3⟩
        · exact ⟨q, List.mem_cons_self, hq.1, h3.symm⟩
        · exact ⟨r, List.mem_cons_of_mem _ hr, h3⟩
    · rw [if_neg hq] at h
      obtain ⟨⟨h1, h2⟩, h3⟩ := ih _ wl h
      refine ⟨⟨h1, fun r hr ha => ?_⟩, h3.imp id fun ⟨r, hr, h3⟩ => ⟨r, List.mem_cons_of_mem _ hr, h3⟩⟩
      rcases List.mem_cons.mp hr with rfl | hr
      · exact Nat.le_trans (Nat.le_of_not_lt fun hlt => hq ⟨ha, hlt⟩) h1
      · exact h2 r hr ha

theorem worldLockOf_spec (reqs : List Req) :
    (∀ r ∈ reqs, r.acct = none → r.lock.num ≤ worldLockOf reqs) ∧
      (worldLockOf reqs = 0 ∨ ∃ r ∈ reqs, r.acct = none ∧ r.lock.num = worldLockOf reqs) :=
  have h := worldFold reqs 0 (worldLockOf reqs) rfl
  ⟨h.1.2, h.2⟩

theorem worldLockOf_le (reqs : List Req) : worldLockOf reqs ≤ 2 := by
  rcases (worldLockOf_spec reqs).2 with h | ⟨r, _, _, h⟩
  · exact h ▸ Nat.zero_le 2
  · exact h ▸ lk_num_le r.lock

theorem worldLockOf_eq_two (reqs : List Req) : worldLockOf reqs = 2 ↔ hasWorldW reqs = true := by
  obtain ⟨hge, hex⟩ := worldLockOf_spec reqs
  rw [hasWorldW, List.any_eq_true]
  constructor
  · intro h2
    rcases hex with h | ⟨r, hr, ha, h⟩
    · rw [h2] at h; cases h
    · exact ⟨r, hr, decide_eq_true ⟨ha, lk_num_eq_two.mp (h.trans h2)⟩⟩
  · rintro ⟨r, hr, h⟩
    obtain ⟨ha, hl⟩ := of_decide_eq_true h
    exact Nat.le_antisymm (worldLockOf_le reqs) (lk_num_eq_two.mpr hl ▸ hge r hr ha)

theorem worldLockOf_ne_two {reqs : List Req} (h : worldLockOf reqs ≠ 2) :
    worldLockOf reqs < 2 ∧ hasWorldW reqs = false :=
  ⟨Nat.lt_of_le_of_ne (worldLockOf_le reqs) h, Bool.eq_false_iff.mpr (mt (worldLockOf_eq_two reqs).mpr h)⟩

theorem worldLockOf_noRead (reqs : List Req) (h : ∀ r ∈ reqs, ¬ (r.acct = none ∧ r.lock = .read)) :
    worldLockOf reqs = 0 ∨ worldLockOf reqs = 2 := by
  refine (worldLockOf_spec reqs).2.imp id fun ⟨r, hr, ha, hn⟩ => ?_
  cases hl : r.lock with
  | read => exact absurd ⟨ha, hl⟩ (h r hr)
  | write => rw [← hn, hl]; rfl

def hasW (m : List (Nat × Lk)) (a : Nat) : Bool := m.any (fun p => p.1 = a ∧ p.2 = .write)
def hasAcctW (reqs : List Req) (a : Nat) : Bool := reqs.any (fun r => r.acct = some a ∧ r.lock = .write)

theorem raise_write (k l : Lk) : (if k.num < l.num then l else k) = .write ↔ k = .write ∨ l = .write := by
  cases k <;> cases l <;> decide

theorem hasW_addReq (m : List (Nat × Lk)) (a' : Nat) (l : Lk) (a : Nat) :
    hasW (addReq m a' l) a = (hasW m a || (decide (a' = a) && decide (l = .write))) := by
  fun_induction addReq m a' l with
  | case1 => simp [hasW]
  | case2 k rest b l =>
    simp only [hasW, List.any_cons]
    by_cases hba : b = a <;> simp [raise_write, hba, Bool.or_right_comm]
  | case3 b k rest a' l hb ih =>
    simp only [hasW, List.any_cons] at ih ⊢
    rw [ih]
    simp [Bool.or_assoc]

theorem hasW_acctFold {wl : Nat} (hwl : wl < 2) (a : Nat) (reqs : List Req) : ∀ m0,
    hasW (reqs.foldl (acctStep wl) m0) a = (hasW m0 a || hasAcctW reqs a) := by
  induction reqs with
  | nil => intro m0; simp [hasAcctW]
  | cons q rest ih =>
    intro m0
    rw [List.foldl_cons, ih]
    show _ = (hasW m0 a || (decide (q.acct = some a ∧ q.lock = .write) || hasAcctW rest a))
    rw [← Bool.or_assoc]
    congr 1
    unfold acctStep
    cases hq : q.acct with
    | none => simp
    | some b =>
      by_cases hle : q.lock.num ≤ wl
      · have : q.lock ≠ .write := fun h => by rw [h] at hle; exact absurd (show 2 ≤ wl from hle) (by omega)
        simp [hle, this]
      · simp [hle, hasW_addReq]

theorem mayWrite_eq (reqs : List Req) (a : Nat) : mayWrite reqs a = (hasWorldW reqs || hasAcctW reqs a) := by
  rw [Bool.eq_iff_iff, Bool.or_eq_true]
  simp only [mayWrite, hasWorldW, hasAcctW, List.any_eq_true, decide_eq_true_eq]
  constructor
  · rintro ⟨r, hr, hl, h | h⟩
    · exact Or.inl ⟨r, hr, h, hl⟩
    · exact Or.inr ⟨r, hr, h, hl⟩
  · rintro (⟨r, hr, h, hl⟩ | ⟨r, hr, h, hl⟩)
    · exact ⟨r, hr, hl, Or.inl h⟩
    · exact ⟨r, hr, hl, Or.inr h⟩

theorem hasW_acctMap {reqs : List Req} (h : worldLockOf reqs ≠ 2) (a : Nat) :
    hasW (acctMap (worldLockOf reqs) reqs) a = mayWrite reqs a := by
  rw [mayWrite_eq, (worldLockOf_ne_two h).2, Bool.false_or]
  exact (hasW_acctFold (worldLockOf_ne_two h).1 a reqs []).trans (Bool.false_or _)

-- A context is only ever looked up through `getLocker` (the `depend` of `applyLockRequests`), so it is described
-- through `getLocker` alone; that `setWorld` empties `lastAcct` needs no lemma of its own.
theorem getLocker_setWriters (i a : Nat) : ∀ (m : List (Nat × Lk)) (c : Ctx),
    (setWriters c i m).getLocker a = if hasW m a then some i else c.getLocker a := by
  intro m c
  fun_induction setWriters c i m with
  | case1 => rfl
  | case2 c b k rest ih =>
    rw [ih]
    show _ = if (decide (b = a ∧ k = .write) || hasW rest a) = true then _ else _
    cases hasW rest a
    · by_cases hk : k = .write
      · by_cases hba : b = a
        · simp [hk, hba, Ctx.getLocker, Ctx.setAcct]
        · simp [hk, hba, Ctx.getLocker, Ctx.setAcct, Ne.symm hba]
      · simp [hk]
    · simp

/-- `mayWrite` is `hasWorldW || hasAcctW` (`mayWrite_eq`), and each branch of `applyLockRequests` records `i` for one
    of the two: `setWorld` for every account at once, `setWriters` for the write entries of `acctMap`. -/
theorem getLocker_apply (c : Ctx) (i : Nat) (reqs : List Req) (a : Nat) :
    (applyLockRequests c i reqs).2.getLocker a = if mayWrite reqs a then some i else c.getLocker a := by
  fun_cases applyLockRequests c i reqs with
  | case1 wl hw => simp [mayWrite_eq, (worldLockOf_eq_two reqs).mp hw, Ctx.getLocker, Ctx.setWorld]
  | case2 wl hw m => rw [getLocker_setWriters, hasW_acctMap hw]

theorem getLocker_ctxAfter (a : Nat) : ∀ (pre : List Tx) (c : Ctx) (base : Nat),
    (ctxAfter c base pre).getLocker a =
      match lastWriter base pre a with
      | some j => some j
      | none => c.getLocker a := by
  intro pre c base
  fun_induction ctxAfter c base pre with
  | case1 => rfl
  | case2 c base t rest ih =>
    rw [ih, lastWriter, getLocker_apply]
    cases lastWriter (base + 1) rest a with
    | some j => rfl
    | none => cases mayWrite t.reqs a <;> rfl

/-- `buildFrom` threads the context through the block; here entry `i` depends on the prefix `txs.take i` alone, the
    form from which `lkAt_eq` and `dep` start. -/
theorem buildFrom_eq : ∀ (txs : List Tx) (c : Ctx) (base : Nat),
    buildFrom c base txs =
      txs.mapIdx fun i t => (applyLockRequests (ctxAfter c base (txs.take i)) (base + i) t.reqs).1
  | [], _, _ => rfl
  | t :: rest, c, base => by
    rw [List.mapIdx_cons]
    show _ :: buildFrom _ (base + 1) rest = _
    rw [buildFrom_eq rest]
    simp only [Nat.add_assoc, Nat.add_comm 1]
    -- the indices agree; `rfl` computes `take` and `ctxAfter` on the cons
    rfl

theorem lastWriter_spec' (a : Nat) : ∀ (pre : List Tx) (base : Nat),
    (∀ k, lastWriter base pre a = some k →
      ∃ m t, k = base + m ∧ pre[m]? = some t ∧ mayWrite t.reqs a = true ∧
        ∀ (j : Nat) (t' : Tx), m < j → pre[j]? = some t' → mayWrite t'.reqs a = false) ∧
    (lastWriter base pre a = none →
      ∀ (j : Nat) (t' : Tx), pre[j]? = some t' → mayWrite t'.reqs a = false) := by
  intro pre base
  fun_induction lastWriter base pre a with
  | case1 => exact ⟨nofun, fun _ j t' h => nomatch h⟩
  | case2 base t rest a k0 hl ih =>
    refine ⟨fun k h => ?_, nofun⟩
    cases h
    obtain ⟨m, t0, hk, hm, hw, hafter⟩ := ih.1 k0 hl
    refine ⟨m + 1, t0, by rw [hk, Nat.add_assoc, Nat.add_comm 1], hm, hw, fun j t' hj h => ?_⟩
    cases j with
    | zero => exact absurd hj (Nat.not_lt_zero _)
    | succ j => exact hafter j t' (Nat.lt_of_succ_lt_succ hj) h
  | case3 base t rest a hl hm ih =>
    refine ⟨fun k h => ?_, nofun⟩
    cases h
    refine ⟨0, t, rfl, rfl, hm, fun j t' hj h => ?_⟩
    cases j with
    | zero => exact absurd hj (Nat.lt_irrefl 0)
    | succ j => exact ih.2 hl j t' h
  | case4 base t rest a hl hm ih =>
    refine ⟨nofun, fun _ j t' h => ?_⟩
    cases j with
    | zero => cases h; exact Bool.eq_false_iff.mpr hm
    | succ j => exact ih.2 hl j t' h

/-- transaction `i` of the block (no requests, no program beyond the block) -/
def txAt (txs : List Tx) (i : Nat) : Tx := txs.getD i ⟨[], []⟩
/-- what applyLockRequests left in the virtual state of transaction `i` -/
def lkAt (txs : List Tx) (i : Nat) : Locks := (build txs).getD i ⟨0, []⟩
def writer (txs : List Tx) (i a : Nat) : Bool := mayWrite (txAt txs i).reqs a
/-- the dependency the bookkeeping records for account `a` of transaction `i` -/
def dep (txs : List Tx) (i a : Nat) : Option Nat := lastWriter 0 (txs.take i) a

theorem txAt_lt {txs : List Tx} {i : Nat} (h : i < txs.length) : txAt txs i = txs[i] := by
  simp [txAt, List.getD_eq_getElem?_getD, h]

theorem writer_ge {txs : List Tx} {i a : Nat} (h : txs.length ≤ i) : writer txs i a = false := by
  simp [writer, txAt, List.getD_eq_getElem?_getD, h, mayWrite]

theorem build_length (txs : List Tx) : (build txs).length = txs.length := by
  rw [build, buildFrom_eq, List.length_mapIdx]

variable {txs : List Tx}

theorem lkAt_lt {i : Nat} (h : i < txs.length) :
    lkAt txs i = (build txs)[i]'(by rw [build_length]; exact h) := by
  simp [lkAt, List.getD_eq_getElem?_getD, build_length, h]

theorem getLocker_prefix (txs : List Tx) (i a : Nat) :
    (ctxAfter Ctx.empty 0 (txs.take i)).getLocker a = dep txs i a := by
  rw [getLocker_ctxAfter]
  unfold dep
  cases lastWriter 0 (List.take i txs) a <;> rfl

theorem dep_spec {i : Nat} (hi : i ≤ txs.length) (a : Nat) :
    (∀ k, dep txs i a = some k → k < i ∧ writer txs k a = true ∧
        ∀ j, k < j → j < i → writer txs j a = false) ∧
    (dep txs i a = none → ∀ j, j < i → writer txs j a = false) := by
  have hget : ∀ j, j < i → (txs.take i)[j]? = some (txAt txs j) := fun j hj => by
    rw [List.getElem?_take_of_lt hj, txAt_lt (Nat.lt_of_lt_of_le hj hi), List.getElem?_eq_getElem]
  obtain ⟨h1, h2⟩ := lastWriter_spec' a (txs.take i) 0
  refine ⟨fun k hk => ?_, fun hn j hj => h2 hn j _ (hget j hj)⟩
  obtain ⟨m, t, rfl, hm, hw, hafter⟩ := h1 k hk
  have hmi : m < i := Nat.lt_of_lt_of_le (List.getElem?_eq_some_iff.mp hm).1 (List.length_take_le i txs)
  rw [hget m hmi] at hm
  cases hm
  rw [Nat.zero_add]
  exact ⟨hmi, hw, fun j hmj hji => hafter j _ hmj (hget j hji)⟩

theorem lkAt_eq {i : Nat} (h : i < txs.length) :
    lkAt txs i =
      if worldLockOf (txAt txs i).reqs = 2 then ⟨2, []⟩
      else ⟨worldLockOf (txAt txs i).reqs,
        (acctMap (worldLockOf (txAt txs i).reqs) (txAt txs i).reqs).map fun p => ⟨p.1, p.2, dep txs i p.1⟩⟩ := by
  rw [lkAt, build, buildFrom_eq, List.getD_eq_getElem?_getD, List.getElem?_mapIdx, List.getElem?_eq_getElem h,
    Option.map_some, Option.getD_some, Nat.zero_add, ← txAt_lt h, applyLockRequests]
  split
  · rfl
  · simp only [getLocker_prefix]

theorem lkAt_world {i : Nat} (h : i < txs.length) :
    (lkAt txs i).world = worldLockOf (txAt txs i).reqs := by
  rw [lkAt_eq h]; split <;> simp [*]

theorem writer_of_world {i : Nat} (h : i < txs.length) (hw : (lkAt txs i).world = 2) (a : Nat) :
    writer txs i a = true := by
  rw [lkAt_world h] at hw
  simp [writer, mayWrite_eq, (worldLockOf_eq_two _).mp hw]

theorem access_world {i : Nat} (hw : (lkAt txs i).world = 2) (a : Nat) :
    access (lkAt txs i) a = .worldW := by
  simp [access, hw]

theorem las_dep {i : Nat} (h : i < txs.length) {l : Las} (hl : l ∈ (lkAt txs i).las) :
    l.depend = dep txs i l.acct := by
  rw [lkAt_eq h] at hl
  split at hl
  · cases hl
  · obtain ⟨p, _, rfl⟩ := List.mem_map.mp hl; rfl

/-- below the world write lock, the accounts a transaction may write are those it holds a write
    entry for -/
theorem writer_iff_entry {i : Nat} (h : i < txs.length) (hw : (lkAt txs i).world ≠ 2) (a : Nat) :
    writer txs i a = true ↔ ∃ l ∈ (lkAt txs i).las, l.acct = a ∧ l.lock = .write := by
  have hw' := lkAt_world h ▸ hw
  rw [writer, ← hasW_acctMap hw', lkAt_eq h, if_neg hw', hasW, List.any_eq_true]
  constructor
  · rintro ⟨p, hp, hpa⟩
    exact ⟨_, List.mem_map.mpr ⟨p, hp, rfl⟩, of_decide_eq_true hpa⟩
  · rintro ⟨l, hl, hla⟩
    obtain ⟨p, hp, rfl⟩ := List.mem_map.mp hl
    exact ⟨p, hp, decide_eq_true hla⟩

theorem access_spec {i : Nat} (h : i < txs.length) (a : Nat) :
    match access (lkAt txs i) a with
    | .worldW => (lkAt txs i).world = 2
    | .rw d => d = dep txs i a ∧ writer txs i a = true
    | .ro d => d = dep txs i a
    | .roBase => (lkAt txs i).world = 1
    | .nil => True := by
  fun_cases access (lkAt txs i) a with
  | case1 hw => exact hw
  | case2 hw l hf hlw =>
    have hl := List.mem_of_find?_eq_some hf
    obtain rfl : l.acct = a := by simpa using List.find?_some hf
    exact ⟨las_dep h hl, (writer_iff_entry h hw _).mpr ⟨l, hl, rfl, hlw⟩⟩
  | case3 hw l hf hlw =>
    obtain rfl : l.acct = a := by simpa using List.find?_some hf
    exact las_dep h (List.mem_of_find?_eq_some hf)
  | case4 _ _ h1 => exact h1
  | case5 => trivial

end Goloop.C09.Proofs
