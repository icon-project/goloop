import Goloop.Model.C12
import Goloop.Proofs.Intconv
namespace Goloop.C12.Proofs
open Goloop Goloop.C12

theorem serString_cons (a : UInt8) (s : Bytes) :
    serString (a :: s) = if isSpecial a then cBsl :: a :: serString s else a :: serString s := rfl

theorem ne_of_plain {a b : UInt8} (ha : isSpecial a = false) (hb : isSpecial b = true) : a ≠ b :=
  fun h => by rw [h, hb] at ha; cases ha

theorem unserString_plain (b : UInt8) (t : Bytes) (h : isSpecial b = false) :
    unserString (b :: t) = (b :: (unserString t).1, (unserString t).2) := by
  have hb : (b == cBsl) = false := beq_false_of_ne (ne_of_plain h rfl)
  cases t with
  | nil => simp [unserString, h]
  | cons c r => simp [unserString, h, hb]

theorem unserString_esc (c : UInt8) (t : Bytes) :
    unserString (cBsl :: c :: t) = (c :: (unserString t).1, (unserString t).2) := rfl

theorem unserString_stop (b : UInt8) (t : Bytes) (h : isSpecial b = true) (hb : b ≠ cBsl) :
    unserString (b :: t) = ([], b :: t) := by
  have hb' : (b == cBsl) = false := beq_false_of_ne hb
  cases t with
  | nil => simp [unserString, h]
  | cons c r => simp [unserString, h, hb']

/-- what may follow a serialized value: nothing, or one of `.` `]` `}` -/
inductive Term : Bytes → Prop
  | nil : Term []
  | dot (t : Bytes) : Term (cDot :: t)
  | rbr (t : Bytes) : Term (cRBr :: t)
  | rbc (t : Bytes) : Term (cRBc :: t)

theorem unserString_ser (s rest : Bytes) (h : Term rest) :
    unserString (serString s ++ rest) = (s, rest) := by
  induction s with
  | nil =>
    cases h
    · rfl
    all_goals exact unserString_stop _ _ (by decide) (by decide)
  | cons b s ih =>
    rw [serString_cons]
    cases hsp : isSpecial b with
    | true => rw [if_pos rfl, List.cons_append, List.cons_append, unserString_esc, ih]
    | false => rw [if_neg Bool.false_ne_true, List.cons_append, unserString_plain b _ hsp, ih]

/-- the fragments with `.` between them: what the Go loops `joinListFrom` / `joinDictFrom` write once
    their buffer is not empty (`joinListFrom_eq_dotJoin`) -/
def dotJoin : List Bytes → Bytes
  | [] => []
  | [f] => f
  | f :: g :: r => f ++ cDot :: dotJoin (g :: r)

/-- `key.value` as written by the dict loop -/
def entry (p : Bytes × Bytes) : Bytes := serString p.1 ++ cDot :: p.2

/-- starts with a byte that closes no bracket: what follows `[` or `{` when the container is not
    empty -/
inductive Opens : Bytes → Prop
  | mk (b : UInt8) (t : Bytes) (h1 : b ≠ cRBr) (h2 : b ≠ cRBc) : Opens (b :: t)

theorem Opens.append {f : Bytes} (h : Opens f) (g : Bytes) : Opens (f ++ g) := by
  obtain ⟨b, t, h1, h2⟩ := h
  exact ⟨b, t ++ g, h1, h2⟩

theorem Opens.dotJoin {f : Bytes} (h : Opens f) (fs : List Bytes) : Opens (dotJoin (f :: fs)) := by
  cases fs with
  | nil => exact h
  | cons g r => exact h.append _

theorem Opens.ne_nil {f : Bytes} (h : Opens f) : f ≠ [] := by
  obtain ⟨b, t, -, -⟩ := h
  exact List.cons_ne_nil b t

theorem dotJoin_cons_append (a g : Bytes) (fs : List Bytes) :
    dotJoin ((a ++ cDot :: g) :: fs) = a ++ cDot :: dotJoin (g :: fs) := by
  cases fs <;> simp [dotJoin]

theorem joinListFrom_eq_dotJoin (buf : Bytes) (fs : List Bytes) (h : buf ≠ []) :
    joinListFrom buf fs = dotJoin (buf :: fs) := by
  induction fs generalizing buf with
  | nil => rfl
  | cons g fs ih =>
    have hb : buf.isEmpty = false := List.isEmpty_eq_false_iff.mpr h
    simp only [joinListFrom, hb, Bool.false_eq_true, if_false]
    rw [ih _ (by simp [h]), List.append_assoc, List.singleton_append, dotJoin_cons_append]
    rfl

/-- the Go list loop drops every leading empty fragment -/
theorem joinListFrom_nil_empty (fs : List Bytes) :
    joinListFrom [] ([] :: fs) = joinListFrom [] fs := rfl

theorem joinDictFrom_eq (buf : Bytes) (ps : List (Bytes × Bytes)) :
    joinDictFrom buf ps = joinListFrom buf (ps.map entry) := by
  induction ps generalizing buf with
  | nil => rfl
  | cons p ps ih =>
    simp only [joinDictFrom, List.map_cons, joinListFrom, entry]
    rw [ih]
    simp [List.append_assoc]

theorem serFrags_cons {v : JV} {r : List JV} {fs : List Bytes} (h : serFrags (v :: r) = some fs) :
    ∃ f fs', serValue v = some f ∧ serFrags r = some fs' ∧ fs = f :: fs' := by
  rw [serFrags] at h
  split at h
  · rename_i f fs' hv hr
    exact ⟨f, fs', hv, hr, (Option.some.inj h).symm⟩
  · cases h

theorem serPairs_cons {k : Bytes} {v : JV} {r : List (Bytes × JV)} {ps : List (Bytes × Bytes)}
    (h : serPairs ((k, v) :: r) = some ps) :
    ∃ f ps', serValue v = some f ∧ serPairs r = some ps' ∧ ps = (k, f) :: ps' := by
  rw [serPairs] at h
  split at h
  · rename_i f ps' hv hr
    exact ⟨f, ps', hv, hr, (Option.some.inj h).symm⟩
  · cases h

theorem serValue_list {xs : List JV} {f : Bytes} (h : serValue (.list xs) = some f) :
    ∃ fs, serFrags xs = some fs ∧ f = cLBr :: (joinListFrom [] fs ++ [cRBr]) := by
  rw [serValue] at h
  split at h
  · rename_i fs hfs
    exact ⟨fs, hfs, (Option.some.inj h).symm⟩
  · cases h

theorem serValue_dict {kvs : List (Bytes × JV)} {f : Bytes} (h : serValue (.dict kvs) = some f) :
    ∃ ps, serPairs kvs = some ps ∧ f = cLBc :: (joinDictFrom [] (sortPairs ps) ++ [cRBc]) := by
  rw [serValue] at h
  split at h
  · rename_i ps hps
    exact ⟨ps, hps, (Option.some.inj h).symm⟩
  · cases h

theorem sortPairs_sorted {α : Type} (ps : List (Bytes × α)) (h : keysSorted ps = true) :
    sortPairs ps = ps := by
  fun_induction keysSorted ps with
  | case1 | case2 => rfl
  | case3 p q r ih =>
    rw [Bool.and_eq_true] at h
    rw [sortPairs, ih h.2, insertPair, if_pos h.1]

theorem serPairs_sorted (kvs : List (Bytes × JV)) : ∀ ps : List (Bytes × Bytes),
    serPairs kvs = some ps → keysSorted kvs = true → keysSorted ps = true := by
  induction kvs with
  | nil => intro ps h _; cases h; rfl
  | cons kv r ih =>
    intro ps h hs
    obtain ⟨k, v⟩ := kv
    obtain ⟨f, ps', -, hr, rfl⟩ := serPairs_cons h
    rcases r with _ | ⟨⟨k', v'⟩, r'⟩
    · cases hr; rfl
    · obtain ⟨f', ps'', -, -, rfl⟩ := serPairs_cons hr
      simp only [keysSorted, Bool.and_eq_true] at hs ⊢
      exact ⟨hs.1, ih _ hr hs.2⟩

theorem unserValue_null (n : Nat) (rest : Bytes) :
    unserValue (n + 1) (cBsl :: cZero :: rest) = some (.null, rest) := rfl

theorem unserValue_emptyList (n : Nat) (rest : Bytes) :
    unserValue (n + 1) (cLBr :: cRBr :: rest) = some (.list [], rest) := rfl

theorem unserValue_emptyDict (n : Nat) (rest : Bytes) :
    unserValue (n + 1) (cLBc :: cRBc :: rest) = some (.dict [], rest) := rfl

theorem unserValue_list {n : Nat} {bs r : Bytes} {xs : List JV} (ho : Opens bs)
    (h : unserItems n bs = some (xs, r)) :
    unserValue (n + 1) (cLBr :: bs) = some (.list xs, r) := by
  obtain ⟨b, t, hb, -⟩ := ho
  have h1 : (b == cRBr) = false := beq_false_of_ne hb
  simp [unserValue, cLBr, cBsl, h1, h]

theorem unserValue_dict {n : Nat} {bs r : Bytes} {kvs : List (Bytes × JV)} (ho : Opens bs)
    (h : unserEntries n bs = some (kvs, r)) :
    unserValue (n + 1) (cLBc :: bs) = some (.dict kvs, r) := by
  obtain ⟨b, t, -, hb⟩ := ho
  have h1 : (b == cRBc) = false := beq_false_of_ne hb
  simp [unserValue, cLBc, cLBr, cBsl, h1, h]

theorem unserValue_other (n : Nat) (bs : Bytes)
    (h : ∀ b c t, bs = b :: c :: t → (b ≠ cBsl ∨ c ≠ cZero) ∧ b ≠ cLBr ∧ b ≠ cLBc) :
    unserValue (n + 1) bs = some (.str (unserString bs).1, (unserString bs).2) := by
  rcases bs with _ | ⟨b, _ | ⟨c, t⟩⟩
  · simp [unserValue]
  · simp [unserValue]
  · obtain ⟨h0, h1, h2⟩ := h b c t rfl
    have e0 : (b == cBsl && c == cZero) = false :=
      Bool.and_eq_false_iff.mpr (h0.imp beq_false_of_ne beq_false_of_ne)
    simp [unserValue, e0, beq_false_of_ne h1, beq_false_of_ne h2]

theorem unserValue_str (n : Nat) (s rest : Bytes) (h : Term rest) :
    unserValue (n + 1) (serString s ++ rest) = some (.str s, rest) := by
  rw [unserValue_other, unserString_ser s rest h]
  intro b c t hbs
  cases s with
  | nil =>
    cases h with
    | nil => cases hbs
    | dot r | rbr r | rbc r =>
      obtain ⟨rfl, -⟩ := List.cons.inj hbs
      exact ⟨Or.inl (by decide), by decide, by decide⟩
  | cons a s' =>
    rw [serString_cons] at hbs
    cases hsp : isSpecial a with
    | false =>
      rw [hsp] at hbs
      obtain ⟨rfl, -⟩ := List.cons.inj hbs
      exact ⟨Or.inl (ne_of_plain hsp rfl), ne_of_plain hsp rfl, ne_of_plain hsp rfl⟩
    | true =>
      simp only [hsp, if_true, List.cons_append, List.cons.injEq] at hbs
      obtain ⟨rfl, rfl, -⟩ := hbs
      exact ⟨Or.inr (ne_of_plain rfl hsp).symm, by decide, by decide⟩

theorem unserItems_last {n : Nat} {bs r : Bytes} {v : JV}
    (h : unserValue n bs = some (v, cRBr :: r)) : unserItems (n + 1) bs = some ([v], r) := by
  rw [unserItems, h]; rfl

theorem unserItems_more {n : Nat} {bs r r' : Bytes} {v : JV} {vs : List JV}
    (h : unserValue n bs = some (v, cDot :: r)) (ht : unserItems n r = some (vs, r')) :
    unserItems (n + 1) bs = some (v :: vs, r') := by
  simp only [unserItems, h, BEq.rfl, ↓reduceIte, ht]

theorem unserEntries_last {n : Nat} {k f r1 r : Bytes} {v : JV}
    (h : unserValue n (f ++ r1) = some (v, cRBc :: r)) :
    unserEntries (n + 1) (entry (k, f) ++ r1) = some ([(k, v)], r) := by
  simp only [entry, List.append_assoc, List.cons_append, unserEntries,
    unserString_ser k _ (.dot _), BEq.rfl, ↓reduceIte, h]
  rfl

theorem unserEntries_more {n : Nat} {k f r1 r r' : Bytes} {v : JV} {kvs : List (Bytes × JV)}
    (h : unserValue n (f ++ r1) = some (v, cDot :: r)) (ht : unserEntries n r = some (kvs, r')) :
    unserEntries (n + 1) (entry (k, f) ++ r1) = some ((k, v) :: kvs, r') := by
  simp only [entry, List.append_assoc, List.cons_append, unserEntries,
    unserString_ser k _ (.dot _), BEq.rfl, ↓reduceIte, h, ht]

theorem opens_serString (a : UInt8) (s : Bytes) : Opens (serString (a :: s)) := by
  rw [serString_cons]
  cases hsp : isSpecial a with
  | true => exact ⟨cBsl, _, by decide, by decide⟩
  | false => exact ⟨a, _, ne_of_plain hsp rfl, ne_of_plain hsp rfl⟩

theorem opens_entry (k f : Bytes) : Opens (entry (k, f)) := by
  cases k with
  | nil => exact ⟨cDot, f, by decide, by decide⟩
  | cons a k => exact (opens_serString a k).append _

theorem opens_frag (x : JV) (xs : List JV) (hh : headOk (x :: xs) = true) (hc : canon x = true)
    (f : Bytes) (hs : serValue x = some f) : Opens f := by
  cases x with
  | null => cases hs; exact ⟨cBsl, _, by decide, by decide⟩
  | bool b => cases hc
  | num n => cases hc
  | str s =>
    cases hs
    cases s with
    | nil => cases hh
    | cons a s => exact opens_serString a s
  | list xs => obtain ⟨_, -, rfl⟩ := serValue_list hs; exact ⟨cLBr, _, by decide, by decide⟩
  | dict kvs => obtain ⟨_, -, rfl⟩ := serValue_dict hs; exact ⟨cLBc, _, by decide, by decide⟩

theorem serValue_list_canon {x : JV} {xs : List JV} {f : Bytes}
    (hc : canon (.list (x :: xs)) = true) (hs : serValue (.list (x :: xs)) = some f) :
    ∃ fs, serFrags (x :: xs) = some fs ∧ f = cLBr :: (dotJoin fs ++ [cRBr]) ∧ Opens (dotJoin fs) := by
  obtain ⟨fs, hfs, rfl⟩ := serValue_list hs
  obtain ⟨fx, fs', hfx, -, rfl⟩ := serFrags_cons hfs
  simp only [canon, canonList, Bool.and_eq_true] at hc
  have ho := opens_frag x xs hc.1 hc.2.1 fx hfx
  exact ⟨_, hfs, congrArg (fun m => cLBr :: (m ++ [cRBr])) (joinListFrom_eq_dotJoin fx fs' ho.ne_nil), ho.dotJoin fs'⟩

theorem serValue_dict_canon {kv : Bytes × JV} {kvs : List (Bytes × JV)} {f : Bytes}
    (hc : canon (.dict (kv :: kvs)) = true) (hs : serValue (.dict (kv :: kvs)) = some f) :
    ∃ ps, serPairs (kv :: kvs) = some ps ∧ f = cLBc :: (dotJoin (ps.map entry) ++ [cRBc]) ∧
      Opens (dotJoin (ps.map entry)) := by
  obtain ⟨ps, hps, rfl⟩ := serValue_dict hs
  simp only [canon, Bool.and_eq_true] at hc
  rw [sortPairs_sorted ps (serPairs_sorted _ _ hps hc.1), joinDictFrom_eq]
  obtain ⟨k, v⟩ := kv
  obtain ⟨fv, ps', -, -, rfl⟩ := serPairs_cons hps
  have ho := opens_entry k fv
  exact ⟨_, hps, congrArg (fun m => cLBc :: (m ++ [cRBc])) (joinListFrom_eq_dotJoin _ _ ho.ne_nil),
    ho.dotJoin _⟩

theorem sz_pos : ∀ v : JV, 0 < sz v
  | .list _ | .dict _ => Nat.add_pos_left Nat.one_pos _
  | .null | .bool _ | .num _ | .str _ => Nat.one_pos

theorem entry_length_le (k f : Bytes) : f.length ≤ (entry (k, f)).length := by
  simp [entry]; omega

/-! The arithmetic of the size bounds: `a` is the length of a fragment, `a'` (or `f`) the item it
    is part of, `g :: fs` the rest of the joined list.  An item costs `1 + sz` and may be written in no
    byte at all (`""`), but a separator or the closing bracket follows it: two units per byte, with
    `+ 1` for a value and `+ 2` for the inside of a container; `unser` starts with `2 * bs.length + 2`. -/

theorem szBound_fuel {s r n : Nat} (h : 1 + s + r ≤ n + 1) : s ≤ n ∧ r ≤ n := by
  rw [Nat.add_assoc, Nat.add_comm n] at h
  have h' := Nat.le_of_add_le_add_left h
  exact ⟨Nat.le_trans (Nat.le_add_right s r) h', Nat.le_trans (Nat.le_add_left r s) h'⟩

theorem szBound_bracket {s : Nat} {o c : UInt8} {m : Bytes} (h : s ≤ 2 * m.length + 2) :
    1 + s ≤ 2 * (o :: (m ++ [c])).length + 1 := by
  simp only [List.length_cons, List.length_append, List.length_nil]; omega

theorem szBound_last {s a a' : Nat} (h : s ≤ 2 * a + 1) (ha : a ≤ a') : 1 + s + 0 ≤ 2 * a' + 2 := by
  rw [Nat.add_zero, Nat.add_comm]
  exact Nat.succ_le_succ (Nat.le_trans h (Nat.succ_le_succ (Nat.mul_le_mul_left 2 ha)))

theorem szBound_more {s r a : Nat} {f g : Bytes} {fs : List Bytes} (h : s ≤ 2 * a + 1)
    (ha : a ≤ f.length) (hr : r ≤ 2 * (dotJoin (g :: fs)).length + 2) :
    1 + s + r ≤ 2 * (dotJoin (f :: g :: fs)).length + 2 := by
  rw [dotJoin, List.length_append, List.length_cons, Nat.mul_add, Nat.mul_succ,
    Nat.add_right_comm _ _ 2]
  exact Nat.add_le_add (szBound_last h ha) hr

/-- The three parsers call each other with the fuel lowered by one, so one induction on the fuel
    carries all three statements; the size bounds need the same case analysis and ride along. -/
theorem unser_ok (fuel : Nat) :
    (∀ v f, canon v = true → serValue v = some f → sz v ≤ fuel →
      sz v ≤ 2 * f.length + 1 ∧
      ∀ rest, Term rest → unserValue fuel (f ++ rest) = some (v, rest)) ∧
    (∀ l fs, l ≠ [] → canonList l = true → serFrags l = some fs → szList l ≤ fuel →
      szList l ≤ 2 * (dotJoin fs).length + 2 ∧
      ∀ rest, unserItems fuel (dotJoin fs ++ cRBr :: rest) = some (l, rest)) ∧
    (∀ l ps, l ≠ [] → canonDict l = true → serPairs l = some ps → szDict l ≤ fuel →
      szDict l ≤ 2 * (dotJoin (ps.map entry)).length + 2 ∧
      ∀ rest, unserEntries fuel (dotJoin (ps.map entry) ++ cRBc :: rest) = some (l, rest)) := by
  induction fuel with
  | zero =>
    refine ⟨fun v _ _ _ hf => ?_, fun l _ hne _ _ hf => ?_, fun l _ hne _ _ hf => ?_⟩
    · exact absurd (sz_pos v) (Nat.not_lt.mpr hf)
    · obtain ⟨x, xs, rfl⟩ := List.exists_cons_of_ne_nil hne
      simp [szList] at hf
    · obtain ⟨x, xs, rfl⟩ := List.exists_cons_of_ne_nil hne
      simp [szDict] at hf
  | succ n ih =>
    obtain ⟨ihv, ihl, ihd⟩ := ih
    refine ⟨fun v f hc hs hf => ?_, fun l fs hne hc hs hf => ?_, fun l ps hne hc hs hf => ?_⟩
    · cases v with
      | null => cases hs; exact ⟨by decide, fun rest _ => unserValue_null n rest⟩
      | bool b => cases hc
      | num i => cases hc
      | str s => cases hs; exact ⟨Nat.le_add_left 1 _, fun rest ht => unserValue_str n s rest ht⟩
      | list xs =>
        cases xs with
        | nil => cases hs; exact ⟨by decide, fun rest _ => unserValue_emptyList n rest⟩
        | cons x xs =>
          obtain ⟨fs, hfs, rfl, ho⟩ := serValue_list_canon hc hs
          simp only [canon, Bool.and_eq_true] at hc
          obtain ⟨hsz, hit⟩ := ihl _ fs (List.cons_ne_nil x xs) hc.2 hfs (szBound_fuel (r := 0) hf).1
          refine ⟨szBound_bracket hsz, fun rest _ => ?_⟩
          rw [List.cons_append, List.append_assoc]
          exact unserValue_list (ho.append _) (hit rest)
      | dict kvs =>
        cases kvs with
        | nil => cases hs; exact ⟨by decide, fun rest _ => unserValue_emptyDict n rest⟩
        | cons kv kvs =>
          obtain ⟨ps, hps, rfl, ho⟩ := serValue_dict_canon hc hs
          simp only [canon, Bool.and_eq_true] at hc
          obtain ⟨hsz, hit⟩ := ihd _ ps (List.cons_ne_nil kv kvs) hc.2 hps (szBound_fuel (r := 0) hf).1
          refine ⟨szBound_bracket hsz, fun rest _ => ?_⟩
          rw [List.cons_append, List.append_assoc]
          exact unserValue_dict (ho.append _) (hit rest)
    · obtain ⟨x, xs, rfl⟩ := List.exists_cons_of_ne_nil hne
      obtain ⟨fx, fs', hfx, hfr, rfl⟩ := serFrags_cons hs
      simp only [canonList, Bool.and_eq_true] at hc
      have hf := szBound_fuel hf
      obtain ⟨hsz, hv⟩ := ihv x fx hc.1 hfx hf.1
      cases xs with
      | nil =>
        cases hfr
        exact ⟨szBound_last hsz (Nat.le_refl _), fun rest => unserItems_last (hv _ (.rbr rest))⟩
      | cons y ys =>
        obtain ⟨fy, fs'', -, -, rfl⟩ := serFrags_cons hfr
        obtain ⟨hsz', hit⟩ := ihl _ _ (List.cons_ne_nil y ys) hc.2 hfr hf.2
        refine ⟨szBound_more hsz (Nat.le_refl _) hsz', fun rest => ?_⟩
        rw [dotJoin, List.append_assoc]
        exact unserItems_more (hv _ (.dot _)) (hit rest)
    · obtain ⟨⟨k, v⟩, kvs, rfl⟩ := List.exists_cons_of_ne_nil hne
      obtain ⟨fv, ps', hfv, hpr, rfl⟩ := serPairs_cons hs
      simp only [canonDict, Bool.and_eq_true] at hc
      have hf := szBound_fuel hf
      obtain ⟨hsz, hv⟩ := ihv v fv hc.1 hfv hf.1
      cases kvs with
      | nil =>
        cases hpr
        exact ⟨szBound_last hsz (entry_length_le k fv),
          fun rest => unserEntries_last (hv _ (.rbc rest))⟩
      | cons kv' kvs' =>
        obtain ⟨k', v'⟩ := kv'
        obtain ⟨fv', ps'', -, -, rfl⟩ := serPairs_cons hpr
        obtain ⟨hsz', hit⟩ := ihd _ _ (List.cons_ne_nil (k', v') kvs') hc.2 hpr hf.2
        refine ⟨szBound_more hsz (entry_length_le k fv) hsz', fun rest => ?_⟩
        rw [List.map_cons, List.map_cons, dotJoin, List.append_assoc]
        exact unserEntries_more (hv _ (.dot _)) (hit rest)

theorem items_ok (l : List JV) (hne : l ≠ []) (hc : canonList l = true) (fs : List Bytes)
    (hs : serFrags l = some fs) (fuel : Nat) (rest : Bytes) (hf : szList l ≤ fuel) :
    unserItems fuel (dotJoin fs ++ cRBr :: rest) = some (l, rest) :=
  ((unser_ok fuel).2.1 l fs hne hc hs hf).2 rest

theorem entries_ok (l : List (Bytes × JV)) (hne : l ≠ []) (hc : canonDict l = true)
    (ps : List (Bytes × Bytes)) (hs : serPairs l = some ps) (fuel : Nat) (rest : Bytes)
    (hf : szDict l ≤ fuel) :
    unserEntries fuel (dotJoin (ps.map entry) ++ cRBc :: rest) = some (l, rest) :=
  ((unser_ok fuel).2.2 l ps hne hc hs hf).2 rest

theorem szList_bound (l : List JV) (hne : l ≠ []) (hc : canonList l = true) (fs : List Bytes)
    (hs : serFrags l = some fs) : szList l ≤ 2 * (dotJoin fs).length + 2 :=
  ((unser_ok _).2.1 l fs hne hc hs (Nat.le_refl _)).1

theorem szDict_bound (l : List (Bytes × JV)) (hne : l ≠ []) (hc : canonDict l = true)
    (ps : List (Bytes × Bytes)) (hs : serPairs l = some ps) :
    szDict l ≤ 2 * (dotJoin (ps.map entry)).length + 2 :=
  ((unser_ok _).2.2 l ps hne hc hs (Nat.le_refl _)).1

theorem digit_not_special (d : Nat) (h : d < 10) : isSpecial (UInt8.ofNat (48 + d)) = false := by
  have : ∀ d : Fin 10, isSpecial (UInt8.ofNat (48 + d.val)) = false := by decide
  exact this ⟨d, h⟩

theorem serString_plain (s : Bytes) (h : ∀ b ∈ s, isSpecial b = false) : serString s = s := by
  fun_induction serString s with
  | case1 => rfl
  | case2 b r hb => cases (h b List.mem_cons_self).symm.trans hb
  | case3 b r _ ih => rw [ih fun c hc => h c (List.mem_cons_of_mem _ hc)]

theorem natDecAux_plain (fuel n : Nat) (acc : Bytes) (h : ∀ b ∈ acc, isSpecial b = false) :
    ∀ b ∈ natDecAux fuel n acc, isSpecial b = false := by
  have hd := fun n => digit_not_special (n % 10) (Nat.mod_lt n (by decide))
  fun_induction natDecAux fuel n acc with
  | case1 => exact h
  | case2 => exact List.forall_mem_cons.mpr ⟨hd _, h⟩
  | case3 _ _ _ _ _ ih => exact ih (List.forall_mem_cons.mpr ⟨hd _, h⟩)

theorem intDec_plain (n : Int) : ∀ b ∈ intDec n, isSpecial b = false := by
  have hd := natDecAux_plain (n.natAbs + 1) n.natAbs [] nofun
  fun_cases intDec n with
  | case1 => exact List.forall_mem_cons.mpr ⟨by decide, hd⟩
  | case2 => exact hd

theorem mapPreimage_some {top : Option JV} {p : Bytes} (h : mapPreimage top = some p) :
    ∃ kvs body, top = some (.dict kvs) ∧ serDictTop kvs exclV3 = some body ∧
      p = saltBytes ++ body := by
  revert h
  fun_cases mapPreimage top with
  | case1 kvs body hb => rintro ⟨⟩; exact ⟨kvs, body, rfl, hb, rfl⟩
  | case2 | case3 => nofun

theorem parseV3JSON_false {e : Env} {js : Bytes} {tx : TxV3} (h : parseV3JSON e js false = some tx) :
    ∃ d id, e.um js = some d ∧ (mapPreimage (e.pj js)).map e.H = some id ∧
      (tx = ⟨d, some id, none, false⟩ ∧ id = txID e ⟨d, none, none, false⟩ ∨
        tx = ⟨d, some id, some js, true⟩) := by
  revert h
  fun_cases parseV3JSON e js false with
  | case1 | case3 => nofun
  | case2 _ _ hraw => cases hraw
  | case4 d hd tx0 _ hid => rintro ⟨⟩; exact ⟨d, _, hd, hid, .inl ⟨rfl, rfl⟩⟩
  | case5 d hd tx0 _ id hid => rintro ⟨⟩; exact ⟨d, id, hd, hid, .inr rfl⟩

theorem parseV3JSON_true (e : Env) (js : Bytes) :
    parseV3JSON e js true = (e.um js).map fun d => ⟨d, none, some js, true⟩ := by
  rw [parseV3JSON]
  cases e.um js <;> rfl

theorem newTransactionFromJSON_false {e : Env} {js0 : Bytes} {tx : TxV3}
    (h : newTransactionFromJSON e js0 false = some tx) :
    ∃ js, e.compact js0 = some js ∧ checkV3JSON (e.pj js) = true ∧
      parseV3JSON e js false = some tx := by
  revert h
  fun_cases newTransactionFromJSON e js0 false with
  | case1 | case3 => nofun
  | case2 js hjs hchk => exact fun hp => ⟨js, hjs, hchk, hp⟩

theorem newTransaction_binary (e : Env) {b : Bytes} {d : TxData} (h : decodeTx b = some d)
    (hv : d.version = 3) : newTransaction e b = some ⟨d, none, some b, false⟩ := by
  -- `decodeTx` fails on the first two paths: no input, or a first byte `{` = 0x7b < 0xc0, which heads no list
  fun_cases newTransaction e b with
  | case1 => simp [decodeTx, rlpReadList] at h
  | case2 r => simp [decodeTx, rlpReadList, cLBc] at h
  | case3 c r hc => simp only [parseV3Binary, h]; rw [if_neg (fun h => h hv)]

theorem binary_roundtrip (e : Env) (js0 : Bytes) (tx : TxV3)
    (h : newTransactionFromJSON e js0 false = some tx)
    (hbrace : ∀ js, e.compact js0 = some js → ∃ r, js = cLBc :: r)
    (hcodec : ∀ b, encodeTx tx.d = some b → decodeTx b = some tx.d)
    (hver : tx.d.version = 3)
    (b : Bytes) (hb : txBytes tx = some b) :
    ∃ tx', reparse e tx = some tx' ∧ tx'.d = tx.d ∧ txID e tx' = txID e tx ∧
      txBytes tx' = some b ∧ reparse e tx' = some tx' := by
  obtain ⟨js, hjs, hchk, hp⟩ := newTransactionFromJSON_false h
  obtain ⟨d, id, hd, hid, ⟨rfl, heq⟩ | rfl⟩ := parseV3JSON_false hp
  · -- struct hash agrees: binary form
    have hnew := newTransaction_binary e (hcodec b hb) hver
    refine ⟨⟨d, none, some b, false⟩, ?_, rfl, ?_, rfl, hnew⟩
    · rw [reparse, hb]; exact hnew
    · simp only [txID, calcHash, Bool.false_eq_true, if_false]; rw [heq]; rfl
  · -- raw fallback: the JSON text is the stored form
    obtain rfl : js = b := Option.some.inj hb
    obtain ⟨r, rfl⟩ := hbrace js hjs
    have hnew : newTransaction e (cLBc :: r) = some ⟨d, none, some (cLBc :: r), true⟩ := by
      simp [newTransaction, newTransactionFromJSON, hchk, parseV3JSON_true, hd]
    refine ⟨_, hnew, rfl, ?_, rfl, hnew⟩
    simp only [txID, calcHash, mapHash, if_true, Option.getD_some, hid]

theorem reparseN_fix (e : Env) (tx' : TxV3) (h2 : reparse e tx' = some tx') (n : Nat) :
    reparseN e n tx' = some tx' := by
  induction n with
  | zero => rfl
  | succ n ih => simp [reparseN, h2, ih]

/-- the two model copies of `natBytesAux` are one term -/
theorem natBytesAux_eq_c24 (f v : Nat) (acc : Bytes) : natBytesAux f v acc = C24.natBytesAux f v acc := by
  delta natBytesAux C24.natBytesAux; rfl

theorem sizeBytes_spec (n : Nat) (h : n < 2 ^ 64) :
    beNat (sizeBytes n) = n ∧ 1 ≤ (sizeBytes n).length ∧ (sizeBytes n).length ≤ 8 := by
  fun_cases sizeBytes n with
  | case1 hn => subst hn; exact ⟨rfl, Nat.le_refl 1, by decide⟩
  | case2 hn =>
    obtain ⟨b, r, he, -, hv, hlo, -⟩ := C24.Proofs.natBytes_cons hn
    rw [natBytes, natBytesAux_eq_c24, ← C24.natBytes, he]
    exact ⟨hv, Nat.succ_le_succ (Nat.zero_le _), lt_of_pow256 hlo (show n < 256 ^ 8 from h)⟩

theorem rlpReadItem_single (t : UInt8) (r : Bytes) (h : t.toNat < 0x80) :
    rlpReadItem (t :: r) = some (some [t], r) := by
  simp only [rlpReadItem, h, ↓reduceIte]

theorem rlpReadItem_short (t : UInt8) (b rest : Bytes) (h : t.toNat = 0x80 + b.length)
    (hl : b.length ≤ 55) : rlpReadItem (t :: (b ++ rest)) = some (some b, rest) := by
  have h1 : ¬ (0x80 + b.length < 0x80) := not_add_lt _
  have h2 : 0x80 + b.length ≤ 0xb7 := Nat.add_le_add_left hl 0x80
  simp only [rlpReadItem, h, h1, h2, ↓reduceIte, Nat.add_sub_cancel_left,
    not_length_append_lt, List.take_left',
    List.drop_left']

theorem rlpReadItem_long (t : UInt8) (sz b rest : Bytes) (h : t.toNat = 0xb7 + sz.length)
    (h1 : 1 ≤ sz.length) (h8 : sz.length ≤ 8) (hn : beNat sz = b.length) :
    rlpReadItem (t :: (sz ++ (b ++ rest))) = some (some b, rest) := by
  have e1 : ¬ (0xb7 + sz.length < 0x80) := not_add_lt _
  have e2 : ¬ (0xb7 + sz.length ≤ 0xb7) := Nat.not_le.mpr (Nat.lt_add_of_pos_right h1)
  have e3 : 0xb7 + sz.length < 0xc0 := add_lt_of_le h8
  simp only [rlpReadItem, h, e1, e2, e3, ↓reduceIte, Nat.add_sub_cancel_left,
    not_length_append_lt, List.take_left', List.drop_left', hn]

theorem rlpReadList_short (t : UInt8) (p : Bytes) (h : t.toNat = 0xc0 + p.length)
    (hl : p.length ≤ 55) : rlpReadList (t :: p) = some (p, []) := by
  have h1 : ¬ (0xc0 + p.length < 0xc0) := not_add_lt _
  have h2 : 0xc0 + p.length ≤ 0xf7 := Nat.add_le_add_left hl 0xc0
  simp only [rlpReadList, h, h1, h2, ↓reduceIte, Nat.add_sub_cancel_left, Nat.lt_irrefl,
    List.take_length, List.drop_length]

theorem rlpReadList_long (t : UInt8) (sz p : Bytes) (h : t.toNat = 0xf7 + sz.length)
    (h1 : 1 ≤ sz.length) (hn : beNat sz = p.length) (hp : p.length ≠ 0) :
    rlpReadList (t :: (sz ++ p)) = some (p, []) := by
  have e1 : ¬ (0xf7 + sz.length < 0xc0) := not_add_lt _
  have e2 : ¬ (0xf7 + sz.length ≤ 0xf7) := Nat.not_le.mpr (Nat.lt_add_of_pos_right h1)
  have e5 : ¬ (sz.length = 1 ∧ p.length = 0) := fun h => hp h.2
  simp only [rlpReadList, h, e1, e2, ↓reduceIte, Nat.add_sub_cancel_left,
    not_length_append_lt, List.take_left', List.drop_left', hn, e5, Nat.lt_irrefl, List.take_length, List.drop_length]

theorem rlpReadItem_null (rest : Bytes) : rlpReadItem (rlpNull ++ rest) = some (none, rest) := rfl

theorem rlpReadItem_bytes (b rest : Bytes) (h : b.length < 2 ^ 64) :
    rlpReadItem (rlpBytes b ++ rest) = some (some b, rest) := by
  obtain ⟨kn, k1, k8⟩ := sizeBytes_spec _ h
  fun_cases rlpBytes b with
  | case1 => exact rlpReadItem_short 0x80 [] rest rfl (by decide)
  | case2 x hx => exact rlpReadItem_single x rest hx
  | case3 x hx => exact rlpReadItem_short 0x81 [x] rest rfl (by simp)
  | case4 b hl =>
    -- the `if` of the catch-all arm is kept by the principle (its branches mention `b`)
    rw [if_pos hl]
    exact rlpReadItem_short _ b rest (UInt8.toNat_ofNat_of_lt' (add_lt_of_le hl)) hl
  | case5 b hl =>
    rw [if_neg hl, List.cons_append, List.append_assoc]
    exact rlpReadItem_long _ _ b rest (UInt8.toNat_ofNat_of_lt' (add_lt_of_le k8)) k1 k8 kn

theorem rlpReadItem_opt (o : Option Bytes) (rest : Bytes)
    (h : ∀ b, o = some b → b.length < 2 ^ 64) :
    rlpReadItem (rlpOpt o ++ rest) = some (o, rest) := by
  cases o with
  | none => exact rlpReadItem_null rest
  | some b => exact rlpReadItem_bytes b rest (h b rfl)

theorem rlpReadItems_flatMap (items : List (Option Bytes))
    (h : ∀ o ∈ items, ∀ b, o = some b → b.length < 2 ^ 64) :
    rlpReadItems items.length (items.flatMap rlpOpt) = some items := by
  induction items with
  | nil => simp [rlpReadItems]
  | cons o items ih =>
    simp only [List.flatMap_cons, List.length_cons, rlpReadItems]
    rw [rlpReadItem_opt o _ (h o List.mem_cons_self)]
    simp only
    rw [ih (fun o' ho' => h o' (List.mem_cons_of_mem _ ho'))]

theorem rlpReadList_list (payload : Bytes) (h : payload.length < 2 ^ 64) :
    rlpReadList (rlpList payload) = some (payload, []) := by
  obtain ⟨kn, k1, k8⟩ := sizeBytes_spec _ h
  fun_cases rlpList payload with
  | case1 h0 => rw [List.eq_nil_of_length_eq_zero h0]; exact rlpReadList_short 0xc0 [] rfl (Nat.zero_le _)
  | case2 _ hl => exact rlpReadList_short _ payload (UInt8.toNat_ofNat_of_lt' (add_lt_of_le hl)) hl
  | case3 h0 _ => exact rlpReadList_long _ _ payload (UInt8.toNat_ofNat_of_lt' (add_lt_of_le k8)) k1 kn h0

/-- well-formedness of the fields as far as the byte codec is concerned.  The integer clauses
    are instances of property C24 (integer byte encodings are invertible); they are hypotheses
    here. -/
structure WFTx (d : TxData) : Prop where
  ver : d.version = 3
  from21 : addrOfBytes d.from_ = some d.from_
  to21 : addrOfBytes d.to = some d.to
  sig : d.signature.length = 0 ∨ d.signature.length = 65
  value : ∀ v, d.value = some v → bigIntSetBytes (bigIntToBytes v) = v
  step : bigIntSetBytes (bigIntToBytes d.stepLimit) = d.stepLimit
  ts : safeBytesToInt64 (int64ToBytes d.timestamp) = some d.timestamp
  nid : ∀ v, d.nid = some v → safeBytesToInt64 (int64ToBytes v) = some v
  nonce : ∀ v, d.nonce = some v → bigIntSetBytes (bigIntToBytes v) = v
  small : ∀ o ∈ txItems d, ∀ b, o = some b → b.length < 2 ^ 64
  smallPayload : ((txItems d).flatMap rlpOpt).length < 2 ^ 64

theorem map_map_id {α β : Type} {g : β → α} {f : α → β} (o : Option α) (h : ∀ v, o = some v → g (f v) = v) :
    (o.map f).map g = o := by
  cases o with
  | none => rfl
  | some v => exact congrArg some (h v rfl)

theorem codec_roundtrip (d : TxData) (wf : WFTx d) (b : Bytes) (h : encodeTx d = some b) :
    decodeTx b = some d := by
  have hs : d.signature.length ≠ 64 := by have := wf.sig; omega
  rw [encodeTx, if_neg hs] at h
  obtain rfl := Option.some.inj h
  have hit : rlpReadItems 11 _ = _ := rlpReadItems_flatMap (txItems d) wf.small
  have hsig : ¬ (d.signature.length ≠ 0 ∧ d.signature.length ≠ 64 ∧ d.signature.length ≠ 65) :=
    fun h => wf.sig.elim h.1 h.2.2
  have hv : safeBytesToUint64 (int64ToBytes d.version) = some d.version := by rw [wf.ver]; rfl
  have hver : ¬ (d.version ≥ 65536) := by rw [wf.ver]; decide
  rw [decodeTx, rlpReadList_list _ wf.smallPayload]
  dsimp only
  rw [hit]
  simp only [txItems, hv, wf.from21, wf.to21, wf.ts, if_neg hsig, map_map_id _ wf.value,
    map_map_id _ wf.nonce, wf.step]
  -- the inner `match nid with` in the scrutinee of `decodeTx` reduces only once `d.nid` is a constructor;
  -- `← hn` then puts `d.nid` back, so that the record is `d` again
  cases hn : d.nid with
  | none => simp only [Option.map, if_neg hver]; rw [← hn]
  | some v => simp only [Option.map, wf.nid v hn, if_neg hver]; rw [← hn]

end Goloop.C12.Proofs
