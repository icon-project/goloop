/-
  Proofs/C01Hist — "`P past x` at every position of a list": a condition on each element and what precedes
  it.  The invariant of the soup of L-sys (Proofs/C01Sys) and the `Guarantees` of L-abs (Proofs/C01Abs) are of
  this form.  Such a fact is extended by checking the new elements only, and carried through a `filterMap`
  (signed messages → votes → votes of one height).
-/
namespace Goloop.C01

def Hist {α : Type} (P : List α → α → Prop) (l : List α) : Prop :=
  ∀ pre x post, l = pre ++ x :: post → P pre x

variable {α β : Type} {P : List α → α → Prop}

theorem Hist.nil : Hist P [] := fun pre _ _ h => by cases pre <;> cases h

theorem hist_append {l l' : List α} : Hist P (l ++ l') ↔ Hist P l ∧ Hist (fun pre => P (l ++ pre)) l' := by
  refine ⟨fun h => ⟨fun pre x post hd => h pre x (post ++ l') (by rw [hd, List.append_assoc]; rfl),
    fun pre x post hd => h (l ++ pre) x post (by rw [hd, List.append_assoc])⟩, fun ⟨h1, h2⟩ pre x post hd => ?_⟩
  rcases List.append_eq_append_iff.mp hd with ⟨a, rfl, h⟩ | ⟨c, rfl, h⟩
  · exact h2 a x post h
  · cases c with
    | nil => have := h2 [] x post h.symm; rwa [List.append_nil, List.append_nil] at this
    | cons c cs => cases h; exact h1 pre x cs rfl

theorem Hist.snoc {l : List α} {x : α} (h : Hist P l) (hx : P l x) : Hist P (l ++ [x]) :=
  hist_append.mpr ⟨h, fun pre y post hd => by
    cases pre with
    | nil => cases hd; rw [List.append_nil]; exact hx
    | cons _ t => cases t <;> cases hd⟩

theorem Hist.filterMap {Q : List β → β → Prop} (f : α → Option β) {l : List α} (h : Hist P l)
    (hPQ : ∀ pre x y, f x = some y → P pre x → Q (pre.filterMap f) y) : Hist Q (l.filterMap f) := by
  intro pre y post hd
  -- a split of the image comes from a split of the list: `y` is the image of some `a`, nothing between `l1` and `a` has one
  obtain ⟨l1, l2, rfl, rfl, h2⟩ := List.filterMap_eq_append_iff.mp hd
  obtain ⟨l3, a, l4, rfl, h3, h4, _⟩ := List.filterMap_eq_cons_iff.mp h2
  have := hPQ (l1 ++ l3) a y h4 (h (l1 ++ l3) a l4 (List.append_assoc ..).symm)
  rwa [List.filterMap_append, List.filterMap_eq_nil_iff.mpr h3, List.append_nil] at this

/-- the history at time `t` holds what stands at the positions below `t` -/
theorem mem_take_iff {l : List α} {t : Nat} {x : α} : x ∈ l.take t ↔ ∃ s, s < t ∧ l[s]? = some x := by
  simp only [List.mem_iff_getElem?, List.getElem?_take, Option.ite_none_right_eq_some]

theorem Hist.getElem? {l : List α} (h : Hist P l) {t : Nat} {x : α} (ht : l[t]? = some x) : P (l.take t) x := by
  obtain ⟨ht', he⟩ := List.getElem?_eq_some_iff.mp ht
  exact h _ x (l.drop (t + 1)) (by rw [← he, ← List.drop_eq_getElem_cons ht', List.take_append_drop])

end Goloop.C01
