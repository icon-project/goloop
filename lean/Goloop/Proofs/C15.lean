/-
  Proofs/C15: lemmas for C15 (conservation) and C16 (rollback).
  `Good` is what every frame guarantees to its caller.  `doTransfer`, `topFrame` and `doExecute` are taken
  apart once each, under an arbitrary predicate (`*_cases`), and `settle_shape` says what `settle` makes of
  a `Good` frame; what C15 and C16 say of a transaction and of a block is read off those.
-/
import Goloop.Model.C15
import Goloop.Base.Cases
import Goloop.Base.IntSum
namespace Goloop.C15.Proofs
open Goloop.C15

theorem total_setBal {n} (w : World n) (a : Fin n) (v : Int) :
    total (w.setBal a v) = total w - w.bal a + v :=
  (sum_map_update _ (List.nodup_finRange n) (List.mem_finRange a) w.bal _ fun _ hx => if_neg hx).trans
    (congrArg (total w - w.bal a + ·) (if_pos rfl))

theorem total_setStore {n} (w : World n) (a : Fin n) (k v : Nat) :
    total (w.setStore a k v) = total w := rfl

theorem total_setGraph {n} (w : World n) (a : Fin n) (g : Option Graph) : total (w.setGraph a g) = total w := rfl

theorem bal_setBal_self {n} (w : World n) (a : Fin n) (v : Int) : (w.setBal a v).bal a = v := if_pos rfl

theorem bal_setBal_of_ne {n} (w : World n) {a x : Fin n} (v : Int) (h : x ≠ a) :
    (w.setBal a v).bal x = w.bal x := if_neg h

def NonNeg {n} (w : World n) : Prop := ∀ a, 0 ≤ w.bal a

theorem nonneg_setBal {n} {w : World n} (h : NonNeg w) (a : Fin n) {v : Int} (hv : 0 ≤ v) :
    NonNeg (w.setBal a v) :=
  fun x => ite_both (0 ≤ ·) hv (h x)

theorem nonneg_setStore {n} {w : World n} (h : NonNeg w) (a : Fin n) (k v : Nat) :
    NonNeg (w.setStore a k v) := h

def Keeps {n} (w w' : World n) : Prop := total w' = total w ∧ (NonNeg w → NonNeg w')

theorem Keeps.refl {n} (w : World n) : Keeps w w := ⟨rfl, id⟩

theorem Keeps.trans {n} {w w' w'' : World n} (h : Keeps w w') (h' : Keeps w' w'') : Keeps w w'' :=
  ⟨h'.1.trans h.1, fun hn => h'.2 (h.2 hn)⟩

theorem keeps_setStore {n} (w : World n) (a : Fin n) (k v : Nat) : Keeps w (w.setStore a k v) :=
  ⟨total_setStore w a k v, fun h => nonneg_setStore h a k v⟩

theorem keeps_setGraph {n} (w : World n) (a : Fin n) (g : Option Graph) : Keeps w (w.setGraph a g) :=
  ⟨total_setGraph w a g, id⟩

/-- `w` after `v` has been debited from `f` and then credited to `t` (which may be `f` itself) -/
def moved {n} (w : World n) (f t : Fin n) (v : Int) : World n :=
  (w.setBal f (w.bal f - v)).setBal t ((w.setBal f (w.bal f - v)).bal t + v)

theorem keeps_moved {n} (w : World n) (f t : Fin n) {v : Int} (hv : 0 ≤ v) (hb : v ≤ w.bal f) :
    Keeps w (moved w f t v) := by
  refine ⟨?_, fun hn => ?_⟩
  · rw [moved, total_setBal, total_setBal]; omega
  · have h1 : NonNeg (w.setBal f (w.bal f - v)) := nonneg_setBal hn f (Int.sub_nonneg_of_le hb)
    exact nonneg_setBal h1 t (Int.add_nonneg (h1 t) hv)

theorem deduct_le (used limit s : Nat) : (deduct used limit s).1 ≤ limit :=
  ite_pred (fun o : Nat × Bool => o.1 ≤ limit) _ _ _ (fun _ => Nat.le_refl _) (fun hs => Nat.le_of_not_gt hs)

theorem doTransfer_cases {n} (cfg : Cfg n) (w : World n) (f t : Fin n) (v : Int) (P : Nat × World n → Prop)
    (hfail : ∀ st w', st ≠ 0 → P (st, w'))
    (hok : 0 ≤ v → v ≤ w.bal f → P (0, moved w f t v)) :
    P (doTransfer cfg w f t v) := by
  fun_cases doTransfer cfg w f t v with
  | case5 _ hv hb => exact hok (Int.not_lt.mp hv) (Int.not_lt.mp hb)
  | _ => exact hfail _ _ (by decide)

theorem doTransfer_keeps {n} (cfg : Cfg n) (w : World n) (f t : Fin n) (v : Int) :
    (doTransfer cfg w f t v).1 = 0 → Keeps w (doTransfer cfg w f t v).2 :=
  doTransfer_cases cfg w f t v (fun o => o.1 = 0 → Keeps w o.2) (fun _ _ hne h => absurd h hne)
    (fun hv hb _ => keeps_moved w f t hv hb)

/-- what every frame guarantees to its caller -/
structure Good {n} (w0 : World n) (r : FrameOut n) : Prop where
  total : total r.w = total w0
  nonneg : NonNeg w0 → NonNeg r.w
  rollback : r.status ≠ 0 → r.w = w0 ∧ r.logs = [] ∧ r.btp = 0

variable {n : Nat} (cfg : Cfg n)

theorem Good.keeps {w0 : World n} {r : FrameOut n} (g : Good w0 r) : Keeps w0 r.w := ⟨g.total, g.nonneg⟩

theorem good_fail (w0 : World n) (st used : Nat) : Good w0 ⟨st, w0, [], 0, used⟩ :=
  ⟨rfl, id, fun _ => ⟨rfl, rfl, rfl⟩⟩

theorem closeFrame_of_ne {w0 w : World n} {st : Nat} {logs : List Nat} {btp used : Nat} (h : st ≠ 0) :
    closeFrame w0 st w logs btp used = ⟨st, w0, [], 0, used⟩ := if_neg h

theorem good_close {w0 w : World n} {st : Nat} {logs : List Nat} {btp used : Nat}
    (h : st = 0 → Keeps w0 w) : Good w0 (closeFrame w0 st w logs btp used) :=
  ite_pred (Good w0) _ _ _ (fun h0 => ⟨(h h0).1, (h h0).2, fun hne => absurd rfl hne⟩)
    (fun _ => good_fail w0 st used)

theorem good_xferFrame (w0 : World n) (f t : Fin n) (v : Int) (limit : Nat) :
    Good w0 (xferFrame cfg w0 f t v limit) := by
  unfold xferFrame
  dsimp only []
  exact ite_both (Good w0) (good_close (fun h => absurd h (by decide)))
    (good_close (doTransfer_keeps cfg w0 f t v))

theorem runOps_keeps (callF : (frm to : Fin n) → Int → List (Op n) → World n → Nat → FrameOut n)
    (hc : ∀ f t v b w l, Keeps w (callF f t v b w l).w) (self : Fin n) (limit : Nat) (ops : List (Op n)) :
    ∀ w logs btp used, Keeps w (runOps cfg callF self limit ops w logs btp used).w := by
  intro w logs btp used
  -- the paths of `runOps`: 1 `[]`; 2–5 setv, setg, emit, btp; 6, 7 burn within / beyond the limit; 8, 9 xfer and
  -- 10, 11 call, where the failure is passed on / the program goes on; 12 fail; 13 timeout
  fun_induction runOps cfg callF self limit ops w logs btp used
  case case1 | case7 | case12 | case13 => exact Keeps.refl _
  case case2 ih => exact (keeps_setStore _ _ _ _).trans ih
  case case3 ih => exact (ite_both (Keeps _) (keeps_setGraph _ _ _) (Keeps.refl _)).trans ih
  case case4 ih | case5 ih | case6 ih => exact ih
  case case8 => exact (good_xferFrame ..).keeps
  case case9 ih => exact (good_xferFrame ..).keeps.trans ih
  case case10 => exact hc ..
  case case11 ih => exact (hc ..).trans ih

theorem good_scriptFrame (fuel : Nat) :
    ∀ inter f self v ops w0 limit, Good w0 (scriptFrame cfg fuel inter f self v ops w0 limit) := by
  intro inter f self v ops w0 limit
  -- the paths of `scriptFrame`: 1 no fuel; 2 the call step is beyond the limit; 3 the initial transfer fails; 4 the body runs
  fun_induction scriptFrame cfg fuel inter f self v ops w0 limit
  case case1 => exact good_fail _ _ _
  case case2 => exact good_close (fun h => absurd h (by decide))
  case case3 hst => exact good_close (fun h => absurd h hst)
  case case4 w0 _ _ _ _ _ st w hq hst r ih =>
    -- `(st, w)`: the status of the initial transfer and the world the body starts from
    have hk : (st, w).1 = 0 → Keeps w0 (st, w).2 :=
      hq ▸ ite_pred (fun o : Nat × World n => o.1 = 0 → Keeps w0 o.2) _ _ _
        (fun _ => doTransfer_keeps _ _ _ _ _) (fun _ _ => Keeps.refl w0)
    exact good_close fun _ => (hk (Decidable.not_not.mp hst)).trans
      (runOps_keeps cfg _ (fun f t v b w l => (ih f t v b w l).keeps) ..)

variable (fuel : Nat) (wInit w : World n) (tx : Tx n)

/-- A transfer to a contract address always ends in `hfail`: there is no contract to call. -/
theorem topFrame_cases (limit : Nat) (P : FrameOut n → Prop)
    (hcall : ∀ prog, tx.kind = .call prog → P (scriptFrame cfg fuel false tx.frm tx.to tx.value prog w limit))
    (hfail : ∀ st used, st ≠ 0 → P ⟨st, w, [], 0, used⟩)
    (hplain : 0 ≤ tx.value → tx.value ≤ w.bal tx.frm →
      P ⟨0, moved w tx.frm tx.to tx.value, xferLogs cfg tx.frm tx.value, 0, 0⟩) :
    P (topFrame cfg fuel tx w limit) := by
  have hcf : ∀ st w' logs used, st ≠ 0 → P (closeFrame w st w' logs 0 used) :=
    fun st w' logs used h => closeFrame_of_ne h ▸ hfail st used h
  unfold topFrame
  cases hk : tx.kind with
  | call prog => exact hcall prog hk
  | _ =>
    refine ite_both P ?_ ?_
    · exact hcf _ _ _ _ (ite_pred (· ≠ 0) _ _ _ (fun _ => ite_pred (· ≠ 0) _ _ _ (fun _ => by decide) id)
        (fun _ => by decide))
    · exact doTransfer_cases cfg w tx.frm tx.to tx.value
        (fun o => P (closeFrame w o.1 o.2 (xferLogs cfg tx.frm tx.value) 0 0))
        (fun _ _ h => hcf _ _ _ _ h) hplain

theorem good_topFrame (limit : Nat) : Good w (topFrame cfg fuel tx w limit) :=
  topFrame_cases cfg fuel w tx limit (Good w)
    (fun _ _ => good_scriptFrame cfg fuel _ _ _ _ _ _ _)
    (fun st used _ => good_fail w st used)
    (fun hv hb => good_close (st := 0) fun _ => keeps_moved w _ _ hv hb)

/-- `htop` says nothing of `limit` and `used` but `used ≤ clipLimit`: no user needs to know which they are. -/
theorem doExecute_cases (P : FrameOut n → Prop)
    (hfail : ∀ st used, st ≠ 0 → used ≤ clipLimit cfg tx → P ⟨st, w, [], 0, used⟩)
    (htop : ∀ limit used, used ≤ clipLimit cfg tx → P { topFrame cfg fuel tx w limit with used := used }) :
    P (doExecute cfg fuel wInit w tx) := by
  unfold doExecute
  dsimp only []
  refine ite_both P (hfail _ _ (by decide) (Nat.zero_le _)) ?_
  refine ite_both P (hfail _ _ (by decide) (deduct_le _ _ _)) ?_
  refine ite_both P (hfail _ _ (by decide) (deduct_le _ _ _)) ?_
  exact htop _ _ (ite_both (· ≤ clipLimit cfg tx) (Nat.le_refl _) (deduct_le _ _ _))

theorem good_doExecute : Good w (doExecute cfg fuel wInit w tx) :=
  doExecute_cases cfg fuel wInit w tx (Good w) (fun st used _ _ => good_fail w st used)
    -- the frame is `topFrame`'s with another `used`, which `Good` does not mention: the fields are the same propositions
    (fun limit _ _ => let g := good_topFrame cfg fuel w tx limit; ⟨g.total, g.nonneg, g.rollback⟩)

theorem clipLimit_eq_min : clipLimit cfg tx = min tx.limit cfg.invoke :=
  ite_pred (· = min tx.limit cfg.invoke) _ _ _ (fun h => (Nat.min_eq_right (Nat.le_of_lt h)).symm)
    (fun h => (Nat.min_eq_left (Nat.le_of_not_lt h)).symm)

theorem doExecute_used_le : (doExecute cfg fuel wInit w tx).used ≤ min tx.limit cfg.invoke :=
  clipLimit_eq_min cfg tx ▸
    doExecute_cases cfg fuel wInit w tx (·.used ≤ clipLimit cfg tx) (fun _ _ _ h => h) (fun _ _ h => h)

theorem doExecute_transfer_ok (hk : ∀ p, tx.kind ≠ .call p) :
    (doExecute cfg fuel wInit w tx).status = 0 →
      0 ≤ tx.value ∧ (doExecute cfg fuel wInit w tx).w = moved w tx.frm tx.to tx.value :=
  doExecute_cases cfg fuel wInit w tx (fun o => o.status = 0 → 0 ≤ tx.value ∧ o.w = _)
    (fun _ _ hne _ h => absurd h hne) fun limit _ _ =>
    topFrame_cases cfg fuel w tx limit (fun o => o.status = 0 → 0 ≤ tx.value ∧ o.w = _)
      (fun p hp => absurd hp (hk p)) (fun _ _ hne h => absurd h hne) (fun hv _ _ => ⟨hv, rfl⟩)

/-- `wB` is the world that gets charged: DoExecute's if the receipt reports success, else the snapshot
    `w` from before the transaction (rolled back by the failing frame, or by `Execute` before it retries). -/
theorem settle_shape {w : World n} (frm : Fin n) {r : FrameOut n} (g : Good w r) :
    ∃ (st : Nat) (wB : World n) (su p : Nat),
      settle cfg w frm r =
        (⟨st, su, p, if st = 0 then r.logs else [], if st = 0 then r.btp else 0⟩,
          wB.setBal frm (wB.bal frm - (su : Int) * p)) ∧
      wB = (if st = 0 then r.w else w) ∧ (st = 0 → r.status = 0) ∧
      (0 ≤ wB.bal frm → (su : Int) * p ≤ wB.bal frm) ∧
      (cfg.legacyFee = true ∧ su = 0 ∨ su = max cfg.dflt r.used) ∧
      (p = cfg.price ∨ p = 0) := by
  -- with DoExecute's own status the frame's world is already the closed one
  have hr : r.w = if r.status = 0 then r.w else w :=
    ite_pred (r.w = ·) _ _ _ (fun _ => rfl) (fun h => (g.rollback h).1)
  fun_cases settle cfg w frm r with
  | case1 su fee bal st wB su' p heq =>
    refine ⟨st, wB, su', p, rfl, ?_⟩
    have hmax : su = max cfg.dflt r.used :=
      ite_pred (· = max cfg.dflt r.used) _ _ _ (fun h => (Nat.max_eq_left (Nat.le_of_lt h)).symm)
        (fun h => (Nat.max_eq_right (Nat.le_of_not_lt h)).symm)
    rw [← hmax]
    revert heq
    -- down the `if` tree: `h1` the balance is short of the fee, `h2` legacy fee rule, `h3` DoExecute succeeded,
    -- `h4` the balance before the transaction is short as well
    refine ite_pred (· = _ → _) _ _ _ (fun h1 => ?_) fun h1 => ?_
    · refine ite_pred (· = _ → _) _ _ _ (fun h2 => ?_) fun h2 => ?_
      · rintro ⟨⟩; exact ⟨hr, id, fun h => (Int.zero_mul _).symm ▸ h, .inl ⟨h2, rfl⟩, .inl rfl⟩
      · refine ite_pred (· = _ → _) _ _ _ (fun h3 => ?_) fun h3 => ?_
        · refine ite_pred (· = _ → _) _ _ _ (fun h4 => ?_) fun h4 => ?_
          · rintro ⟨⟩; exact ⟨rfl, nofun, fun h => (Int.mul_zero _).symm ▸ h, .inr rfl, .inr rfl⟩
          · rintro ⟨⟩; exact ⟨rfl, nofun, fun _ => Int.not_lt.mp h4, .inr rfl, .inl rfl⟩
        · rintro ⟨⟩
          exact ⟨(g.rollback h3).1, nofun, fun h => (Int.mul_zero _).symm ▸ h, .inr rfl, .inr rfl⟩
    · rintro ⟨⟩; exact ⟨hr, id, fun _ => Int.not_lt.mp h1, .inr rfl, .inl rfl⟩

theorem execTx_spec :
    total (execTx cfg fuel wInit w tx).2 =
      total w - ((execTx cfg fuel wInit w tx).1.stepUsed : Int) * (execTx cfg fuel wInit w tx).1.stepPrice ∧
    (NonNeg w → NonNeg (execTx cfg fuel wInit w tx).2) := by
  have g := good_doExecute cfg fuel wInit w tx
  obtain ⟨st, wB, su, p, he, hw, -, hfee, -, -⟩ := settle_shape cfg tx.frm g
  have hk : Keeps w wB := hw ▸ ite_both (Keeps w) g.keeps (Keeps.refl w)
  rw [execTx, he]
  refine ⟨?_, fun hn => nonneg_setBal (hk.2 hn) tx.frm ?_⟩
  · dsimp only; rw [total_setBal, hk.1]; omega
  · exact Int.sub_nonneg_of_le (hfee (hk.2 hn tx.frm))

theorem execTx_failed (hf : (execTx cfg fuel wInit w tx).1.status ≠ 0) :
    (execTx cfg fuel wInit w tx).2 = w.setBal tx.frm (w.bal tx.frm -
      ((execTx cfg fuel wInit w tx).1.stepUsed : Int) * (execTx cfg fuel wInit w tx).1.stepPrice) ∧
    (execTx cfg fuel wInit w tx).1.logs = [] ∧ (execTx cfg fuel wInit w tx).1.btp = 0 := by
  obtain ⟨st, wB, su, p, he, hw, -, -, -, -⟩ := settle_shape cfg tx.frm (good_doExecute cfg fuel wInit w tx)
  rw [execTx, he] at hf ⊢
  exact ⟨hw.trans (if_neg hf) ▸ rfl, if_neg hf, if_neg hf⟩

theorem execTx_transfer (hk : ∀ p, tx.kind ≠ .call p) (hs : (execTx cfg fuel wInit w tx).1.status = 0) :
    0 ≤ tx.value ∧
    (execTx cfg fuel wInit w tx).2 = (moved w tx.frm tx.to tx.value).setBal tx.frm
      ((moved w tx.frm tx.to tx.value).bal tx.frm -
        ((execTx cfg fuel wInit w tx).1.stepUsed : Int) * (execTx cfg fuel wInit w tx).1.stepPrice) := by
  obtain ⟨st, wB, su, p, he, hw, hst, -, -, -⟩ := settle_shape cfg tx.frm (good_doExecute cfg fuel wInit w tx)
  rw [execTx, he] at hs ⊢
  obtain ⟨hv, ht⟩ := doExecute_transfer_ok cfg fuel wInit w tx hk (hst hs)
  exact ⟨hv, ht ▸ hw.trans (if_pos hs) ▸ rfl⟩

theorem gatheredFee_nonneg (rs : List Receipt) : 0 ≤ gatheredFee rs := by
  induction rs with
  | nil => exact Int.le_refl 0
  | cons r rs ih =>
    exact Int.add_nonneg (Int.mul_nonneg (Int.natCast_nonneg _) (Int.natCast_nonneg _)) ih

theorem execTxs_spec (txs : List (Tx n)) :
    ∀ w, total (execTxs cfg fuel wInit w txs).2 = total w - gatheredFee (execTxs cfg fuel wInit w txs).1 ∧
      (NonNeg w → NonNeg (execTxs cfg fuel wInit w txs).2) := by
  induction txs with
  | nil => intro w; exact ⟨(Int.sub_zero _).symm, id⟩
  | cons tx rest ih =>
    intro w
    simp only [execTxs, gatheredFee]
    have h1 := execTx_spec cfg fuel wInit w tx
    have h2 := ih (execTx cfg fuel wInit w tx).2
    refine ⟨?_, fun hn => h2.2 (h1.2 hn)⟩
    rw [h2.1, h1.1, Int.sub_sub]

theorem execBlock_spec (txs : List (Tx n)) (rs : List Receipt) (w' : World n) (h : execBlock cfg fuel w txs = some (rs, w')) :
    total w' = total w ∧ (NonNeg w → NonNeg w') ∧
    w'.bal cfg.treasury = (execTxs cfg fuel w w txs).2.bal cfg.treasury + gatheredFee rs := by
  unfold execBlock at h
  by_cases hv : validateTxs cfg w.bal txs = true
  · rw [if_pos hv] at h
    cases h
    have sp := execTxs_spec cfg fuel w txs w
    refine ⟨?_, fun hn => nonneg_setBal (sp.2 hn) _ ?_, bal_setBal_self _ _ _⟩
    · rw [total_setBal, sp.1]; omega
    · exact Int.add_nonneg (sp.2 hn cfg.treasury) (gatheredFee_nonneg _)
  · rw [if_neg hv] at h; cases h

end Goloop.C15.Proofs
