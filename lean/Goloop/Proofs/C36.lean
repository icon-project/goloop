/-
  Proofs/C36: the strict parser is characterised once (`setStringStrict_eq_some`: the inverse of the printer
  on valid addresses); the theorems of Props/C36 about it are read off that.
-/
import Goloop.Model.C36
namespace Goloop.C36.Proofs
open Goloop Goloop.C36

/-- `fromHexChar` inverts the lower-case digit table and accepts `A`–`F` besides -/
theorem fromHexCode_cases {c x : Nat} (h : fromHexCode c = some x) :
    x < 16 ∧ (c = hexDigitCode x ∨ 65 ≤ c ∧ c ≤ 70 ∧ x + 55 = c) := by
  revert h
  unfold hexDigitCode
  fun_cases fromHexCode c with
  | case1 | case2 => intro h; have := Option.some.inj h; refine ⟨by omega, Or.inl ?_⟩; split <;> omega
  | case3 _ _ hc => intro h; have := Option.some.inj h; exact ⟨by omega, Or.inr ⟨hc.1, hc.2, by omega⟩⟩
  | case4 => nofun

theorem fromHexCode_lt {c x : Nat} (h : fromHexCode c = some x) : x < 16 :=
  (fromHexCode_cases h).1

/-- what `strings.ToLower` changes (an upper-case letter) or the model refuses outright (non-ASCII) -/
abbrev NotLower (c : UInt8) : Prop := (65 ≤ c.toNat ∧ c.toNat ≤ 90) ∨ c.toNat ≥ 128

/-- the sixteen lower-case digits, one by one: each decodes to its value, is left alone by `ToLower` and is
    in the validator's class `[0-9a-f]` -/
theorem digit_table : ∀ x < 16, fromHexCode (hexDigitB x).toNat = some x ∧ ¬ NotLower (hexDigitB x) ∧
    isLowerHexB (hexDigitB x) = true := by
  decide +kernel

theorem digit_of_fromHexCode {c : UInt8} {x : Nat} (h : fromHexCode c.toNat = some x)
    (hl : ¬ NotLower c) : x < 16 ∧ c = hexDigitB x :=
  have ⟨hx, hc⟩ := fromHexCode_cases h
  ⟨hx, UInt8.ofNat_toNat.symm.trans (congrArg UInt8.ofNat
    (hc.resolve_right fun hu => hl (Or.inl ⟨hu.1, Nat.le_trans hu.2.1 (by decide)⟩)))⟩

/-- the validator's class `[0-9a-f]`: what decodes and `ToLower` leaves alone (conversely: `digit_table`) -/
theorem of_isLowerHexB {c : UInt8} (h : isLowerHexB c = true) :
    (∃ x, fromHexCode c.toNat = some x) ∧ ¬ NotLower c := by
  unfold isLowerHexB at h
  rw [decide_eq_true_eq] at h
  refine ⟨?_, by omega⟩
  fun_cases fromHexCode c.toNat with
  | case1 | case2 | case3 => exact ⟨_, rfl⟩
  | case4 h1 h2 => exact (h.elim h1 h2).elim

theorem lowerDiffers_eq_false {body : Bytes} : lowerDiffers body = false ↔ ∀ c ∈ body, ¬ NotLower c := by
  unfold lowerDiffers NotLower
  simp only [List.any_eq_false, decide_eq_true_eq]

theorem hexEncodeB_cons (b : UInt8) (r : Bytes) :
    hexEncodeB (b :: r) = hexDigitB (b.toNat / 16) :: hexDigitB (b.toNat % 16) :: hexEncodeB r := rfl

theorem hexEncodeB_length (bs : Bytes) : (hexEncodeB bs).length = 2 * bs.length := by
  induction bs with
  | nil => rfl
  | cons b r ih => exact (congrArg (· + 2) ih).trans (Nat.mul_succ 2 r.length).symm

theorem hexDecodeB_cons {a b : UInt8} {rest r : Bytes} {x y : Nat} (hx : fromHexCode a.toNat = some x)
    (hy : fromHexCode b.toNat = some y) (hr : hexDecodeB rest = some r) :
    hexDecodeB (a :: b :: rest) = some (UInt8.ofNat (x * 16 + y) :: r) := by
  simp only [hexDecodeB, hx, hy, hr]

theorem hexDecode_encode (bs : Bytes) : hexDecodeB (hexEncodeB bs) = some bs := by
  induction bs with
  | nil => rfl
  | cons b r ih =>
    have hd : b.toNat / 16 < 16 := Nat.div_lt_of_lt_mul b.toNat_lt
    have hm : b.toNat % 16 < 16 := Nat.mod_lt _ (by decide)
    rw [hexEncodeB_cons, hexDecodeB_cons (digit_table _ hd).1 (digit_table _ hm).1 ih, byte_of_nibbles]

theorem mem_hexEncodeB {c : UInt8} {bs : Bytes} (h : c ∈ hexEncodeB bs) : ¬ NotLower c ∧ isLowerHexB c = true := by
  obtain ⟨b, _, hcb⟩ := List.mem_flatMap.mp h
  simp only [List.mem_cons, List.not_mem_nil, or_false] at hcb
  rcases hcb with rfl | rfl
  · exact (digit_table _ (Nat.div_lt_of_lt_mul b.toNat_lt)).2
  · exact (digit_table _ (Nat.mod_lt _ (by decide))).2

theorem lowerDiffers_encode (bs : Bytes) : lowerDiffers (hexEncodeB bs) = false :=
  lowerDiffers_eq_false.mpr fun _ hc => (mem_hexEncodeB hc).1

theorem hexEncode_decode (s bs : Bytes) : hexDecodeB s = some bs → (∀ c ∈ s, ¬ NotLower c) → hexEncodeB bs = s := by
  fun_induction hexDecodeB s generalizing bs with
  | case1 => rintro ⟨⟩ _; rfl
  | case2 | case4 | case5 => nofun
  | case3 a b rest x y hy hx r hr ih =>
    rintro ⟨⟩ hl
    obtain ⟨hx16, rfl⟩ := digit_of_fromHexCode hx (hl a (by simp))
    obtain ⟨hy16, rfl⟩ := digit_of_fromHexCode hy (hl b (by simp))
    rw [hexEncodeB_cons, (nibbles_of_byte hx16 hy16).1, (nibbles_of_byte hx16 hy16).2,
      ih r hr (fun c hc => hl c (by simp [hc]))]

theorem hexDecodeB_isSome : ∀ (s : Bytes), s.length % 2 = 0 → (∀ c ∈ s, ∃ x, fromHexCode c.toNat = some x) →
    ∃ bs, hexDecodeB s = some bs
  | [], _, _ => ⟨[], rfl⟩
  | [_], hl, _ => nomatch hl
  | a :: b :: rest, hl, hc => by
    obtain ⟨⟨x, hx⟩, hc⟩ := List.forall_mem_cons.mp hc
    obtain ⟨⟨y, hy⟩, hc⟩ := List.forall_mem_cons.mp hc
    obtain ⟨r, hr⟩ := hexDecodeB_isSome rest ((Nat.add_mod_right _ 2).symm.trans hl) hc
    exact ⟨_, hexDecodeB_cons hx hy hr⟩

theorem lowerHex_iff_encoded (body : Bytes) :
    (body.length % 2 = 0 ∧ ∀ c ∈ body, isLowerHexB c = true) ↔ ∃ id, hexEncodeB id = body := by
  constructor
  · rintro ⟨hl, hc⟩
    obtain ⟨id, hid⟩ := hexDecodeB_isSome body hl fun c hcm => (of_isLowerHexB (hc c hcm)).1
    exact ⟨id, hexEncode_decode body id hid (fun c hcm => (of_isLowerHexB (hc c hcm)).2)⟩
  · rintro ⟨id, rfl⟩
    exact ⟨by rw [hexEncodeB_length]; exact Nat.mul_mod_right 2 _, fun _ hc => (mem_hexEncodeB hc).2⟩

theorem setTypeAndID_20 (ic : Bool) (id : Bytes) (h : id.length = 20) :
    setTypeAndID ic id = (if ic then 1 else 0) :: id := by
  unfold setTypeAndID
  rw [if_neg (show ¬ id.length < 20 by omega), ← h, List.take_length]

theorem toString_cons (t : UInt8) (id : Bytes) :
    toString (t :: id) = (if t = 1 then 99 else 104) :: 120 :: hexEncodeB id := by
  show (if t = 1 then [99, 120] else [104, 120]) ++ hexEncodeB id = _
  split <;> rfl

theorem strictBody_eq_some {ic : Bool} {body : Bytes} {a : Address} (hl : body.length = 40) :
    strictBody ic body = some a ↔
      ∃ id, id.length = 20 ∧ hexEncodeB id = body ∧ a = (if ic then 1 else 0) :: id := by
  constructor
  · fun_cases strictBody ic body with
    | case1 | case2 => nofun
    | case3 hld b hdec =>
      intro h
      have he := hexEncode_decode body b hdec (lowerDiffers_eq_false.mp (by simpa using hld))
      have hb20 : b.length = 20 := by rw [← he, hexEncodeB_length] at hl; omega
      rw [setTypeAndID_20 _ _ hb20] at h
      exact ⟨b, hb20, he, (Option.some.inj h).symm⟩
  · rintro ⟨id, hid, rfl, rfl⟩
    simp only [strictBody, lowerDiffers_encode, hexDecode_encode, setTypeAndID_20 _ _ hid]
    rfl

/-- the strict parser is the inverse of `String()` on the addresses that satisfy the constructor invariant -/
theorem setStringStrict_eq_some {s : Bytes} {a : Address} :
    setStringStrict s = some a ↔ Valid a ∧ toString a = s := by
  constructor
  · fun_cases setStringStrict s with
    | case1 | case4 | case5 => nofun
    | case2 p0 p1 body hp hlen =>
      intro h
      have hbl : body.length = 40 := by simp at hlen; omega
      obtain ⟨id, hid, rfl, rfl⟩ := (strictBody_eq_some hbl).mp h
      exact ⟨⟨1, id, rfl, hid, Or.inr rfl⟩, by rw [hp.1, hp.2]; rfl⟩
    | case3 p0 p1 body _ hp hlen =>
      intro h
      have hbl : body.length = 40 := by simp at hlen; omega
      obtain ⟨id, hid, rfl, rfl⟩ := (strictBody_eq_some hbl).mp h
      exact ⟨⟨0, id, rfl, hid, Or.inl rfl⟩, by rw [hp.1, hp.2]; rfl⟩
  · rintro ⟨⟨t, id, rfl, hid, ht⟩, rfl⟩
    have hbl : (hexEncodeB id).length = 40 := by rw [hexEncodeB_length, hid]
    unfold setStringStrict
    rw [toString_cons, if_neg (by simp [hbl])]
    rcases ht with rfl | rfl
    · exact (if_neg (by decide)).trans ((if_pos (by decide)).trans ((strictBody_eq_some hbl).mpr ⟨id, hid, rfl, rfl⟩))
    · exact (if_pos (by decide)).trans ((strictBody_eq_some hbl).mpr ⟨id, hid, rfl, rfl⟩)
end Goloop.C36.Proofs
