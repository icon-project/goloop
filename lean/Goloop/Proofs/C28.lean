/-
  Proofs/C28: what the node operations and `merkleTree.Add` do, by cases; two accepted proofs end in
  the same node or contain a collision; every operation only puts bindings `H v ↦ v` on top of the
  bucket (`Grows`), so what `Prove` reads, `Add` accepts; `LevelFromLen` as a tree height.
-/
import Goloop.Base.Cases
import Goloop.Model.C28
namespace Goloop.C28

theorem nodeFull_iff (b : Bytes) : nodeFull b = true ↔ b.length = 512 :=
  decide_eq_true_iff

theorem nodeAdd_eq {b hash : Bytes} (hh : hash.length = 32) (hb : b.length ≠ 512) :
    nodeAdd b hash = some (b ++ hash) := by
  unfold nodeAdd
  rw [if_neg (by simp [hashLen, hh]), if_neg (by rw [nodeFull_iff]; exact hb)]

theorem nodeHash_of_ne_nil (H : Bytes → Bytes) {b : Bytes} (hb : b ≠ []) : nodeHash H b = some (H b) := by
  cases b with
  | nil => exact absurd rfl hb
  | cons a as => rfl

theorem nodeHash_of_nodeFull {H : Bytes → Bytes} {b : Bytes} (h : nodeFull b = true) : nodeHash H b = some (H b) :=
  nodeHash_of_ne_nil H fun e => by subst e; simp [nodeFull_iff] at h

/-- an explicit collision of `H` between a byte string of `xs` and one of `ys` -/
def Collision (H : Bytes → Bytes) (xs ys : List Bytes) : Prop :=
  ∃ x ∈ xs, ∃ y ∈ ys, x ≠ y ∧ H x = H y

theorem Collision.cons {H x y xs ys} (h : Collision H xs ys) : Collision H (x :: xs) (y :: ys) := by
  obtain ⟨a, ha, b, hb, hne, he⟩ := h
  exact ⟨a, List.mem_cons_of_mem _ ha, b, List.mem_cons_of_mem _ hb, hne, he⟩

theorem hash_eq_of_nodeHash_eq (H : Bytes → Bytes) (hlen : ∀ x, (H x).length = 32) {x y : Bytes}
    (h : (nodeHash H x).getD [] = (nodeHash H y).getD []) (hxy : x ≠ y) : H x = H y := by
  unfold nodeHash at h
  cases x with
  | nil =>
    cases y with
    | nil => exact absurd rfl hxy
    | cons b bs =>
      simp at h
      have := hlen (b :: bs); rw [h] at this; simp at this
  | cons a as =>
    cases y with
    | nil =>
      simp at h
      have := hlen (a :: as); rw [h] at this; simp at this
    | cons b bs => simpa using h

theorem addLoop_error_ne_ok {H : Bytes → Bytes} {db : DB} {key n omt : Nat} {p : List Bytes} {br : Bytes} :
    addLoop H db key n omt p br ≠ .error .ok := by
  fun_induction addLoop H db key n omt p br with
  | case1 | case2 | case4 | case5 | case6 => nofun
  | case3 | case7 => assumption

theorem addLoop_cons_ok {H : Bytes → Bytes} {db : DB} {key n : Nat} {x br b : Bytes} {xs : List Bytes}
    (h : addLoop H db key (n + 1) 0 (x :: xs) br = .ok b) :
    (nodeHash H x).getD [] = (nodeGet br (digit key (n + 1))).getD [] ∧ addLoop H db key n 0 xs x = .ok b := by
  revert h
  rw [addLoop]
  exact of_guard nofun fun _ => of_guard nofun fun he h => ⟨Decidable.of_not_not he, h⟩

/-- two runs of the verification loop of `Add` from the same branch, same key, same DB:
    the same final branch, or two different proof nodes with the same hash. -/
theorem addLoop_binding (H : Bytes → Bytes) (hlen : ∀ x, (H x).length = 32) {db : DB} {key n omt : Nat}
    {p1 p2 : List Bytes} {br b1 b2 : Bytes} :
    addLoop H db key n omt p1 br = .ok b1 → addLoop H db key n omt p2 br = .ok b2 →
      b1 = b2 ∨ Collision H p1 p2 := by
  -- along the first run: `case3` a level read from the bucket, `case7` a proof node accepted, `case1` the end;
  -- the other paths fail. (The `let`-bound `cur` uses up a name, so the induction hypothesis gets its own below.)
  fun_induction addLoop H db key n omt p1 br generalizing p2 with
  | case1 => exact fun h1 h2 => Or.inl (Except.ok.inj (h1.symm.trans h2))
  | case2 | case4 | case5 | case6 => nofun
  | case3 n p br cur o b hf =>
    rename_i ih
    intro h1 h2
    rw [addLoop, hf] at h2
    exact ih h1 h2
  | case7 n br cur x xs hv e1 =>
    rename_i ih
    intro l1 h2
    cases p2 with
    | nil => cases h2
    | cons y ys =>
      obtain ⟨e2, l2⟩ := addLoop_cons_ok h2
      by_cases he : x = y
      · subst he
        exact (ih l1 l2).imp_right Collision.cons
      · exact Or.inr ⟨x, List.mem_cons_self, y, List.mem_cons_self, he,
          hash_eq_of_nodeHash_eq H hlen ((Decidable.of_not_not e1).trans e2.symm) he⟩

/-- when the repaired `merkleTree.Add` accepts; `p.length ≤ t.level` is the guard of
    fixes/F11_hexary_overlong_proof.diff (`Tree.addCore true`) -/
theorem add_ok_iff {H : Bytes → Bytes} {t : Tree} {key : Nat} {h : Bytes} {p : List Bytes} :
    (t.add H key h p).2 = .ok ↔ minProofLen t.level key ≤ p.length ∧ p.length ≤ t.level ∧
      ∃ br, addLoop H t.db key t.level (t.level - p.length) p t.root = .ok br ∧
        (nodeGet br (key % 16)).getD [] = h := by
  unfold Tree.add Tree.addCore
  refine ite_pred (fun r : Tree × ARes => r.2 = .ok ↔ _) _ _ _ ?_ fun h1 => ?_
  · exact fun h1 => ⟨nofun, fun c => absurd c.1 (Nat.not_le.mpr h1)⟩
  refine ite_pred (fun r : Tree × ARes => r.2 = .ok ↔ _) _ _ _ ?_ fun h2 => ?_
  · exact fun h2 => ⟨nofun, fun c => absurd c.2.1 (Nat.not_le.mpr h2.2)⟩
  have hle : p.length ≤ t.level := Nat.le_of_not_lt fun h => h2 ⟨rfl, h⟩
  dsimp only
  rw [Nat.sub_eq_zero_of_le hle, List.drop_zero]
  cases hr : addLoop H t.db key t.level (t.level - p.length) p t.root with
  | error e =>
    refine ⟨?_, fun ⟨_, _, _, hb, _⟩ => nomatch hb⟩
    rintro (rfl : e = .ok)
    exact absurd hr addLoop_error_ne_ok
  | ok br =>
    refine ite_pred (fun r : Tree × ARes => r.2 = .ok ↔ _) _ _ _ ?_ fun h3 => ?_
    · exact fun h3 => ⟨nofun, fun ⟨_, _, _, hb, hg⟩ => absurd (by cases hb; exact hg) h3⟩
    refine ite_pred (fun r : Tree × ARes => r.2 = .ok ↔ _) _ _ _ (fun h4 => absurd h4 (Nat.lt_irrefl 0)) fun _ => ?_
    exact ⟨fun _ => ⟨Nat.le_of_not_lt h1, hle, br, rfl, Decidable.of_not_not h3⟩, fun _ => rfl⟩

/-- every binding of the bucket is stored under the hash of its value -/
def DBOk (H : Bytes → Bytes) (db : DB) : Prop :=
  ∀ k v, db.get k = some v → k = (nodeHash H v).getD []

theorem DBOk.set {H db} (h : DBOk H db) (v : Bytes) : DBOk H (db.set ((nodeHash H v).getD []) v) := by
  intro k v' hg
  simp only [DB.set, DB.get] at hg
  split at hg
  · rename_i he; cases hg; exact he.symm
  · exact h k v' hg

theorem putAll_dbok (H : Bytes → Bytes) : ∀ (ps : List Bytes) (db : DB), DBOk H db → DBOk H (putAll H db ps) := by
  intro ps
  induction ps with
  | nil => intro db h; exact h
  | cons p ps ih => intro db h; exact ih _ (h.set p)

def Vals (db : DB) : List Bytes := db.map Prod.snd

/-- every binding in the list (also shadowed ones) is stored under the hash of its value. The
    proofs maintain this form: it goes through `++` (`Grows`), and `get_of_mem` uses it of a binding
    that may be shadowed. `DBOk`, which speaks of `get` only, follows (`AllOk.dbok`). -/
def AllOk (H : Bytes → Bytes) (db : DB) : Prop := ∀ p ∈ db, p.1 = (nodeHash H p.2).getD []

/-- no two different stored values have the same hash -/
def NoCollVals (H : Bytes → Bytes) (db : DB) : Prop :=
  ∀ x ∈ Vals db, ∀ y ∈ Vals db, H x = H y → x = y

theorem AllOk.nil (H : Bytes → Bytes) : AllOk H [] := nofun

theorem get_mem {db : DB} {k v : Bytes} : db.get k = some v → (k, v) ∈ db := by
  fun_induction DB.get db k with
  | case1 => nofun
  | case2 => rintro ⟨⟩; exact List.mem_cons_self
  | case3 _ _ _ _ ih => exact fun h => List.mem_cons_of_mem _ (ih h)

theorem AllOk.dbok {H db} (h : AllOk H db) : DBOk H db := fun k v hg => h (k, v) (get_mem hg)

theorem get_of_key_mem {db : DB} {k v : Bytes} : (k, v) ∈ db → ∃ v', db.get k = some v' := by
  fun_induction DB.get db k with
  | case1 => nofun
  | case2 v0 => exact fun _ => ⟨v0, rfl⟩
  | case3 _ _ _ hne ih =>
    exact fun h => ih ((List.mem_cons.mp h).resolve_left fun e => hne (congrArg Prod.fst e).symm)

/-- a binding `H c ↦ c` that was ever written is what is found under `H c`, if the bucket is content
    addressed and holds no collision -/
theorem get_of_mem (H : Bytes → Bytes) (hlen : ∀ x, (H x).length = 32) (db : DB)
    (hok : AllOk H db) (hnc : NoCollVals H db) {c : Bytes} (hc : (H c, c) ∈ db) : db.get (H c) = some c := by
  obtain ⟨v', h1⟩ := get_of_key_mem hc
  have h2 := get_mem h1
  -- the binding found under `H c` holds `c` itself: otherwise the bucket would hold a collision
  have e : c = v' := Decidable.byContradiction fun hne => hne (hnc _ (List.mem_map_of_mem hc) _ (List.mem_map_of_mem h2)
    (hash_eq_of_nodeHash_eq H hlen ((hok _ hc).symm.trans (hok _ h2)) hne))
  rw [h1, e]

/-- `db'` is `db` with further bindings on top, each stored under the hash of its value: all that
    `Accumulator.Add`, `Finalize` and `SetLen` do to the tree bucket -/
def Grows (H : Bytes → Bytes) (db db' : DB) : Prop := ∃ ws, AllOk H ws ∧ db' = ws ++ db

theorem Grows.refl {H db} : Grows H db db := ⟨[], AllOk.nil H, rfl⟩

theorem Grows.trans {H a b c} (h1 : Grows H a b) (h2 : Grows H b c) : Grows H a c := by
  obtain ⟨w1, o1, rfl⟩ := h1
  obtain ⟨w2, o2, rfl⟩ := h2
  exact ⟨w2 ++ w1, List.forall_mem_append.mpr ⟨o2, o1⟩, (List.append_assoc _ _ _).symm⟩

theorem Grows.set {H db} {v k : Bytes} (h : nodeHash H v = some k) : Grows H db (db.set k v) :=
  ⟨[(k, v)], by simp [AllOk, h], rfl⟩

theorem Grows.allOk {H db db'} (h : Grows H db db') (hd : AllOk H db) : AllOk H db' := by
  obtain ⟨ws, ho, rfl⟩ := h
  exact List.forall_mem_append.mpr ⟨ho, hd⟩

theorem Grows.mem {H db db'} (h : Grows H db db') {p : Bytes × Bytes} (hp : p ∈ db) : p ∈ db' := by
  obtain ⟨ws, _, rfl⟩ := h
  exact List.mem_append_right _ hp

theorem addAt_grows (H : Bytes → Bytes) (rs : List Bytes) (hash : Bytes) (db : DB) :
    Grows H db (addAt H rs hash db).2.1 := by
  -- `case2`, `case5`: the node has become full and is written; the others leave the bucket alone
  fun_induction addAt H rs hash db with
  | case1 | case3 | case4 | case6 => exact Grows.refl
  | case2 _ _ _ _ hf => exact Grows.set (nodeHash_of_nodeFull hf)
  | case5 _ _ _ _ _ _ hf _ _ _ _ e ih => rw [e] at ih; exact (Grows.set (nodeHash_of_nodeFull hf)).trans ih

theorem add_db (H : Bytes → Bytes) (a : Acc) (db : DB) (x : Bytes) :
    (Acc.add H a db x).2.1 = (addAt H a.roots x db).2.1 := by
  unfold Acc.add
  generalize addAt H a.roots x db = r
  obtain ⟨rs, db', ok⟩ := r
  cases ok <;> rfl

theorem add_acc (H : Bytes → Bytes) {a : Acc} {db : DB} {x : Bytes} (h : (addAt H a.roots x db).2.2 = true) :
    (Acc.add H a db x).1 = { len := a.len + 1, roots := (addAt H a.roots x db).1 } := by
  unfold Acc.add
  revert h
  generalize addAt H a.roots x db = r
  obtain ⟨rs, db', ok⟩ := r
  rintro rfl; rfl

theorem carryFold_grows {H : Bytes → Bytes} {store : Bool} {rs : List Bytes} {carry : Option Bytes} {db : DB}
    {c : Option Bytes} {db' : DB} : carryFold H store rs carry db = some (c, db') → Grows H db db' := by
  -- `case4`: the one path that writes (a node with a hash, if `store`)
  fun_induction carryFold H store rs carry db with
  | case1 => rintro ⟨⟩; exact Grows.refl
  | case2 => nofun
  | case3 | case5 => assumption
  | case4 _ _ _ _ _ _ _ _ hk ih => exact fun he => (ite_both (Grows H _) (Grows.set hk) Grows.refl).trans (ih he)

/-- a single root holding a single hash: the loop hands that hash on, unhashed -/
theorem carryFold_single (H : Bytes → Bytes) {store : Bool} {a : Bytes} (ha : a.length = 32) (db : DB) :
    carryFold H store [a] none db = some (some a, db) := by
  simp [carryFold, addCarry, nodeLen, nodeGet, hashLen, ha, List.take_of_length_le]

theorem carryFold_carry_eq (H : Bytes → Bytes) :
    ∀ (rs : List Bytes) (carry : Option Bytes) (db1 db2 : DB),
      (carryFold H false rs carry db1).map Prod.fst = (carryFold H true rs carry db2).map Prod.fst := by
  intro rs
  induction rs with
  | nil => intro carry db1 db2; rfl
  | cons r rest ih =>
    intro carry db1 db2
    rw [carryFold, carryFold]
    cases addCarry r carry with
    | none => rfl
    | some r' =>
      dsimp only
      by_cases hc : rest.isEmpty = true ∧ nodeLen r' = 1
      · rw [if_pos hc, if_pos hc]; exact ih _ _ _
      · rw [if_neg hc, if_neg hc]
        cases nodeHash H r' <;> exact ih _ _ _

theorem finalize_grows {H a db hd db'} (hf : Acc.finalize H a db = some (hd, db')) : Grows H db db' := by
  obtain ⟨⟨c, d⟩, hc, he⟩ := Option.map_eq_some_iff.mp hf
  cases he
  exact carryFold_grows hc

/-- `SetLen` leaves the bucket as it was or as its `Finalize` left it -/
theorem setLen_grows (H : Bytes → Bytes) (a : Acc) (db : DB) (l : Nat) : Grows H db (Acc.setLen H a db l).2.1 := by
  fun_cases Acc.setLen H a db l with
  | case1 | case2 | case3 | case4 => exact Grows.refl
  | case5 _ _ _ _ _ hf | case6 _ _ _ _ _ hf | case7 _ _ _ _ _ hf | case8 _ _ _ _ _ hf | case9 _ _ _ _ _ hf
  | case10 _ _ _ _ _ hf => exact finalize_grows hf

theorem minProofLen_le (level key : Nat) : minProofLen level key ≤ level := by
  unfold minProofLen; dsimp only
  exact ite_pred (· ≤ level) _ _ _ (fun _ => Nat.le_refl _) Nat.le_of_not_lt

theorem newTree_some {db : DB} {hd : Header} {t : Tree} (h : newTree db hd = some t) :
    t = ⟨db, levelFromLen hd.leaves, hd.root.getD [], hd.leaves⟩ := by
  unfold newTree at h
  dsimp only at h
  split at h
  · exact (Option.some.inj h).symm
  · cases h

theorem prove_zero {t : Tree} {key : Nat} {p : List Bytes} :
    t.prove key 0 = .ok p ↔ proveLoop t.db key t.level t.root = some p := by
  unfold Tree.prove
  cases proveLoop t.db key t.level t.root with
  | none => exact ⟨nofun, nofun⟩
  | some res => simp [Int.not_lt.mpr (Int.natCast_nonneg t.level)]

/-- the node a proof ends in (the root branch for an empty proof) -/
def lastNode (br : Bytes) (p : List Bytes) : Bytes := p.getLast?.getD br

theorem fetch_eq_some {db : DB} {cur : Option Bytes} {b : Bytes} :
    fetch db cur = some b ↔ db.get (cur.getD []) = some b ∧ validNode b = true := by
  unfold fetch
  cases db.get (cur.getD []) with
  | none => exact ⟨nofun, fun h => nomatch h.1⟩
  | some bs =>
    refine ite_pred (fun r => r = some b ↔ some bs = some b ∧ _) _ _ _ (fun hv => ?_) fun hv => ?_
    · exact ⟨fun h => ⟨h, Option.some.inj h ▸ hv⟩, And.left⟩
    · exact ⟨nofun, fun h => absurd (Option.some.inj h.1 ▸ h.2) hv⟩

/-- a path read by `Prove` from a content-addressed bucket passes the checks of `Add`
    (with nothing omitted), whatever the verifier's own bucket holds -/
theorem proveLoop_addLoop {H : Bytes → Bytes} {db : DB} (db2 : DB) (hdb : DBOk H db) {key n : Nat} {br : Bytes}
    {p : List Bytes} : proveLoop db key n br = some p →
      p.length = n ∧ addLoop H db2 key n 0 p br = .ok (lastNode br p) := by
  fun_induction proveLoop db key n br generalizing p with
  | case1 => rintro ⟨⟩; exact ⟨rfl, rfl⟩
  | case2 => nofun
  | case3 n br b hf ih =>
    intro h
    obtain ⟨p', hp, rfl⟩ := Option.map_eq_some_iff.mp h
    obtain ⟨hg, hv⟩ := fetch_eq_some.mp hf
    obtain ⟨il, ia⟩ := ih hp
    refine ⟨congrArg (· + 1) il, ?_⟩
    rw [addLoop, if_neg (fun h => h hv), if_neg (fun h => h (hdb _ _ hg).symm), ia, lastNode, lastNode, List.getLast?_cons]
    rfl

/-- what `Prove(key, 0)` reads from a content-addressed bucket is accepted by a verifier tree
    with the same header on any bucket, for the hash found at the proof's end -/
theorem accept_of_prove {H : Bytes → Bytes} {vdb : DB} {key : Nat}
    {hd : Header} {db' : DB} {pt vt : Tree} {p : List Bytes} (hdb : DBOk H db')
    (hpt : newTree db' hd = some pt) (hvt : newTree vdb hd = some vt)
    (hp : pt.prove key 0 = .ok p) :
    (vt.add H key ((nodeGet (lastNode pt.root p) (key % 16)).getD []) p).2 = .ok := by
  obtain rfl := newTree_some hpt
  obtain rfl := newTree_some hvt
  obtain ⟨hlen, hloop⟩ := proveLoop_addLoop vdb hdb (prove_zero.mp hp)
  refine add_ok_iff.mpr ⟨hlen ▸ minProofLen_le _ key, Nat.le_of_eq hlen, _, ?_, rfl⟩
  rw [hlen, Nat.sub_self]
  exact hloop

/-- little-endian base-16 digits of `n` (no trailing zero digit) -/
def digits16 : Nat → List Nat
  | 0 => []
  | n + 1 => (n + 1) % 16 :: digits16 ((n + 1) / 16)
decreasing_by omega

theorem bitLen_le_iff (m k : Nat) : bitLen m ≤ k ↔ m < 2 ^ k := by
  unfold bitLen
  by_cases h : m = 0
  · rw [if_pos h, h]; exact ⟨fun _ => Nat.pow_pos (by decide), fun _ => Nat.zero_le _⟩
  · rw [if_neg h]; exact Nat.log2_lt h

/-- `LevelFromLen n` is the least `d` with `n ≤ 16^d` -/
theorem levelFromLen_le_iff {n : Nat} (hn : 0 < n) (d : Nat) : levelFromLen n ≤ d ↔ n ≤ 16 ^ d := by
  have h4 : (bitLen (n - 1) + 3) / 4 ≤ d ↔ bitLen (n - 1) ≤ 4 * d := by omega
  rw [levelFromLen, if_neg (Nat.ne_of_gt hn), h4, bitLen_le_iff, Nat.pow_mul, Nat.sub_lt_iff_lt_add hn]
  exact Nat.lt_succ_iff

end Goloop.C28
