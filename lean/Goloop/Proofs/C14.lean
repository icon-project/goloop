/-
  Everything is per account: the Go loops touch, for each cached account, only
  that account's trie key / lastAccounts entry (see Model/C14.lean).
-/
import Goloop.Model.C14
import Goloop.Base.List
namespace Goloop.C14.Proofs
open Goloop.C14

theorem dataOf_norm (b : Hdr) (st : Option KV) : dataOf b (normStore st) = dataOf b st := by
  unfold dataOf normStore
  split <;> simp

theorem normStore_idem (st : Option KV) : normStore (normStore st) = normStore st := by
  match st with
  | none => rfl
  | some [] => rfl
  | some (_ :: _) => rfl

/-- a snapshot is normal when an empty store is represented by nil -/
def Normal (s : Snap) : Prop := s.store ≠ some []

theorem normStore_of_normal {s : Option KV} (h : s ≠ some []) : normStore s = s := by
  unfold normStore; split
  · exact absurd rfl h
  · rfl

theorem normal_norm (n : Nat) (b : Hdr) (st : Option KV) : Normal ⟨n, b, normStore st⟩ := by
  unfold Normal normStore; split <;> simp_all

/-- logical content of a mutable account state -/
def absSt (st : AState) : Option AcctData :=
  if contentEmpty st.hdr st.store then none else some (dataOf st.hdr st.store)

theorem abs_eq (w : World) (a : Nat) :
    w.abs a = match w.macc a with
      | some st => absSt st
      | none => absSnap (w.trie a) := rfl

theorem absSnap_some (s : Snap) :
    absSnap (some s) = if s.isEmpty then none else some (dataOf s.hdr s.store) := rfl

theorem absSnap_of_state (s : Snap) (st : AState) (hb : s.hdr = st.hdr) (hs : s.store = normStore st.store) :
    absSnap (some s) = absSt st := by
  unfold absSt contentEmpty
  rw [absSnap_some, Snap.isEmpty, hb, hs, dataOf_norm]

/-- a trie entry that is `s`, or is absent while `s` is empty (the shape of `LocInv.la_tr`), reads as `s` -/
theorem absSnap_synced {tr : Option Snap} {s : Snap} (h : (s.isEmpty = true ∧ tr = none) ∨ tr = some s) :
    absSnap tr = absSnap (some s) := by
  rcases h with ⟨he, rfl⟩ | rfl
  · exact ((absSnap_some s).trans (if_pos he)).symm
  · rfl

/-- snapshots of one account that are reachable: trie entry, lastAccounts entry,
    the state's cached snapshot, entries of stored world snapshots -/
def Reach (tr : Option Snap) (st : Option AState) (la : Option Snap) (pool : Snap → Prop) (s : Snap) : Prop :=
  tr = some s ∨ la = some s ∨ (∃ x, st = some x ∧ x.last = some s) ∨ pool s

theorem Reach.trie {tr st la pool s} (h : tr = some s) : Reach tr st la pool s := Or.inl h
theorem Reach.lastAcc {tr st la pool s} (h : la = some s) : Reach tr st la pool s := Or.inr (Or.inl h)
theorem Reach.cached {tr st la pool s} {x : AState} (hx : st = some x) (h : x.last = some s) :
    Reach tr st la pool s := Or.inr (Or.inr (Or.inl ⟨x, hx, h⟩))
theorem Reach.stored {tr st la pool s} (h : pool s) : Reach tr st la pool s := Or.inr (Or.inr (Or.inr h))

/-- what holds of each of the four places a snapshot can sit in holds of every reachable snapshot -/
theorem Reach.cases {tr st la pool} {P : Snap → Prop}
    (htr : ∀ s, tr = some s → P s) (hla : ∀ s, la = some s → P s)
    (hst : ∀ x s, st = some x → x.last = some s → P s) (hpool : ∀ s, pool s → P s)
    (s : Snap) (r : Reach tr st la pool s) : P s :=
  r.elim (htr s) (·.elim (hla s) (·.elim (fun ⟨x, hx, hl⟩ => hst x s hx hl) (hpool s)))

/-- One account of a world: `tr` its trie entry, `st` its `mutableAccounts` entry, `la` its `lastAccounts` entry,
    `pool` its entries in the world snapshots taken so far, `next` the stamp counter (`WInv`).  `normal` lets a state
    loaded from a trie entry stand for that entry (`LocInv.load`); `fresh` makes the stamp `next` a new object (`LocInv.add`). -/
structure LocInv (tr : Option Snap) (st : Option AState) (la : Option Snap) (pool : Snap → Prop) (next : Nat) : Prop where
  normal : ∀ s, Reach tr st la pool s → Normal s
  fresh : ∀ s, Reach tr st la pool s → s.stamp < next
  /-- pointer identity: equal stamps mean the same object -/
  inj : ∀ s s', Reach tr st la pool s → Reach tr st la pool s' → s.stamp = s'.stamp → s = s'
  /-- tries never hold empty accounts -/
  nonempty : ∀ s, (tr = some s ∨ pool s) → s.isEmpty = false
  /-- a cached snapshot describes the state's current content -/
  last : ∀ x s, st = some x → x.last = some s → s.hdr = x.hdr ∧ s.store = normStore x.store
  /-- lastAccounts entry = what the trie holds for a cached account -/
  la_tr : ∀ x, st = some x →
    (∀ y, la = some y → (y.isEmpty = true ∧ tr = none) ∨ tr = some y) ∧ (la = none → tr = none)

theorem LocInv.mono {tr st la pool next tr' st' la' pool'}
    (h : LocInv tr st la pool next)
    (hr : ∀ s, Reach tr' st' la' pool' s → Reach tr st la pool s)
    (hne : ∀ s, (tr' = some s ∨ pool' s) → s.isEmpty = false)
    (hl : ∀ x s, st' = some x → x.last = some s → s.hdr = x.hdr ∧ s.store = normStore x.store)
    (hla : ∀ x, st' = some x →
      (∀ y, la' = some y → (y.isEmpty = true ∧ tr' = none) ∨ tr' = some y) ∧ (la' = none → tr' = none)) :
    LocInv tr' st' la' pool' next :=
  ⟨fun s r => h.normal s (hr s r), fun s r => h.fresh s (hr s r),
   fun s s' r r' e => h.inj s s' (hr s r) (hr s' r') e, hne, hl, hla⟩

theorem LocInv.tick {tr st la pool next} (h : LocInv tr st la pool next) : LocInv tr st la pool (next + 1) :=
  ⟨h.normal, fun s r => Nat.lt_succ_of_lt (h.fresh s r), h.inj, h.nonempty, h.last, h.la_tr⟩

theorem LocInv.add {tr st la pool next tr' st' la' pool'} (n : Snap)
    (h : LocInv tr st la pool next)
    (hn : n.stamp = next) (hnorm : Normal n)
    (hr : ∀ s, Reach tr' st' la' pool' s → s = n ∨ Reach tr st la pool s)
    (hne : ∀ s, (tr' = some s ∨ pool' s) → s.isEmpty = false)
    (hl : ∀ x s, st' = some x → x.last = some s → s.hdr = x.hdr ∧ s.store = normStore x.store)
    (hla : ∀ x, st' = some x →
      (∀ y, la' = some y → (y.isEmpty = true ∧ tr' = none) ∨ tr' = some y) ∧ (la' = none → tr' = none)) :
    LocInv tr' st' la' pool' (next + 1) := by
  refine ⟨?_, ?_, ?_, hne, hl, hla⟩
  · intro s r; rcases hr s r with e | r
    · exact e ▸ hnorm
    · exact h.normal s r
  · intro s r; rcases hr s r with e | r
    · rw [e, hn]; exact Nat.lt_succ_self _
    · exact Nat.lt_succ_of_lt (h.fresh s r)
  · intro s s' r r' e
    rcases hr s r with e1 | r1 <;> rcases hr s' r' with e2 | r2
    · rw [e1, e2]
    · rw [e1, hn] at e; exact absurd (h.fresh s' r2) (e ▸ Nat.lt_irrefl _)
    · rw [e2, hn] at e; exact absurd (h.fresh s r1) (e ▸ Nat.lt_irrefl _)
    · exact h.inj s s' r1 r2 e

/-- GetSnapshot on the cached state: a cached snapshot is handed out again, a new one is fresh;
    either way it holds the state's content, and the state's content is what it was. -/
theorem LocInv.snapshot {tr la pool next} {x : AState} (h : LocInv tr (some x) la pool next) :
    LocInv tr (some (x.getSnapshot next).1) la pool (next + 1) ∧
    (x.getSnapshot next).1.last = some (x.getSnapshot next).2 ∧
    absSnap (some (x.getSnapshot next).2) = absSt x ∧ absSt (x.getSnapshot next).1 = absSt x := by
  fun_cases AState.getSnapshot x next with
  | case1 s hs =>
    exact ⟨h.tick, hs, absSnap_of_state s x (h.last x s rfl hs).1 (h.last x s rfl hs).2, rfl⟩
  | case2 hs =>
    refine ⟨h.add ⟨next, x.hdr, normStore x.store⟩ rfl (normal_norm _ _ _)
      (Reach.cases (fun _ e => .inr (.trie e)) (fun _ e => .inr (.lastAcc e))
        (fun y s hy hl => ?_) (fun _ e => .inr (.stored e)))
      h.nonempty (fun y s hy hl => ?_) (fun _ _ => h.la_tr x rfl), rfl, absSnap_of_state _ x rfl rfl, rfl⟩
    · cases hy; exact .inl (Option.some.inj hl).symm
    · cases hy; cases hl; exact ⟨rfl, rfl⟩

/-- one iteration of flushAccountCacheInLock: where it skips (lastAccounts holds the very snapshot
    object, or the account is new and empty) the trie already holds the state's content;
    otherwise it stores the snapshot -/
theorem flushOne_spec {tr la pool next} (x : AState) (h : LocInv tr (some x) la pool next) :
    LocInv (flushOne next x la tr).2.2 (some (flushOne next x la tr).1) (flushOne next x la tr).2.1 pool
      (next + 1) ∧
    absSnap (flushOne next x la tr).2.2 = absSt x ∧ absSt (flushOne next x la tr).1 = absSt x := by
  obtain ⟨h', gl, hsnap, hx'⟩ := h.snapshot (next := next)
  fun_cases flushOne next x la tr with
  | case1 x' s hp skip hskip =>
    rw [hp] at h' gl hsnap hx'
    refine ⟨h', (absSnap_synced ?_).trans hsnap, hx'⟩
    cases la with
    | some ass =>
      -- same stamp as the snapshot now cached: same object
      have e : ass = s := h'.inj _ _ (.lastAcc rfl) (.cached rfl gl) (beq_iff_eq.mp hskip)
      exact e ▸ (h.la_tr x rfl).1 ass rfl
    | none => exact .inl ⟨hskip, (h.la_tr x rfl).2 rfl⟩
  | case2 x' s hp =>
    rw [hp] at h' gl hsnap hx'
    -- the entry a write puts into the trie
    generalize hw : (if s.isEmpty = true then none else some s) = tr'
    have hd : ((s.isEmpty = true ∧ tr' = none) ∨ tr' = some s) ∧ ∀ t, tr' = some t → t = s ∧ t.isEmpty = false := by
      subst hw
      by_cases he : s.isEmpty = true
      · rw [if_pos he]; exact ⟨.inl ⟨he, rfl⟩, fun _ e => nomatch e⟩
      · rw [if_neg he]; exact ⟨.inr rfl, fun t e => Option.some.inj e ▸ ⟨rfl, Bool.eq_false_iff.mpr he⟩⟩
    exact ⟨h'.mono (Reach.cases (fun t e => .cached rfl ((hd.2 t e).1 ▸ gl))
        (fun t e => .cached rfl (Option.some.inj e ▸ gl)) (fun _ _ => .cached) (fun _ => .stored))
      (fun t r => r.elim (fun e => (hd.2 t e).2) (fun e => h.nonempty t (.inr e))) h'.last
      (fun _ _ => ⟨fun y hy => Option.some.inj hy ▸ hd.1, fun hn => nomatch hn⟩),
     (absSnap_synced hd.1).trans hsnap, hx'⟩

/-- the invariant of a world together with the stored snapshot entries `pool a` of every account -/
def WInv (w : World) (pool : Nat → Snap → Prop) : Prop :=
  ∀ a, LocInv (w.trie a) (w.macc a) (w.lastAcc a) (pool a) w.next

/-- stored snapshots may be forgotten, and what the trie holds may be counted among them -/
theorem LocInv.mono_pool {tr st la pool pool' next} (h : LocInv tr st la pool next)
    (hp : ∀ s, pool' s → pool s ∨ tr = some s) : LocInv tr st la pool' next :=
  h.mono (Reach.cases (fun _ => .trie) (fun _ => .lastAcc) (fun _ _ => .cached)
      (fun s e => (hp s e).elim .stored .trie))
    (fun s r => h.nonempty s (r.elim .inl fun e => (hp s e).symm)) h.last h.la_tr

theorem flush_spec (w : World) (pool : Nat → Snap → Prop) (h : WInv w pool) :
    (∀ a, absSnap (w.flush.trie a) = w.abs a ∧ w.flush.abs a = w.abs a) ∧ WInv w.flush pool := by
  -- both conjuncts are per account (`WInv` is `∀ a, LocInv …`), so they are proved together for one `a`;
  -- `flushOne_spec` states them in the other order (the `.symm` at the end is `And.symm`)
  refine forall_and.mp fun a => ?_
  have ha := h a
  rw [abs_eq, abs_eq]
  unfold World.flush
  simp only
  cases hm : w.macc a with
  | none => rw [hm] at ha; exact ⟨⟨rfl, rfl⟩, ha.tick⟩
  | some x => rw [hm] at ha; exact (flushOne_spec x ha).symm

theorem ofSnap_some (t : Snap) : AState.ofSnap (some t) = ⟨t.hdr, t.store, some t⟩ := rfl
theorem ofSnap_none : AState.ofSnap none = ⟨Hdr.zero, none, none⟩ := rfl

theorem upd_same {α} (f : Nat → α) (a : Nat) (v : α) : upd f a v a = v := if_pos rfl
theorem upd_other {α} (f : Nat → α) (a b : Nat) (v : α) (h : b ≠ a) : upd f a v b = f b := if_neg h

theorem ofSnap_last (tr : Option Snap) (s : Snap) (h : (AState.ofSnap tr).last = some s) : tr = some s := by
  cases tr with
  | none => cases h
  | some t => exact h

theorem absSt_ofSnap (tr : Option Snap) (hn : ∀ t, tr = some t → Normal t) :
    absSt (AState.ofSnap tr) = absSnap tr := by
  cases tr with
  | none => rfl
  | some t => exact (absSnap_of_state t _ rfl (normStore_of_normal (hn t rfl)).symm).symm

/-- GetAccountState on an account that is not cached: the state made from the trie entry (a fresh
    one where there is none) holds that entry's content, with the entry as its cached snapshot -/
theorem LocInv.load {tr la pool next} (h : LocInv tr none la pool next) :
    absSt (AState.ofSnap tr) = absSnap tr ∧ LocInv tr (some (AState.ofSnap tr)) tr pool next := by
  refine ⟨absSt_ofSnap _ (fun t ht => h.normal t (.trie ht)),
    h.mono (Reach.cases (fun _ => .trie) (fun _ => .trie) (fun x s hx hl => ?_) (fun _ => .stored))
      h.nonempty (fun x s hx hl => ?_) (fun _ _ => ⟨fun y hy => Or.inr hy, fun hn => hn⟩)⟩
  · cases hx; exact .trie (ofSnap_last _ _ hl)
  · cases hx
    have e := ofSnap_last _ _ hl
    rw [e]
    exact ⟨rfl, (normStore_of_normal (h.normal s (.trie e))).symm⟩

theorem getAccountState_spec (w : World) (pool) (h : WInv w pool) (a : Nat) :
    (w.getAccountState a).1.macc a = some (w.getAccountState a).2 ∧
    (∀ b, (w.getAccountState a).1.abs b = w.abs b) ∧
    WInv (w.getAccountState a).1 pool := by
  fun_cases World.getAccountState w a with
  | case1 st hm => exact ⟨hm, fun _ => rfl, h⟩
  | case2 hm =>
    refine ⟨upd_same _ _ _, forall_and.mp fun b => ?_⟩
    rw [abs_eq, abs_eq]
    by_cases hb : b = a
    · subst hb
      simp only [upd_same, hm]
      have hb := h b
      rw [hm] at hb
      exact hb.load
    · simp only [upd_other _ _ _ _ hb]; exact ⟨trivial, h b⟩

theorem putState_inv (w : World) (pool) (h : WInv w pool) (a : Nat) (x x' : AState) (hm : w.macc a = some x)
    (hx : x'.last = none ∨ x' = x) : WInv (w.putState a x') pool := by
  intro b
  unfold World.putState
  by_cases hb : b = a
  · subst hb
    simp only [upd_same]
    have hb := h b
    -- a state that still has a cached snapshot is the old state
    have hx' : ∀ s, x'.last = some s → x' = x := fun s hl => hx.resolve_left fun e => nomatch e.symm.trans hl
    refine hb.mono (Reach.cases (fun _ => .trie) (fun _ => .lastAcc) (fun y s hy hl => ?_) (fun _ => .stored))
      hb.nonempty (fun y s hy hl => ?_) (fun y _ => hb.la_tr x hm)
    · cases hy; cases hx' s hl; exact .cached hm hl
    · cases hy; cases hx' s hl; exact hb.last _ s hm hl
  · simp only [upd_other _ _ _ _ hb]; exact h b

theorem mutate_inv (w : World) (pool) (h : WInv w pool) (a : Nat) (f : AState → AState)
    (hf : ∀ x, (f x).last = none ∨ f x = x) :
    WInv ((w.getAccountState a).1.putState a (f (w.getAccountState a).2)) pool := by
  have g := getAccountState_spec w pool h a
  exact putState_inv _ pool g.2.2 a _ _ g.1 (hf _)

theorem setBalance_last (x : AState) (v : Int) : (x.setBalance v).last = none ∨ x.setBalance v = x := by
  fun_cases AState.setBalance x v
  · exact Or.inl rfl
  · exact Or.inr rfl

theorem deleteValue_last (x : AState) (k : Nat) : (x.deleteValue k).1.last = none ∨ (x.deleteValue k).1 = x := by
  fun_cases AState.deleteValue x k with
  | case2 => exact Or.inl rfl
  | _ => exact Or.inr rfl

theorem setValue_last (x : AState) (k v : Nat) : (x.setValue k v).1.last = none ∨ (x.setValue k v).1 = x := by
  fun_cases AState.setValue x k v
  · exact deleteValue_last x k
  · exact Or.inl rfl

theorem initContract_last (x : AState) : x.initContract.last = none ∨ x.initContract = x := by
  fun_cases AState.initContract x
  · exact Or.inr rfl
  · exact Or.inl rfl

theorem deployContract_last (x : AState) (c : Nat) : (x.deployContract c).last = none ∨ x.deployContract c = x := by
  fun_cases AState.deployContract x c
  · exact Or.inr rfl
  · exact Or.inl rfl

/-- the guard shared by AcceptContract and RejectContract: act only on a contract account whose
    next contract is `c`, pending -/
theorem pending_guard {α} (ic : Bool) (nx : Option (Nat × Bool)) (c : Nat) (a b : α) :
    (match ic, nx with
      | true, some (c', rejected) => if c' ≠ c then a else if rejected then a else b
      | _, _ => a) = if ic = true ∧ nx = some (c, false) then b else a := by
  cases ic with
  | false => simp
  | true =>
    rcases nx with _ | ⟨c', _ | _⟩
    · simp
    · by_cases hc : c' = c <;> simp [hc]
    · by_cases hc : c' = c <;> simp [hc]

theorem acceptContract_eq (x : AState) (c : Nat) :
    x.acceptContract c =
      if x.hdr.isContract = true ∧ x.hdr.next = some (c, false) then
        ({ x with hdr := { x.hdr with cur := some c, next := none }, last := none }, true)
      else (x, false) :=
  pending_guard ..

theorem rejectContract_eq (x : AState) (c : Nat) :
    x.rejectContract c =
      if x.hdr.isContract = true ∧ x.hdr.next = some (c, false) then
        ({ x with hdr := { x.hdr with next := some (c, true) }, last := none }, true)
      else (x, false) :=
  pending_guard ..

theorem acceptContract_last (x : AState) (c : Nat) : (x.acceptContract c).1.last = none ∨ (x.acceptContract c).1 = x := by
  fun_cases AState.acceptContract x c with
  | case3 => exact Or.inl rfl
  | _ => exact Or.inr rfl

theorem rejectContract_last (x : AState) (c : Nat) : (x.rejectContract c).1.last = none ∨ (x.rejectContract c).1 = x := by
  fun_cases AState.rejectContract x c with
  | case3 => exact Or.inl rfl
  | _ => exact Or.inr rfl

theorem deploy_last (x : AState) (c : Nat) : (x.deploy c).last = none ∨ x.deploy c = x := by
  unfold AState.deploy
  rcases acceptContract_last (x.initContract.deployContract c) c with h | h
  · exact Or.inl h
  · rw [h]
    rcases deployContract_last x.initContract c with h2 | h2
    · exact Or.inl h2
    · rw [h2]; exact initContract_last x

theorem setObjGraph_last (x : AState) (nh g : Nat) : (x.setObjGraph nh g).last = none ∨ x.setObjGraph nh g = x := by
  fun_cases AState.setObjGraph x nh g
  · exact Or.inr rfl
  · exact Or.inl rfl

/-- Reset: the trie entry of every account becomes the stored one; a cached state is made anew from
    it, except where the pointer comparison finds that entry cached already -/
theorem reset_spec (w : World) (pool) (h : WInv w pool) (ws : WSnap) (hws : ∀ a s, ws a = some s → pool a s) :
    (∀ a, (w.reset ws).abs a = absSnap (ws a)) ∧ WInv (w.reset ws) pool := by
  refine forall_and.mp fun a => ?_
  have ha := h a
  have h0 : LocInv (ws a) none (w.lastAcc a) (pool a) w.next :=
    ha.mono (Reach.cases (fun s r => .stored (hws a s r)) (fun _ => .lastAcc) (fun _ _ hx => nomatch hx)
      (fun _ => .stored)) (fun s r => ha.nonempty s (.inr (r.elim (hws a s) id)))
      (fun _ _ hx => nomatch hx) (fun _ hx => nomatch hx)
  rw [abs_eq]
  unfold World.reset
  simp only
  cases hm : w.macc a with
  | none => exact ⟨rfl, h0⟩
  | some x =>
    rw [hm] at ha
    simp only [Option.map_some]
    cases hv : ws a with
    | none => rw [hv] at h0; exact h0.load
    | some v =>
      rw [hv] at h0
      dsimp only
      fun_cases AState.reset x v with
      | case1 l hlast he =>
        -- same stamp as the cached snapshot: same object, and the state holds its content already
        have rv : Reach (w.trie a) (some x) (w.lastAcc a) (pool a) v := .stored (hws a v hv)
        cases ha.inj l v (.cached rfl hlast) rv he
        have hl := ha.last x v rfl hlast
        exact ⟨(absSnap_of_state v x hl.1 hl.2).symm,
          ha.mono (Reach.cases (fun _ r => Option.some.inj r ▸ rv) (fun _ r => Option.some.inj r ▸ rv)
            (fun _ _ hy => hy ▸ .cached rfl) (fun _ => .stored)) h0.nonempty ha.last
            (fun _ _ => ⟨fun _ hz => Or.inr hz, fun hn => nomatch hn⟩)⟩
      | case2 | case3 => exact h0.load

theorem clearCache_spec (w : World) (pool) (h : WInv w pool) :
    (∀ a, w.clearCache.abs a = w.abs a) ∧ WInv w.clearCache pool := by
  obtain ⟨fa, fi⟩ := flush_spec w pool h
  refine ⟨fun a => (fa a).1, fun a => ?_⟩
  have ha := fi a
  exact ha.mono (Reach.cases (fun _ => .trie) (fun _ r => nomatch r) (fun _ _ hx => nomatch hx) (fun _ => .stored))
    ha.nonempty (fun _ _ hx => nomatch hx) (fun _ hx => nomatch hx)

theorem getAccountSnapshot_spec (w : World) (pool) (h : WInv w pool) (a : Nat) :
    absSnap (w.getAccountSnapshot a).2 = w.abs a ∧
    (∀ b, (w.getAccountSnapshot a).1.abs b = w.abs b) ∧
    WInv (w.getAccountSnapshot a).1 pool := by
  fun_cases World.getAccountSnapshot w a with
  | case1 x hm st' s hsn =>
    have ha := h a
    rw [hm] at ha
    obtain ⟨hi, -, hsnap, hx'⟩ := ha.snapshot (next := w.next)
    rw [hsn] at hi hsnap hx'
    refine ⟨by rw [abs_eq, hm]; exact hsnap, forall_and.mp fun b => ?_⟩
    rw [abs_eq, abs_eq]
    by_cases hb : b = a
    · subst hb; simp only [upd_same, hm]; exact ⟨hx', hi⟩
    · simp only [upd_other _ _ _ _ hb]; exact ⟨trivial, (h b).tick⟩
  | case2 hm => exact ⟨by rw [abs_eq, hm], fun _ => rfl, h⟩

/-- Flush + reload from the hash: the decoded account object is a new one, so it enters as a
    fresh snapshot with the old content. -/
theorem reload_spec (w : World) (pool) (h : WInv w pool) (ws : WSnap) (hws : ∀ a s, ws a = some s → pool a s) :
    (∀ a, (World.reload w.next ws).abs a = absSnap (ws a)) ∧ WInv (World.reload w.next ws) pool := by
  refine forall_and.mp fun a => ?_
  have ha := h a
  rw [abs_eq]
  unfold World.reload
  simp only
  cases hv : ws a with
  | none =>
    exact ⟨rfl, ha.tick.mono (Reach.cases (fun _ r => nomatch r) (fun _ r => nomatch r) (fun _ _ hx => nomatch hx)
        (fun _ => .stored)) (fun s r => ha.nonempty s (.inr (r.elim (fun r => nomatch r) id)))
      (fun _ _ hx => nomatch hx) (fun _ hx => nomatch hx)⟩
  | some v =>
    have hp := hws a v hv
    refine ⟨rfl, ha.add ⟨w.next, v.hdr, v.store⟩ rfl (ha.normal v (.stored hp))
      (Reach.cases (fun _ r => .inl (Option.some.inj r).symm) (fun _ r => nomatch r) (fun _ _ hx => nomatch hx)
        (fun _ r => .inr (.stored r)))
      (fun s r => ?_) (fun _ _ hx => nomatch hx) (fun _ hx => nomatch hx)⟩
    rcases r with r | r
    · cases r; exact ha.nonempty v (Or.inr hp)
    · exact ha.nonempty s (Or.inr r)

def poolOf (snaps : List WSnap) : Nat → Snap → Prop := fun a s => ∃ ws, ws ∈ snaps ∧ ws a = some s

/-- the invariant of a history: world + every snapshot taken so far -/
def Inv (h : Hist) : Prop := WInv h.w (poolOf h.snaps)

theorem step_inv (h : Hist) (op : Op) (hi : Inv h) : Inv (h.step op) := by
  unfold Inv at *
  -- the paths of `Hist.step`: the constructors of `Op` in their order, `.reset` and `.reload` two each
  -- (the snapshot exists: 13, 16; it does not: 14, 17)
  fun_cases Hist.step h op with
  | case1 a v => exact mutate_inv _ _ hi a (·.setBalance v) (setBalance_last · v)
  | case2 a k v => exact mutate_inv _ _ hi a (fun x => (x.setValue k v).1) (setValue_last · k v)
  | case3 a k => exact mutate_inv _ _ hi a (fun x => (x.deleteValue k).1) (deleteValue_last · k)
  | case4 a c => exact mutate_inv _ _ hi a (·.deploy c) (deploy_last · c)
  | case5 a => exact mutate_inv _ _ hi a (·.initContract) initContract_last
  | case6 a c => exact mutate_inv _ _ hi a (·.deployContract c) (deployContract_last · c)
  | case7 a c => exact mutate_inv _ _ hi a (fun x => (x.acceptContract c).1) (acceptContract_last · c)
  | case8 a c => exact mutate_inv _ _ hi a (fun x => (x.rejectContract c).1) (rejectContract_last · c)
  | case9 a nh g => exact mutate_inv _ _ hi a (·.setObjGraph nh g) (setObjGraph_last · nh g)
  | case10 a => exact (getAccountState_spec _ _ hi a).2.2
  | case11 a => exact (getAccountSnapshot_spec _ _ hi a).2.2
  | case12 w' s hs =>
    intro a
    cases hs
    refine ((flush_spec _ _ hi).2 a).mono_pool ?_
    rintro s ⟨ws, hm, hs⟩
    rcases List.mem_append.mp hm with m | m
    · exact .inl ⟨ws, m, hs⟩
    · cases List.mem_singleton.mp m; exact .inr hs
  | case13 i ws hws => exact (reset_spec _ _ hi ws (fun a s hs => ⟨ws, List.mem_of_getElem? hws, hs⟩)).2
  | case15 => exact (clearCache_spec _ _ hi).2
  | case16 i ws hws => exact (reload_spec _ _ hi ws (fun a s hs => ⟨ws, List.mem_of_getElem? hws, hs⟩)).2
  | case14 | case17 => exact hi

theorem init_hist_inv : Inv Hist.init := by
  intro a
  have hno : ∀ s, ¬ Reach none none none (poolOf [] a) s :=
    Reach.cases (fun _ r => nomatch r) (fun _ r => nomatch r) (fun _ _ hx => nomatch hx)
      (fun _ ⟨_, hm, _⟩ => nomatch hm)
  show LocInv none none none (poolOf [] a) 0
  exact ⟨fun s r => absurd r (hno s), fun s r => absurd r (hno s), fun s _ r => absurd r (hno s),
    fun s r => absurd (r.elim .trie .stored) (hno s), fun _ _ hx => (nomatch hx),
    fun _ hx => (nomatch hx)⟩

theorem run_inv (h : Hist) (ops : List Op) (hi : Inv h) : Inv (h.run ops) :=
  List.foldlRecOn ops _ hi fun h hi op _ => step_inv h op hi

theorem step_snaps_prefix (h : Hist) (op : Op) : h.snaps <+: (h.step op).snaps := by
  fun_cases Hist.step h op with
  | case12 => exact List.prefix_append _ _  -- `.snapshot`
  | _ => exact List.prefix_refl _

theorem run_snaps_prefix (h : Hist) (ops : List Op) : h.snaps <+: (h.run ops).snaps :=
  List.foldlRecOn (motive := fun h' => h.snaps <+: h'.snaps) ops _ (List.prefix_refl _)
    fun h' hp op _ => hp.trans (step_snaps_prefix h' op)

/-- balance of an account in the abstract state (absent = 0) -/
def obsBal (d : Option AcctData) : Int := (d.map (·.bal)).getD 0
/-- storage value of an account in the abstract state (absent = none) -/
def obsGet (d : Option AcctData) (k : Nat) : Option Nat := d.bind (·.get k)
/-- contract part of an account in the abstract state (absent = not a contract) -/
def obsIsContract (d : Option AcctData) : Bool := (d.map (·.isContract)).getD false
def obsCur (d : Option AcctData) : Option Nat := d.bind (·.cur)
def obsNext (d : Option AcctData) : Option (Nat × Bool) := d.bind (·.next)
def obsGraph (d : Option AcctData) : Option Graph := d.bind (·.graph)

theorem contentEmpty_spec {h : Hdr} {s : Option KV} (he : contentEmpty h s = true) :
    h.bal = 0 ∧ h.isContract = false ∧ s.getD [] = [] := by
  simp only [contentEmpty, Bool.and_eq_true, beq_iff_eq, Bool.not_eq_true'] at he
  refine ⟨he.1.1, he.1.2, ?_⟩
  rcases s with _ | _ | ⟨p, ps⟩
  · rfl
  · rfl
  · cases he.2

theorem obsBal_absSt (x : AState) : obsBal (absSt x) = x.hdr.bal := by
  unfold absSt; split
  · rename_i he; exact (contentEmpty_spec he).1.symm
  · rfl

theorem obsGet_absSt (x : AState) (k : Nat) : obsGet (absSt x) k = kvGet (x.store.getD []) k := by
  unfold absSt; split
  · rename_i he; rw [(contentEmpty_spec he).2.2]; rfl
  · rfl

theorem obsIsContract_absSt (x : AState) : obsIsContract (absSt x) = x.hdr.isContract := by
  unfold absSt; split
  · rename_i he; exact (contentEmpty_spec he).2.1.symm
  · rfl

theorem absSt_contract (x : AState) (hc : x.hdr.isContract = true) :
    absSt x = some (dataOf x.hdr x.store) :=
  if_neg fun he => by rw [(contentEmpty_spec he).2.1] at hc; cases hc

theorem lookup_filter {β} (l : List (Nat × β)) (k k' : Nat) :
    (l.filter (fun p => p.1 != k)).lookup k' = if k' = k then none else l.lookup k' := by
  rw [lookup_filter_key l (· != k) k']
  by_cases hk : k' = k <;> simp [hk]

theorem kvGet_kvDel (l : KV) (k k' : Nat) : kvGet (kvDel l k) k' = if k' = k then none else kvGet l k' :=
  lookup_filter l k k'

theorem kvGet_kvSet (l : KV) (k v k' : Nat) : kvGet (kvSet l k v) k' = if k' = k then some v else kvGet l k' := by
  show ((k, v) :: kvDel l k).lookup k' = _
  rw [List.lookup_cons]
  by_cases hk : k' = k
  · rw [if_pos hk, hk, beq_self_eq_true]
  · rw [if_neg hk, beq_false_of_ne hk]
    exact (kvGet_kvDel l k k').trans (if_neg hk)

theorem ogGet_ogSet (c : OgCache) (id : Nat) (g : Option Graph) : ogGet (ogSet c id g) id = g := by
  unfold ogGet ogSet
  cases g with
  | none => exact (lookup_filter c id id).trans (if_pos rfl)
  | some g => simp

/-- `w'` is a variable so that a user can put the world operation itself there (`h.w.setBalance a v`, …):
    each of them unfolds to this `putState` form, so `hw` is `rfl`. -/
theorem mutate_abs (w : World) (pool) (h : WInv w pool) (a : Nat) (f : AState → AState) (w' : World)
    (hw : w' = (w.getAccountState a).1.putState a (f (w.getAccountState a).2)) :
    w'.abs a = absSt (f (w.getAccountState a).2) ∧
    w.abs a = absSt (w.getAccountState a).2 ∧
    ∀ b, b ≠ a → w'.abs b = w.abs b := by
  subst hw
  have g := getAccountState_spec w pool h a
  refine ⟨?_, ?_, ?_⟩
  · rw [abs_eq]; unfold World.putState; simp only [upd_same]
  · rw [← g.2.1 a, abs_eq, g.1]
  · intro b hb
    rw [← g.2.1 b, abs_eq, abs_eq]
    unfold World.putState
    simp only [upd_other _ _ _ _ hb]

theorem setBalance_bal (x : AState) (v : Int) : (x.setBalance v).hdr.bal = v := by
  fun_cases AState.setBalance x v with
  | case1 => rfl
  | case2 hne => exact Decidable.of_not_not hne

theorem setBalance_store (x : AState) (v : Int) : (x.setBalance v).store = x.store := by
  fun_cases AState.setBalance x v <;> rfl

theorem setValue_eq (x : AState) (k : Nat) {v : Nat} (hv : v ≠ 0) :
    x.setValue k v = ({ x with store := some (kvSet (x.store.getD []) k v), last := none },
      (kvGet (x.store.getD []) k).getD 0) := by
  unfold AState.setValue; rw [if_neg hv]

theorem deployContract_eq (x : AState) (c : Nat) (hc : x.hdr.isContract = true) :
    x.deployContract c = { x with hdr := { x.hdr with next := some (c, false) }, last := none } := by
  unfold AState.deployContract; simp [hc]

theorem deleteValue_hdr (x : AState) (k : Nat) : (x.deleteValue k).1.hdr = x.hdr := by
  fun_cases AState.deleteValue x k <;> rfl

theorem deleteValue_get (x : AState) (k k' : Nat) :
    kvGet ((x.deleteValue k).1.store.getD []) k' =
      if k' = k then none else kvGet (x.store.getD []) k' := by
  fun_cases AState.deleteValue x k with
  | case1 hs => rw [hs]; exact (ite_self _).symm
  | case2 l hs old hg => rw [hs]; exact kvGet_kvDel l k k'
  | case3 l hs hg =>
    rw [hs]
    split
    · rename_i e; rw [e]; exact hg
    · rfl

end Goloop.C14.Proofs
