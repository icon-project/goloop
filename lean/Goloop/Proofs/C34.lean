import Goloop.Model.C34
import Goloop.Base.Cases
import Goloop.Base.IntSum
import Goloop.Base.List
namespace Goloop.C34.Proofs
open Goloop.C34

theorem sumInt_cons (a : Int) (l : List Int) : sumInt (a :: l) = a + sumInt l := rfl

/-- the timers move expiring unstakes into the balance: holdings are unchanged -/
theorem fire_holdings (h : Int) (a : Account) : (fire h a).holdings = a.holdings := by
  fun_cases fire h a with
  | case1 a1 =>
    simp only [a1, Account.holdings, Account.unstaking]
    have : sumInt _ = sumInt _ + sumInt ((a.unstakes.filter (fun u => u.2 != h)).map (·.1)) :=
      sum_filter_split a.unstakes (fun u => u.2 == h) (·.1)
    omega
  | case2 => rfl

theorem fire_stake (h : Int) (a : Account) : (fire h a).stake = a.stake := by
  fun_cases fire h a <;> rfl
theorem fire_delegs (h : Int) (a : Account) : (fire h a).delegs = a.delegs := by
  fun_cases fire h a <;> rfl
theorem fire_bonds (h : Int) (a : Account) : (fire h a).bonds = a.bonds := by
  fun_cases fire h a <;> rfl
theorem fire_unbonds (h : Int) (a : Account) : (fire h a).unbonds = a.unbonds.filter (fun u => u.2.2 != h) := by
  fun_cases fire h a <;> rfl

def sumF (f : Account → Int) (l : List Account) : Int := sumInt (l.map f)

theorem sumF_map (f : Account → Int) (g : Account → Account) (h : ∀ a, f (g a) = f a) (l : List Account) :
    sumF f (l.map g) = sumF f l :=
  congrArg sumInt (List.map_map.trans (List.map_congr_left fun a _ => h a))

structure Inv (w : World) : Prop where
  supply : w.totalSupply = w.rest + sumF Account.holdings w.accts
  stake : w.totalStake = sumF Account.stake w.accts

theorem sumF_setAcct (f : Account → Int) {w : World} {i : Nat} {a : Account} (a' : Account) (h : w.accts[i]? = some a) :
    sumF f (setAcct w i a').accts = sumF f w.accts + (f a' - f a) :=
  sum_map_set f a' h

/-- `Step w tx w'` holds whenever `applyTx w tx = some w'` (`step_of_applyTx`), not conversely: per operation it
    has the resulting world and, of the guards passed, those the invariants use; `same` admits every `tx`, and
    `stake` leaves the new `utimers` free, the timers being treated apart (`TimersOkW`, `GoodTimers`). -/
inductive Step : World → Tx → World → Prop
  /-- `none`, a stake set to its present value, a transfer of 0 or to oneself -/
  | same (w tx) : Step w tx w
  | register (w k) : w.registered k = false →
      Step w (.register k)
        { w with registered := fun x => if x = k then true else w.registered x,
                 active := fun x => if x = k then true else w.active x,
                 totalDeleg := if w.pDelegated k > 0 then w.totalDeleg + w.pDelegated k else w.totalDeleg }
  | unregister (w k) : w.active k = true → w.pBonded k ≤ 0 →
      Step w (.unregister k)
        { w with active := fun x => if x = k then false else w.active x,
                 totalDeleg := w.totalDeleg - w.pDelegated k }
  /-- the balance falls by `setStake`'s `diff`, the new `totalStake` (stake + unstaking) less the old -/
  | stake (w i v a us ts) : w.accts[i]? = some a → a.usingStake ≤ v →
      us = newUnstakes a.unstakes (v - a.stake) (w.height + w.lock) w.slotMax →
      Step w (.stake i v)
        { setAcct w i { a with unstakes := us, stake := v, utimers := ts,
                               balance := a.balance - (v + sumInt (us.map (·.1)) - a.totalStake) } with
          totalStake := w.totalStake + (v - a.stake) }
  | deleg (w i ds a) : w.accts[i]? = some a →
      ({ a with delegs := ds } : Account).usingStake ≤ a.stake →
      Step w (.deleg i ds)
        { setAcct w i { a with delegs := ds } with
          totalDeleg := w.totalDeleg + activeSum w.active ds - activeSum w.active a.delegs,
          pDelegated := fun k => w.pDelegated k + deltaVote a.delegs ds k }
  | bond (w i bs al a ubs) : w.accts[i]? = some a →
      (∀ b ∈ bs, w.registered b.1 = true) →
      ubs = (voteKeys a.bonds bs).foldl
        (fun ubs k => updateUnbond ubs k (lookupVote bs k - lookupVote a.bonds k) (w.unbondPeriod + w.height))
        a.unbonds →
      ({ a with bonds := bs, unbonds := ubs } : Account).usingStake ≤ a.stake →
      Step w (.bond i bs al)
        { setAcct w i { a with bonds := bs, unbonds := ubs } with
          totalBond := w.totalBond + activeSum w.active bs - activeSum w.active a.bonds,
          pBonded := fun k => w.pBonded k + deltaVote a.bonds bs k }
  /-- a transfer is the sender claiming `-v` and the receiver claiming `v`: `rest` nets to zero -/
  | xfer (w w1 w' i j v) : Step w (.claim i (-v) true) w1 → Step w1 (.claim j v true) w' →
      Step w (.xfer i j v) w'
  /-- the new `rest` is a variable with its equation, so that the second claim of a transfer can
      name the net result `w.rest` instead of `w.rest - -v - v` -/
  | claim (w i icx ok a r) : w.accts[i]? = some a → r = w.rest - icx →
      Step w (.claim i icx ok) { setAcct w i { a with balance := a.balance + icx } with rest := r }
  | burn (w i fee a) : w.accts[i]? = some a →
      Step w (.burn i fee)
        { setAcct w i { a with balance := a.balance - fee } with totalSupply := w.totalSupply - fee }
  | regPRep (w w1 w' i k fee) : Step w (.burn i fee) w1 → Step w1 (.register k) w' →
      Step w (.regPRep i k fee) w'

theorem getAcct_get {w : World} {i : Nat} (hi : i < w.accts.length) : w.accts[i]? = some (getAcct w i) := by
  simp only [getAcct, List.getD, List.getElem?_eq_getElem hi, Option.getD_some]

theorem getAcct_eq {w : World} {i : Nat} {a : Account} (h : w.accts[i]? = some a) : getAcct w i = a :=
  congrArg (·.getD {}) h

theorem getAcct_setAcct {w : World} {i : Nat} {a : Account} (j : Nat) (a' : Account) (hi : w.accts[i]? = some a) :
    getAcct (setAcct w i a') j = if i = j then a' else getAcct w j := by
  simp only [getAcct, setAcct, getD_set, (List.getElem?_eq_some_iff.mp hi).1, and_true]

theorem setStake_step {w w' : World} {i : Nat} {v : Int} (hi : i < w.accts.length) :
    setStake w i v = some w' → Step w (.stake i v) w' := by
  fun_cases setStake w i v with
  | case2 => rintro ⟨⟩; exact .same w _
  | case7 _ hv => rintro ⟨⟩; exact .stake w i v _ _ _ (getAcct_get hi) (Int.not_lt.mp hv) rfl
  | _ => nofun

theorem setDelegation_step {w w' : World} {i : Nat} {ds : Votes} (hi : i < w.accts.length) :
    setDelegation w i ds = some w' → Step w (.deleg i ds) w' := by
  fun_cases setDelegation w i ds with
  | case1 => nofun
  | case2 a usingNew hv =>
    rintro ⟨⟩
    refine .deleg w i ds _ (getAcct_get hi) ?_
    simp only [usingNew, Account.usingStake, Account.delegating, Account.bonded, Account.unbonding] at hv ⊢
    omega

theorem setBond_step {w w' : World} {i : Nat} {bs : Votes} {al : Bool} (hi : i < w.accts.length) :
    setBond w i bs al = some w' → Step w (.bond i bs al) w' := by
  fun_cases setBond w i bs al with
  | case6 _ _ hreg _ _ _ _ _ hu =>
    rintro ⟨⟩
    exact .bond w i bs al _ _ (getAcct_get hi) (by simpa using hreg) rfl (Int.not_lt.mp hu)
  | _ => nofun

theorem transfer_step {w w' : World} {i j : Nat} {v : Int} (hi : i < w.accts.length) (hj : j < w.accts.length) :
    transfer w i j v = some w' → Step w (.xfer i j v) w' := by
  fun_cases transfer w i j v with
  | case1 | case3 => nofun
  | case2 => rintro ⟨⟩; exact .same w _
  | case4 =>
    rintro ⟨⟩
    exact .xfer w _ _ i j v (.claim w i (-v) true _ _ (getAcct_get hi) rfl)
      (.claim _ j v true _ w.rest (getAcct_get ((List.length_set ..).symm ▸ hj)) (by show w.rest = w.rest - -v - v; omega))

theorem step_of_applyTx0 {w w' : World} {tx : Tx} : applyTx0 w tx = some w' → Step w tx w' := by
  unfold applyTx0
  refine of_guard nofun fun hr => ?_
  have hr : tx.inRange w.accts.length = true := by simpa using hr
  cases tx with
  | none => intro h; cases h; exact .same w _
  | register k =>
    refine of_guard nofun fun hreg h => ?_
    cases h; exact .register w k (by simpa using hreg)
  | unregister k =>
    refine of_guard nofun fun hact => of_guard nofun fun hb h => ?_
    cases h; exact .unregister w k (by simpa using hact) (Int.not_lt.mp hb)
  | stake i v => exact setStake_step (of_decide_eq_true hr)
  | deleg i ds => exact setDelegation_step (of_decide_eq_true hr)
  | bond i bs al => exact setBond_step (of_decide_eq_true hr)
  | xfer i j v =>
    have := Bool.and_eq_true_iff.mp hr
    exact transfer_step (of_decide_eq_true this.1) (of_decide_eq_true this.2)
  | claim i icx ok =>
    refine of_guard nofun fun _ h => ?_
    cases h; exact .claim w i icx ok _ _ (getAcct_get (of_decide_eq_true hr)) rfl
  | burn i fee =>
    refine of_guard nofun fun _ => of_guard nofun fun _ h => ?_
    cases h; exact .burn w i fee _ (getAcct_get (of_decide_eq_true hr))
  | regPRep i k fee => intro h; cases h

theorem step_of_applyTx {w w' : World} {tx : Tx} : applyTx w tx = some w' → Step w tx w' := by
  fun_cases applyTx w tx with
  | case1 i k fee =>
    intro h
    obtain ⟨w1, h1, h⟩ := Option.bind_eq_some_iff.mp h
    exact .regPRep w w1 w' i k fee (step_of_applyTx0 h1) (step_of_applyTx0 h)
  | case2 => exact step_of_applyTx0

theorem applyTxs_preserves (P : World → Prop) (txs : List Tx) (w : World) :
    (∀ {w tx w'}, tx ∈ txs → Step w tx w' → P w → P w') → P w → P (applyTxs w txs).1 := by
  fun_induction applyTxs w txs with
  | case1 => exact fun _ => id
  | case2 w tx rest w' heq _ ih =>
    exact fun h hw => ih (fun ht => h (List.mem_cons_of_mem _ ht)) (h (List.mem_cons_self ..) (step_of_applyTx heq) hw)
  | case3 w tx rest _ _ ih => exact fun h => ih fun ht => h (List.mem_cons_of_mem _ ht)

theorem run_preserves (P : World → Prop)
    (hissue : ∀ w issue, P w →
      P { w with height := w.height + 1, rest := w.rest + issue, totalSupply := w.totalSupply + issue })
    (hfire : ∀ w, P w → P { w with accts := w.accts.map (fire w.height) }) (ops : List (List Tx × Int)) (w : World) :
      (∀ {w tx w'}, ∀ op ∈ ops, tx ∈ op.1 → Step w tx w' → P w → P w') → P w → P (run w ops) := by
  fun_induction run w ops with
  | case1 => exact fun _ => id
  | case2 w op rest ih =>
    exact fun hstep hw => ih (fun o ho => hstep o (List.mem_cons_of_mem _ ho))
      (hfire _ (applyTxs_preserves P op.1 _ (hstep op (List.mem_cons_self ..)) (hissue w op.2 hw)))

theorem inv_setAcct {w w' : World} {i : Nat} {a : Account} (inv : Inv w) (hi : w.accts[i]? = some a) (a' : Account)
    (hacc : w'.accts = (setAcct w i a').accts)
    (hs : w'.totalSupply - w'.rest = w.totalSupply - w.rest + (a'.holdings - a.holdings))
    (ht : w'.totalStake = w.totalStake + (a'.stake - a.stake)) : Inv w' := by
  constructor
  · rw [hacc, sumF_setAcct _ _ hi]
    refine Int.sub_eq_iff_eq_add'.mp ?_
    rw [hs, inv.supply, Int.add_comm w.rest, Int.add_sub_cancel]
  · rw [hacc, sumF_setAcct _ _ hi, ht, inv.stake]

theorem inv_step {w w' : World} {tx : Tx} (s : Step w tx w') : Inv w → Inv w' := by
  induction s with
  | same => exact id
  | register | unregister => exact fun inv => ⟨inv.supply, inv.stake⟩
  | stake w i v a us ts hi _ _ =>
    intro inv
    refine inv_setAcct inv hi _ rfl ?_ rfl
    simp only [setAcct, Account.holdings, Account.totalStake, Account.unstaking]; omega
  | deleg w i _ a hi | bond w i _ _ a _ hi =>
    intro inv
    exact inv_setAcct inv hi _ rfl (by simp [setAcct, Account.holdings, Account.unstaking]) (by simp [setAcct])
  | claim w i _ _ a _ hi | burn w i _ a hi =>
    intro inv
    refine inv_setAcct inv hi _ rfl ?_ (by simp [setAcct])
    -- for a claim `omega` reads the constructor's `r = w.rest - icx` from the context
    simp only [setAcct, Account.holdings, Account.unstaking]; omega
  | regPRep _ _ _ _ _ _ _ _ ih1 ih2 | xfer _ _ _ _ _ _ _ _ ih1 ih2 => exact fun inv => ih2 (ih1 inv)

theorem inv_run (w : World) (ops : List (List Tx × Int)) (h : Inv w) : Inv (run w ops) :=
  run_preserves Inv
    (fun w issue inv => ⟨by show w.totalSupply + issue = w.rest + issue + sumF Account.holdings w.accts; rw [inv.supply]; exact Int.add_right_comm .., inv.stake⟩)
    (fun w inv =>
      ⟨by show _ = _ + sumF _ (w.accts.map _); rw [sumF_map _ _ (fire_holdings w.height)]; exact inv.supply,
       by show _ = sumF _ (w.accts.map _); rw [sumF_map _ _ (fire_stake w.height)]; exact inv.stake⟩)
    ops w (fun _ _ _ s => inv_step s) h

def UnbondsNonneg (a : Account) : Prop := ∀ u ∈ a.unbonds, 0 ≤ u.2.1

def AcctOk (a : Account) : Prop := a.usingStake ≤ a.stake ∧ UnbondsNonneg a

theorem updateUnbond_nonneg (ubs : List (Nat × Int × Int)) (k : Nat) (delta expire : Int)
    (h : ∀ u ∈ ubs, 0 ≤ u.2.1) : ∀ u ∈ updateUnbond ubs k delta expire, 0 ≤ u.2.1 := by
  intro u
  fun_cases updateUnbond ubs k delta expire with
  | case1 => exact h u
  | case2 _ hneg =>
    intro hu
    obtain ⟨x, hx, rfl⟩ := List.mem_map.mp hu
    have := h x hx
    exact ite_pred (fun y : Nat × Int × Int => 0 ≤ y.2.1) _ _ _
      (fun _ => Int.sub_nonneg_of_le (Int.le_trans (Int.le_of_lt hneg) this)) fun _ => this
  | case3 _ hneg =>
    intro hu
    rcases List.mem_append.mp hu with hu | hu
    · exact h u hu
    · rw [List.mem_singleton.mp hu]
      exact Int.neg_nonneg_of_nonpos (Int.le_of_lt hneg)
  | case4 =>
    intro hu
    have ⟨hm, hf⟩ := List.mem_filter.mp hu
    obtain ⟨x, hx, rfl⟩ := List.mem_map.mp hm
    by_cases hk : (x.1 == k) = true
    · rw [if_pos hk] at hf ⊢
      simp at hf
      exact Int.sub_nonneg_of_le (Int.le_of_lt hf)
    · rw [if_neg hk]; exact h x hx

theorem fire_ok (h : Int) (a : Account) (ok : AcctOk a) : AcctOk (fire h a) := by
  obtain ⟨hu, hn⟩ := ok
  constructor
  · have : sumInt _ ≤ sumInt _ := sum_filter_le a.unbonds (fun u => u.2.2 != h) (·.2.1) hn
    simp only [Account.usingStake, Account.unbonding, Account.delegating, Account.bonded,
      fire_stake, fire_delegs, fire_bonds, fire_unbonds] at *
    exact Int.le_trans (Int.add_le_add_left this _) hu
  · intro u hu'
    simp only [fire_unbonds] at hu'
    exact hn u (List.mem_filter.mp hu').1

def AllOk (w : World) : Prop := ∀ a ∈ w.accts, AcctOk a

theorem allOk_set (w : World) (i : Nat) (a : Account) (h : AllOk w) (ha : AcctOk a) : AllOk (setAcct w i a) := by
  intro x hx
  rcases List.mem_or_eq_of_mem_set hx with hm | rfl
  · exact h x hm
  · exact ha

theorem allOk_step {w w' : World} {tx : Tx} (s : Step w tx w') : AllOk w → AllOk w' := by
  induction s with
  | same | register | unregister => exact id
  | stake w i _ a _ _ hi hu | deleg w i _ a hi hu =>
    intro ok
    exact allOk_set w i _ ok ⟨hu, (ok a (List.mem_of_getElem? hi)).2⟩
  | bond w i bs al a ubs hi _ hubs hu =>
    intro ok; subst hubs
    exact allOk_set w i _ ok ⟨hu, List.foldlRecOn (motive := fun ubs : List (Nat × Int × Int) => ∀ u ∈ ubs, 0 ≤ u.2.1) _ _
      (ok a (List.mem_of_getElem? hi)).2 fun ubs h k _ => updateUnbond_nonneg ubs k _ _ h⟩
  | claim w i _ _ a _ hi | burn w i _ a hi =>
    intro ok
    exact allOk_set w i _ ok (ok a (List.mem_of_getElem? hi))
  | regPRep _ _ _ _ _ _ _ _ ih1 ih2 | xfer _ _ _ _ _ _ _ _ ih1 ih2 => exact fun ok => ih2 (ih1 ok)

theorem allOk_run (w : World) (ops : List (List Tx × Int)) (h : AllOk w) : AllOk (run w ops) :=
  run_preserves AllOk (fun _ _ ok => ok)
    (fun w ok x hx => by
      obtain ⟨y, hy, rfl⟩ := List.mem_map.mp hx
      exact fire_ok _ y (ok y hy))
    ops w (fun _ _ _ s => allOk_step s) h

theorem decreaseRev_suffix (l : List (Int × Int)) (r : Int) : (decreaseRev l r).map (·.2) <:+ l.map (·.2) := by
  fun_induction decreaseRev l r with
  | case1 | case4 => exact List.suffix_rfl
  | case2 => exact List.suffix_cons ..
  | case3 _ _ _ _ _ ih => exact ih.trans (List.suffix_cons ..)

theorem insertRev_perm (l : List (Int × Int)) (u : Int × Int) : (insertUnstake.decreaseRevInsert l u).Perm (u :: l) := by
  fun_induction insertUnstake.decreaseRevInsert l u with
  | case1 | case2 => exact .refl _
  | case3 y _ _ _ ih => exact (ih.cons y).trans (.swap ..)

theorem newUnstakes_expire (us : List (Int × Int)) (inc eh : Int) (sm : Nat) :
    ∀ x ∈ newUnstakes us inc eh sm, x.2 = eh ∨ ∃ y ∈ us, x.2 = y.2 := by
  intro x
  fun_cases newUnstakes us inc eh sm with
  | case1 =>
    intro hx
    obtain ⟨y, hy, e⟩ := List.mem_map.mp ((decreaseRev_suffix _ _).subset (List.mem_map_of_mem (List.mem_reverse.mp hx)))
    exact Or.inr ⟨y, List.mem_reverse.mp hy, e.symm⟩
  | case2 =>
    fun_cases increaseUnstake us (-inc) eh sm with
    | case1 => exact fun hx => Or.inr ⟨x, hx, rfl⟩
    | case2 _ last rest heq =>
      intro hx
      have hsub : ∀ z ∈ last :: rest, z ∈ us := fun z hz => List.mem_reverse.mp (heq ▸ hz)
      rcases List.mem_cons.mp (List.mem_reverse.mp hx) with rfl | hm
      · simp only []
        split
        · exact Or.inl rfl
        · exact Or.inr ⟨last, hsub last (List.mem_cons_self ..), rfl⟩
      · exact Or.inr ⟨x, hsub x (List.mem_cons_of_mem _ hm), rfl⟩
    | case3 =>
      intro hx
      rcases List.mem_cons.mp ((insertRev_perm _ _).mem_iff.mp (List.mem_reverse.mp hx)) with rfl | h
      · exact Or.inl rfl
      · exact Or.inr ⟨x, List.mem_reverse.mp h, rfl⟩

def stakesFrom (j : Nat) : Tx → Bool
  | .stake i _ => i == j
  | _ => false

structure SlotsStep (w : World) (tx : Tx) (j : Nat) (w' : World) : Prop where
  height : w'.height = w.height
  lock : w'.lock = w.lock
  keep : stakesFrom j tx = false → (getAcct w' j).unstakes = (getAcct w j).unstakes
  expire : ∀ x ∈ (getAcct w' j).unstakes, x.2 = w.height + w.lock ∨ ∃ y ∈ (getAcct w j).unstakes, x.2 = y.2

theorem SlotsStep.of_eq {w w' : World} {tx : Tx} {j : Nat} (h1 : w'.height = w.height) (h2 : w'.lock = w.lock)
    (h3 : (getAcct w' j).unstakes = (getAcct w j).unstakes) : SlotsStep w tx j w' :=
  ⟨h1, h2, fun _ => h3, fun x hx => Or.inr ⟨x, h3 ▸ hx, rfl⟩⟩

theorem unstakes_setAcct {w : World} {i : Nat} {a : Account} (j : Nat) (a' : Account) (hi : w.accts[i]? = some a)
    (h : i = j → a'.unstakes = a.unstakes) : (getAcct (setAcct w i a') j).unstakes = (getAcct w j).unstakes := by
  rw [getAcct_setAcct j _ hi]
  split
  · rename_i e; rw [h e, ← e, getAcct_eq hi]
  · rfl

theorem slots_step {w w' : World} {tx : Tx} (s : Step w tx w') (j : Nat) : SlotsStep w tx j w' := by
  induction s with
  | same | register | unregister => exact .of_eq rfl rfl rfl
  | stake w i v a us ts hi _ hus =>
    subst hus
    by_cases hij : i = j
    · subst hij
      refine ⟨rfl, rfl, fun hs => absurd rfl (beq_eq_false_iff_ne.mp hs), fun x hx => ?_⟩
      change x ∈ (getAcct (setAcct w i _) i).unstakes at hx
      rw [getAcct_setAcct i _ hi, if_pos rfl] at hx
      rw [getAcct_eq hi]
      exact newUnstakes_expire _ _ _ _ x hx
    · exact .of_eq rfl rfl (unstakes_setAcct j _ hi fun e => absurd e hij)
  | deleg w i _ a hi | bond w i _ _ a _ hi | claim w i _ _ a _ hi | burn w i _ a hi =>
    exact .of_eq rfl rfl (unstakes_setAcct j _ hi fun _ => rfl)
  | regPRep _ _ _ _ _ _ _ _ ih1 ih2 | xfer _ _ _ _ _ _ _ _ ih1 ih2 =>
    exact .of_eq (ih2.height.trans ih1.height) (ih2.lock.trans ih1.lock) ((ih2.keep rfl).trans (ih1.keep rfl))

/-- inside a block: nothing expires before the current height -/
def MidOk (w : World) : Prop := 0 ≤ w.lock ∧ ∀ j, ∀ u ∈ (getAcct w j).unstakes, w.height ≤ u.2

/-- between blocks: every slot expires strictly later than the current height -/
def NoOverdue (w : World) : Prop := 0 ≤ w.lock ∧ ∀ j, ∀ u ∈ (getAcct w j).unstakes, w.height < u.2

theorem noOverdue_of_accts {w : World} (hl : 0 ≤ w.lock) (h : ∀ a ∈ w.accts, ∀ u ∈ a.unstakes, w.height < u.2) :
    NoOverdue w := by
  refine ⟨hl, fun j => ?_⟩
  rw [getAcct, List.getD_eq_getElem?_getD]
  cases hj : w.accts[j]? with
  | none => exact nofun
  | some a => exact h a (List.mem_of_getElem? hj)

theorem midOk_step {w w' : World} {tx : Tx} (s : Step w tx w') (hw : MidOk w) : MidOk w' := by
  constructor
  · rw [(slots_step s 0).lock]; exact hw.1
  · intro j u hu
    have st := slots_step s j
    rw [st.height]
    rcases st.expire u hu with e | ⟨y, hy, e⟩
    · rw [e]
      exact Int.le_add_of_nonneg_right hw.1
    · rw [e]
      exact hw.2 j y hy

/-- every slot's expiry height has the account in its unstaking timer -/
def TimersOkW (w : World) : Prop :=
  ∀ a ∈ w.accts, ∀ u ∈ a.unstakes, a.utimers.contains u.2 = true

theorem fire_unstakes_ok (h : Int) (a : Account) (hok : ∀ u ∈ a.unstakes, a.utimers.contains u.2 = true) :
    (fire h a).unstakes = a.unstakes.filter (fun u => u.2 != h) := by
  fun_cases fire h a with
  | case1 => rfl
  | case2 _ hc =>
    symm
    apply List.filter_eq_self.mpr
    intro u hu
    have := hok u hu
    simp only [bne_iff_ne, ne_eq]
    intro e
    rw [e] at this
    exact hc this

theorem getAcct_fire (w : World) (h : Int) (j : Nat) (hok : TimersOkW w) :
    (getAcct { w with accts := w.accts.map (fire h) } j).unstakes =
      (getAcct w j).unstakes.filter (fun u => u.2 != h) := by
  simp only [getAcct, List.getD, List.getElem?_map]
  cases hj : w.accts[j]? with
  | none => simp
  | some a =>
    simp only [Option.map_some, Option.getD_some]
    exact fire_unstakes_ok h a (hok a (List.mem_of_getElem? hj))

theorem applyTxs_height (txs : List Tx) (w : World) : (applyTxs w txs).1.height = w.height :=
  applyTxs_preserves (·.height = w.height) txs w (fun _ s e => (slots_step s 0).height.trans e) rfl

theorem block_height (w : World) (txs : List Tx) (issue : Int) : (block w txs issue).1.height = w.height + 1 := by
  simp only [block]
  rw [applyTxs_height]

theorem noOverdue_block (w : World) (txs : List Tx) (issue : Int) (hw : NoOverdue w)
    (hok : TimersOkW (preFire w txs issue)) : NoOverdue (block w txs issue).1 := by
  have m0 : MidOk { w with height := w.height + 1, rest := w.rest + issue, totalSupply := w.totalSupply + issue } :=
    ⟨hw.1, fun j u hu => Int.add_one_le_of_lt (hw.2 j u hu)⟩
  have m1 := applyTxs_preserves MidOk txs _ (fun _ s => midOk_step s) m0
  unfold block
  constructor
  · exact m1.1
  · intro j u hu
    unfold preFire at hok
    rw [getAcct_fire _ _ _ hok] at hu
    have ⟨hm, hf⟩ := List.mem_filter.mp hu
    have := m1.2 j u hm
    simp only [bne_iff_ne, ne_eq] at hf
    exact Int.lt_iff_le_and_ne.mpr ⟨this, fun e => hf e.symm⟩

theorem applyTxs_unstakes (j : Nat) (txs : List Tx) (w : World) (hq : ∀ tx ∈ txs, stakesFrom j tx = false) :
    (getAcct (applyTxs w txs).1 j).unstakes = (getAcct w j).unstakes :=
  applyTxs_preserves (fun w' => (getAcct w' j).unstakes = (getAcct w j).unstakes) txs w
    (fun ht s e => ((slots_step s j).keep (hq _ ht)).trans e) rfl

theorem block_unstakes (w : World) (txs : List Tx) (issue : Int) (j : Nat)
    (hq : ∀ tx ∈ txs, stakesFrom j tx = false) (hok : TimersOkW (preFire w txs issue)) :
    (getAcct (block w txs issue).1 j).unstakes =
      (getAcct w j).unstakes.filter (fun u => u.2 != w.height + 1) := by
  unfold block
  unfold preFire at hok
  rw [getAcct_fire _ _ _ hok, applyTxs_unstakes j txs _ hq, applyTxs_height]
  rfl

/-- the timers are consistent with the slots before the timer phase of every block of the history -/
def GoodTimers : World → List (List Tx × Int) → Prop
  | _, [] => True
  | w, op :: rest => TimersOkW (preFire w op.1 op.2) ∧ GoodTimers (block w op.1 op.2).1 rest

theorem noOverdue_run (w : World) (ops : List (List Tx × Int)) (h : NoOverdue w) (hg : GoodTimers w ops) :
    NoOverdue (run w ops) := by
  fun_induction run w ops with
  | case1 => exact h
  | case2 w op rest ih => exact ih (noOverdue_block w op.1 op.2 h hg.1) hg.2

theorem run_height (ops : List (List Tx × Int)) (w : World) : (run w ops).height = w.height + ops.length := by
  fun_induction run w ops with
  | case1 => simp
  | case2 w op rest ih =>
    rw [ih, block_height, List.length_cons]
    omega

theorem slots_lifetime (j : Nat) (ops : List (List Tx × Int)) (w : World) :
    NoOverdue w → (∀ op ∈ ops, ∀ tx ∈ op.1, stakesFrom j tx = false) → GoodTimers w ops →
    (getAcct (run w ops) j).unstakes =
      (getAcct w j).unstakes.filter (fun u => decide ((run w ops).height < u.2)) := by
  fun_induction run w ops with
  | case1 w =>
    intro hno _ _
    symm
    apply List.filter_eq_self.mpr
    intro u hu
    exact decide_eq_true (hno.2 j u hu)
  | case2 w op rest ih =>
    intro hno hq hg
    have hb := block_unstakes w op.1 op.2 j (hq op (by simp)) hg.1
    have hh := block_height w op.1 op.2
    rw [ih (noOverdue_block w op.1 op.2 hno hg.1) (fun o ho => hq o (by simp [ho])) hg.2, hb, List.filter_filter]
    apply List.filter_congr
    intro u hu
    have hfin := run_height rest (block w op.1 op.2).1
    by_cases hlt : (run (block w op.1 op.2).1 rest).height < u.2
    · have hne : u.2 ≠ w.height + 1 := by omega
      simp [hlt, hne]
    · simp [hlt]

/-- what the chain SCORE (`NewDelegations` / `NewBonds`) guarantees for a submitted vote list -/
def VotesWF (vs : Votes) : Prop := (vs.map (·.1)).Nodup ∧ ∀ v ∈ vs, 0 ≤ v.2

def TxWF : Tx → Prop
  | .deleg _ ds => VotesWF ds
  | .bond _ bs _ => VotesWF bs
  | _ => True

theorem votesTo_cons (k : Nat) (v : Nat × Int) (vs : Votes) :
    votesTo k (v :: vs) = (if v.1 == k then v.2 else 0) + votesTo k vs := by
  by_cases h : (v.1 == k) = true <;> simp [votesTo, h, sumInt_cons]

theorem votesTo_zero (k : Nat) (vs : Votes) (h : ∀ v ∈ vs, v.1 ≠ k) : votesTo k vs = 0 := by
  rw [votesTo, List.filter_eq_nil_iff.mpr fun v hv e => h v hv (eq_of_beq e)]
  rfl

theorem votesTo_nonneg (k : Nat) (vs : Votes) (h : ∀ v ∈ vs, 0 ≤ v.2) : 0 ≤ votesTo k vs :=
  sum_map_nonneg _ _ fun v hv => h v (List.mem_filter.mp hv).1

theorem lookupLast_eq_votesTo (vs : Votes) (k : Nat) (hnd : (vs.map (·.1)).Nodup) :
    lookupLast vs k = votesTo k vs := by
  refine Eq.trans ?_ (sum_key_find?_reverse vs hnd k).symm
  unfold lookupLast
  cases vs.reverse.find? (fun v => v.1 == k) <;> rfl

theorem activeSum_cons (act : Nat → Bool) (v : Nat × Int) (vs : Votes) :
    activeSum act (v :: vs) = (if act v.1 then v.2 else 0) + activeSum act vs := by
  by_cases h : act v.1 = true <;> simp [activeSum, h, sumInt_cons]

/-- two activities that differ only at `k`, which is off in `act` and on in `act'` -/
theorem activeSum_toggle {act act' : Nat → Bool} {k : Nat} (h : ∀ x, x ≠ k → act' x = act x) (hk : act k = false)
    (hk' : act' k = true) (vs : Votes) : activeSum act' vs = activeSum act vs + votesTo k vs := by
  induction vs with
  | nil => rfl
  | cons v vs ih =>
    rw [activeSum_cons, activeSum_cons, votesTo_cons, ih]
    by_cases e : v.1 = k
    · simp [e, hk, hk']; omega
    · have : (v.1 == k) = false := beq_eq_false_iff_ne.mpr e
      simp [h _ e, this]; omega

/-- switching `k` on adds every account's votes for `k` to the sum of the active votes -/
theorem sumF_toggle (f : Account → Votes) (l : List Account) {act act' : Nat → Bool} {k : Nat}
    (h : ∀ x, x ≠ k → act' x = act x) (hk : act k = false) (hk' : act' k = true) :
    sumF (fun a => activeSum act' (f a)) l = sumF (fun a => activeSum act (f a)) l + sumF (fun a => votesTo k (f a)) l :=
  (congrArg sumInt (List.map_congr_left fun a _ => activeSum_toggle h hk hk' (f a))).trans (sum_map_add l _ _)

structure Totals (w : World) : Prop where
  dP : ∀ k, w.pDelegated k = sumF (fun a => votesTo k a.delegs) w.accts
  bP : ∀ k, w.pBonded k = sumF (fun a => votesTo k a.bonds) w.accts
  tD : w.totalDeleg = sumF (fun a => activeSum w.active a.delegs) w.accts
  tB : w.totalBond = sumF (fun a => activeSum w.active a.bonds) w.accts
  wf : ∀ a ∈ w.accts, VotesWF a.delegs ∧ VotesWF a.bonds
  -- `reg`, `btgt`: a P-Rep about to register is not active and nobody bonds to it, so that switching it on
  -- adds `pDelegated k` to the delegated total and nothing to the bonded one (`totals_step`, `register`)
  reg : ∀ k, w.active k = true → w.registered k = true
  btgt : ∀ a ∈ w.accts, ∀ b ∈ a.bonds, w.registered b.1 = true

theorem add_sub_self (x y : Int) : x = x + (y - y) := by omega

theorem totals_set {w w' : World} {i : Nat} {a a' : Account} (hi : w.accts[i]? = some a) (T : Totals w)
    (hacc : w'.accts = w.accts.set i a') (hact : w'.active = w.active) (hreg : w'.registered = w.registered)
    (hwf : VotesWF a'.delegs ∧ VotesWF a'.bonds) (hbt : ∀ b ∈ a'.bonds, w.registered b.1 = true)
    (hdP : ∀ k, w'.pDelegated k = w.pDelegated k + (votesTo k a'.delegs - votesTo k a.delegs))
    (hbP : ∀ k, w'.pBonded k = w.pBonded k + (votesTo k a'.bonds - votesTo k a.bonds))
    (htD : w'.totalDeleg = w.totalDeleg + (activeSum w.active a'.delegs - activeSum w.active a.delegs))
    (htB : w'.totalBond = w.totalBond + (activeSum w.active a'.bonds - activeSum w.active a.bonds)) :
    Totals w' := by
  have h : ∀ f, sumF f w'.accts = sumF f w.accts + (f a' - f a) := fun f =>
    hacc ▸ sumF_setAcct f a' hi
  constructor
  · intro k; rw [hdP, T.dP k, h]
  · intro k; rw [hbP, T.bP k, h]
  · rw [htD, hact, T.tD, h]
  · rw [htB, hact, T.tB, h]
  · intro a ha
    rw [hacc] at ha
    rcases List.mem_or_eq_of_mem_set ha with hm | rfl
    · exact T.wf a hm
    · exact hwf
  · intro k hk; rw [hact] at hk; rw [hreg]; exact T.reg k hk
  · intro a ha b hb
    rw [hacc] at ha
    rw [hreg]
    rcases List.mem_or_eq_of_mem_set ha with hm | rfl
    · exact T.btgt a hm b hb
    · exact hbt b hb

theorem totals_step {w w' : World} {tx : Tx} (s : Step w tx w') : TxWF tx → Totals w → Totals w' := by
  induction s with
  | same => exact fun _ T => T
  | register w k hreg =>
    intro _ T
    have hact : w.active k = false := Bool.eq_false_iff.mpr fun hk => nomatch hreg.symm.trans (T.reg k hk)
    have hnn : 0 ≤ w.pDelegated k := by
      rw [T.dP k]
      exact sum_map_nonneg _ _ (fun a ha => votesTo_nonneg k _ (T.wf a ha).1.2)
    have hb0 : sumF (fun a => votesTo k a.bonds) w.accts = 0 :=
      sum_map_eq_zero _ _ fun a ha => votesTo_zero k _ fun b hb e => by
        have := T.btgt a ha b hb; rw [e, hreg] at this; cases this
    have on := fun f => sumF_toggle f w.accts (act' := fun x => if x = k then true else w.active x)
      (fun _ hx => if_neg hx) hact (if_pos rfl)
    constructor
    · exact T.dP
    · exact T.bP
    · -- `0 ≤ pDelegated k` (`hnn`), so the code's `if pDelegated k > 0` adds `pDelegated k` on either branch
      show (if w.pDelegated k > 0 then w.totalDeleg + w.pDelegated k else w.totalDeleg) = _
      rw [on Account.delegs, ← T.tD, ← T.dP k]
      refine ite_pred (· = _) _ _ _ (fun _ => rfl) fun h => ?_
      rw [Int.le_antisymm (Int.not_lt.mp h) hnn, Int.add_zero]
    · show w.totalBond = _
      rw [on Account.bonds, ← T.tB, hb0, Int.add_zero]
    · exact T.wf
    · intro x hx
      exact ite_pred (· = true) _ _ _ (fun _ => rfl) fun e => T.reg x ((if_neg e).symm.trans hx)
    · intro a ha b hb
      exact ite_both (· = true) rfl (T.btgt a ha b hb)
  | unregister w k hact hbond =>
    intro _ T
    have hb0 : w.pBonded k = 0 := by
      refine Int.le_antisymm hbond ?_
      rw [T.bP k]
      exact sum_map_nonneg _ _ (fun a ha => votesTo_nonneg k _ (T.wf a ha).2.2)
    have on := fun f => sumF_toggle f w.accts (act := fun x => if x = k then false else w.active x)
      (fun _ hx => (if_neg hx).symm) (if_pos rfl) hact
    constructor
    · exact T.dP
    · exact T.bP
    · show w.totalDeleg - w.pDelegated k = _
      rw [T.tD, T.dP k, on Account.delegs]
      exact Int.add_sub_cancel ..
    · show w.totalBond = _
      rw [T.tB, on Account.bonds, ← T.bP k, hb0]
      exact Int.add_zero _
    · exact T.wf
    · intro x
      exact ite_pred (· = true → _) _ _ _ (fun _ h => nomatch h) fun _ => T.reg x
    · exact T.btgt
  | stake w i _ a _ _ hi | claim w i _ _ a _ hi | burn w i _ a hi =>
    intro _ T
    have hm := List.mem_of_getElem? hi
    exact totals_set hi T rfl rfl rfl (T.wf a hm) (T.btgt a hm) (fun _ => add_sub_self _ _)
      (fun _ => add_sub_self _ _) (add_sub_self _ _) (add_sub_self _ _)
  | deleg w i ds a hi _ =>
    intro hq T
    have hm := List.mem_of_getElem? hi
    refine totals_set hi T rfl rfl rfl ⟨hq, (T.wf _ hm).2⟩ (T.btgt a hm) (fun k => ?_)
      (fun k => add_sub_self _ _) (Int.add_sub_assoc ..) (add_sub_self _ _)
    show w.pDelegated k + deltaVote _ ds k = _
    rw [deltaVote, lookupLast_eq_votesTo _ k (T.wf _ hm).1.1]
  | bond w i bs al a ubs hi hreg _ _ =>
    intro hq T
    have hm := List.mem_of_getElem? hi
    refine totals_set hi T rfl rfl rfl ⟨(T.wf _ hm).1, hq⟩ hreg (fun k => add_sub_self _ _) (fun k => ?_)
      (add_sub_self _ _) (Int.add_sub_assoc ..)
    show w.pBonded k + deltaVote _ bs k = _
    rw [deltaVote, lookupLast_eq_votesTo _ k (T.wf _ hm).2.1]
  | regPRep _ _ _ _ _ _ _ _ ih1 ih2 | xfer _ _ _ _ _ _ _ _ ih1 ih2 => exact fun _ T => ih2 trivial (ih1 trivial T)

theorem totals_run (w : World) (ops : List (List Tx × Int)) (hq : ∀ op ∈ ops, ∀ tx ∈ op.1, TxWF tx)
    (h : Totals w) : Totals (run w ops) :=
  run_preserves Totals (fun _ _ T => ⟨T.dP, T.bP, T.tD, T.tB, T.wf, T.reg, T.btgt⟩)
    (fun w T => by
      have hd : ∀ (f : Votes → Int), sumF (fun a => f a.delegs) (w.accts.map (fire w.height)) =
          sumF (fun a => f a.delegs) w.accts := fun f => sumF_map _ _ (fun a => by rw [fire_delegs]) _
      have hb : ∀ (f : Votes → Int), sumF (fun a => f a.bonds) (w.accts.map (fire w.height)) =
          sumF (fun a => f a.bonds) w.accts := fun f => sumF_map _ _ (fun a => by rw [fire_bonds]) _
      constructor
      · intro k; exact (T.dP k).trans (hd _).symm
      · intro k; exact (T.bP k).trans (hb _).symm
      · exact T.tD.trans (hd _).symm
      · exact T.tB.trans (hb _).symm
      · intro a ha
        obtain ⟨y, hy, rfl⟩ := List.mem_map.mp ha
        rw [fire_delegs, fire_bonds]
        exact T.wf y hy
      · exact T.reg
      · intro a ha b hb
        obtain ⟨y, hy, rfl⟩ := List.mem_map.mp ha
        rw [fire_bonds] at hb
        exact T.btgt y hy b hb)
    ops w (fun op ho ht s => totals_step s (hq op ho _ ht)) h

end Goloop.C34.Proofs

