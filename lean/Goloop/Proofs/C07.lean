/-
  Proofs/C07: `sortTs` is characterised as THE ascending arrangement of a list (`sortTs_unique`), so nothing about the
  median depends on `mergeSort`; the guards of `verifyTimestamp` / `verifyNewBlock` are read off with `guard_iff`.
-/
import Goloop.Model.C07
import Goloop.Base.Cases
namespace Goloop.C07.Proofs
open Goloop.C07

theorem wrap64_id (x : Int) (h1 : -(2 ^ 63 : Int) ≤ x) (h2 : x < 2 ^ 63) : wrap64 x = x := by
  unfold wrap64
  have h64 : (2 ^ 63 : Int) + 2 ^ 63 = 2 ^ 64 := by decide
  rw [Int.emod_eq_of_lt (Int.add_nonneg_iff_neg_le.2 h1) (h64 ▸ Int.add_lt_add_right h2 _),
    Int.add_sub_cancel]

/-- 2^62 is half of the int64 bound 2^63: the sum of two such values does not wrap -/
theorem wrap64_add {a b : Int} (ha : -(2 ^ 62 : Int) ≤ a ∧ a < 2 ^ 62)
    (hb : -(2 ^ 62 : Int) ≤ b ∧ b < 2 ^ 62) : wrap64 (a + b) = a + b := by
  have e : (2 ^ 63 : Int) = 2 ^ 62 + 2 ^ 62 := by decide
  refine wrap64_id _ ?_ ?_ <;> rw [e]
  · rw [Int.neg_add]; exact Int.add_le_add ha.1 hb.1
  · exact Int.add_lt_add ha.2 hb.2

theorem sortTs_perm (l : List Int) : (sortTs l).Perm l := List.mergeSort_perm l _

theorem sortTs_sorted (l : List Int) : (sortTs l).Pairwise (fun a b => a ≤ b) := by
  have h := List.pairwise_mergeSort (le := fun (a b : Int) => decide (a ≤ b))
    (fun a b c hab hbc => decide_eq_true (Int.le_trans (of_decide_eq_true hab) (of_decide_eq_true hbc)))
    (fun a b => by rw [Bool.or_eq_true, decide_eq_true_eq, decide_eq_true_eq]; exact Int.le_total a b) l
  exact h.imp of_decide_eq_true

/-- the ascending arrangement of a list is unique, so `sortTs` is it whatever the algorithm -/
theorem sortTs_unique {s l : List Int} (hp : s.Perm l) (hs : s.Pairwise (fun a b => a ≤ b)) :
    s = sortTs l :=
  List.Perm.eq_of_pairwise (le := fun a b => a ≤ b) (fun _ _ _ _ h1 h2 => Int.le_antisymm h1 h2) hs
    (sortTs_sorted l) (hp.trans (sortTs_perm l).symm)

theorem sortTs_congr {l l' : List Int} (h : l.Perm l') : sortTs l = sortTs l' :=
  sortTs_unique ((sortTs_perm l).trans h) (sortTs_sorted l)

/-- `mergeSort` is defined by well-founded recursion and does not reduce under `decide`: a concrete
    median is evaluated on an ascending list through this equation. -/
theorem median_of_sorted {l : List Int} (hs : l.Pairwise (fun a b => a ≤ b)) :
    median l =
      if l.length = 0 then 0
      else if l.length % 2 = 1 then l.getD (l.length / 2) 0
      else (wrap64 (l.getD (l.length / 2 - 1) 0 + l.getD (l.length / 2) 0)).tdiv 2 := by
  unfold median
  rw [← sortTs_unique (List.Perm.refl l) hs]

theorem sorted_getD_mem (l : List Int) (hne : l ≠ []) {i : Nat} (h : i ≤ l.length / 2) :
    (sortTs l).getD i 0 ∈ l := by
  have hi : i < (sortTs l).length := by
    rw [(sortTs_perm l).length_eq]
    exact Nat.lt_of_le_of_lt h (Nat.div_lt_self (List.length_pos_iff.2 hne) (by decide))
  rw [List.getD_eq_getElem?_getD, List.getElem?_eq_getElem hi]
  exact (sortTs_perm l).mem_iff.1 (List.getElem_mem hi)

theorem tdiv2_bounds (a b lo hi : Int) (ha : lo ≤ a ∧ a ≤ hi) (hb : lo ≤ b ∧ b ≤ hi) :
    lo ≤ (a + b).tdiv 2 ∧ (a + b).tdiv 2 ≤ hi := by
  have h2 : (0 : Int) < 2 := by decide
  have hlo : lo * 2 ≤ a + b := by rw [Int.mul_comm, Int.two_mul]; exact Int.add_le_add ha.1 hb.1
  have hhi : a + b ≤ hi * 2 := by rw [Int.mul_comm, Int.two_mul]; exact Int.add_le_add ha.2 hb.2
  exact ⟨Int.le_tdiv_of_mul_le h2 hlo, Int.mul_tdiv_cancel hi (Int.ne_of_gt h2) ▸ Int.tdiv_le_tdiv h2 hhi⟩

theorem median_formula (ts : List Int) (hne : ts ≠ [])
    (hb : ∀ t ∈ ts, -(2 ^ 62 : Int) ≤ t ∧ t < 2 ^ 62) :
    median ts =
      if ts.length % 2 = 1 then (sortTs ts).getD (ts.length / 2) 0
      else ((sortTs ts).getD (ts.length / 2 - 1) 0 + (sortTs ts).getD (ts.length / 2) 0).tdiv 2 := by
  unfold median
  dsimp only
  rw [if_neg (fun h => hne (List.eq_nil_of_length_eq_zero h)),
    wrap64_add (hb _ (sorted_getD_mem ts hne (Nat.sub_le _ _))) (hb _ (sorted_getD_mem ts hne (Nat.le_refl _)))]

variable {ι : Type} [DecidableEq ι]

theorem lookup_some {nmap : List (Blk ι)} {id : ι} {p : Blk ι} (h : lookup nmap id = some p) :
    p ∈ nmap ∧ p.id = id :=
  have h : nmap.find? (fun p => decide (p.id = id)) = some p := h
  ⟨List.mem_of_find?_eq_some h, of_decide_eq_true (List.find?_some (p := fun q : Blk ι => decide (q.id = id)) h)⟩

omit [DecidableEq ι] in
theorem verifyTimestamp_accept_iff (b : Cand ι) (p : Blk ι) :
    verifyTimestamp b p = .accept ↔ (b.height ≤ 1 ∨ (b.ts = median b.votes ∧ p.ts < b.ts)) := by
  unfold verifyTimestamp
  simp only [guard_iff, ne_eq, reduceCtorEq, not_false_eq_true, and_true]
  -- both guards start with `b.height > 1`: ¬(h ∧ p) ∧ ¬(h ∧ q) ↔ ¬h ∨ (¬p ∧ ¬q)
  rw [← not_or, ← and_or_left, Classical.not_and_iff_not_or_not, not_or, Int.not_lt, Classical.not_not,
    Int.not_le]

theorem verifyNewBlock_accept_iff (certOk : Blk ι → Cand ι → Bool) (b : Cand ι) (p : Blk ι)
    (hp : -(2 ^ 63 : Int) ≤ p.height ∧ p.height < 2 ^ 63 - 1) :
    verifyNewBlock certOk b p = .accept ↔
      (b.version = p.nextVersion ∧ b.height = p.height + 1 ∧ b.prevID = p.id ∧ certOk p b = true ∧
        (b.height ≤ 1 ∨ (b.ts = median b.votes ∧ p.ts < b.ts))) := by
  unfold verifyNewBlock
  rw [wrap64_id _ (Int.le_trans hp.1 (Int.le_add_of_nonneg_right (by decide))) (Int.add_lt_of_lt_sub_right hp.2)]
  simp only [guard_iff, ne_eq, reduceCtorEq, not_false_eq_true, verifyTimestamp_accept_iff,
    Classical.not_not, Bool.not_eq_true', Bool.not_eq_false]

end Goloop.C07.Proofs
