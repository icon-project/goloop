/-
  Proofs/C13: byte-layout lemmas (core) and the algebra behind ECDSA sign / recover / verify
  (Mathlib: a module over a field, instantiated with ZMod q).
-/
import Goloop.Model.C13
import Goloop.Base.Cases
import Mathlib.Algebra.Field.ZMod
import Mathlib.Algebra.Module.Defs
namespace Goloop.C13.Proofs
open Goloop Goloop.C13

theorem flag_there_back (x : UInt8) : recoverFlagToCompatible (recoverFlagToECDSA x) = x :=
  UInt8.add_sub_cancel x 27

theorem flag_back_there (x : UInt8) : recoverFlagToECDSA (recoverFlagToCompatible x) = x :=
  UInt8.sub_add_cancel x 27

theorem take_append_last (b : Bytes) (h : b.length = 65) : b.take 64 ++ [b.getD 64 0] = b := by
  have h64 : 64 < b.length := by rw [h]; decide
  rw [List.getD_eq_getElem?_getD, List.getElem?_eq_getElem h64, Option.getD_some,
    List.take_append_getElem, List.take_of_length_le (Nat.le_of_eq h)]

theorem parse65 (b : Bytes) (h : b.length = 65) :
    parseSignature b = some (recoverFlagToECDSA (b.getD 64 0) :: b.take 64) := by
  simp [parseSignature, h]

theorem parse64 (b : Bytes) (h : b.length = 64) : parseSignature b = some b := by
  simp [parseSignature, h]

theorem parse_other (b : Bytes) (h64 : b.length ≠ 64) (h65 : b.length ≠ 65) :
    parseSignature b = none := by
  simp only [parseSignature, h64, h65, if_false]
  split <;> rfl

theorem recoverPublicKey_eq_some (rc : Bytes → Bytes → Option Bytes) (s hash pk : Bytes) :
    recoverPublicKey rc s hash = some pk ↔
      hasV s = true ∧ 0 < hash.length ∧ hash.length ≤ 32 ∧ rc s hash = some pk := by
  unfold recoverPublicKey
  simp only [guard_iff, ne_eq, reduceCtorEq, not_false_eq_true, Bool.not_eq_true', Bool.not_eq_false,
    not_or, Nat.pos_iff_ne_zero, Nat.not_lt, and_assoc]

section algebra
variable {K M : Type*} [Field K] [AddCommGroup M] [Module K M]

/-- sign, then recover: `r⁻¹ • (s • R − z • G) = d • G` -/
theorem recover_of_sign (G : M) (d z k r : K) (hk : k ≠ 0) (hr : r ≠ 0) :
    r⁻¹ • ((k⁻¹ * (z + r * d)) • (k • G) - z • G) = d • G := by
  simp only [mul_comm k⁻¹, mul_smul, inv_smul_smul₀ hk, add_smul, add_sub_cancel_left,
    inv_smul_smul₀ hr]

/-- the verification equation holds for a key `Q` exactly when `Q` is the recovered key:
    both sides say `z • G + r • Q = s • R` -/
theorem verify_iff_recovered (G R Q : M) (z r s : K) (hr : r ≠ 0) (hs : s ≠ 0) :
    (z * s⁻¹) • G + (r * s⁻¹) • Q = R ↔ Q = r⁻¹ • (s • R - z • G) := by
  simp only [mul_comm z, mul_comm r, mul_smul, ← smul_add, inv_smul_eq_iff₀ hs,
    eq_inv_smul_iff₀ hr, eq_sub_iff_add_eq']

end algebra
end Goloop.C13.Proofs
