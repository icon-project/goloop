/-
  Proofs/C27: `Verify` as a fold (`foldHash`); perfect trees (`IsTree`) in the root slots (`RootsInv`),
  kept by `addNode`; what `WitnessFor` returns on them, in memory and after `Flush` / `Recover`.
-/
import Goloop.Model.C27
namespace Goloop.C27

theorem copyAt0 (buf src : Bytes) (h : src.length ≤ buf.length) :
    copyAt buf 0 src = src ++ buf.drop src.length := by
  unfold copyAt
  have : min src.length (buf.length - 0) = src.length := Nat.min_eq_left h
  rw [this]; simp

theorem copyAt32 (pre rest src : Bytes) (hp : pre.length = 32) (hs : src.length = 32) (hr : rest.length = 32) :
    copyAt (pre ++ rest) hashSize src = pre ++ src := by
  unfold copyAt hashSize
  have : min src.length ((pre ++ rest).length - 32) = 32 := by rw [List.length_append, hp, hr, hs]; rfl
  rw [this]
  have h1 : List.take 32 (pre ++ rest) = pre := by
    exact List.take_left' hp
  have h2 : List.drop (32 + 32) (pre ++ rest) = [] := by
    apply List.drop_of_length_le; rw [List.length_append, hp, hr]; exact Nat.le_refl _
  rw [h1, h2, List.take_of_length_le (Nat.le_of_eq hs), List.append_nil]

/-- two copies of 32 bytes overwrite the whole 64 byte buffer -/
theorem copy2 (buf a b : Bytes) (hbuf : buf.length = 64) (ha : a.length = 32) (hb : b.length = 32) :
    copyAt (copyAt buf 0 a) hashSize b = a ++ b := by
  rw [copyAt0 buf a (by rw [ha, hbuf]; decide)]
  exact copyAt32 a _ b ha hb (by simp [hbuf, ha])

theorem ser_eq (a b : Bytes) (ha : a.length = 32) (hb : b.length = 32) : ser a b = a ++ b := by
  unfold ser
  exact copy2 _ a b List.length_replicate ha hb

theorem getD_append_left {α} (a b : List α) (d : α) {i : Nat} (h : i < a.length) :
    (a ++ b).getD i d = a.getD i d := by
  rw [List.getD_eq_getElem?_getD, List.getD_eq_getElem?_getD, List.getElem?_append_left h]

theorem getD_append_right {α} (a b : List α) (d : α) {i : Nat} (h : a.length ≤ i) :
    (a ++ b).getD i d = b.getD (i - a.length) d := by
  rw [List.getD_eq_getElem?_getD, List.getD_eq_getElem?_getD, List.getElem?_append_right h]

/-- what `Verify` computes when every value is 32 bytes long -/
def foldHash (H : Bytes → Bytes) (ws : List Witness) (h : Bytes) : Bytes :=
  ws.foldl (fun h w => if w.dir = .left then H (ser w.hv h) else H (ser h w.hv)) h

def All32 (ws : List Witness) : Prop := ∀ w ∈ ws, w.hv.length = 32

theorem foldl_verifyStep (H : Bytes → Bytes) (hlen : ∀ x, (H x).length = 32)
    (ws : List Witness) (hw : All32 ws) (buf h : Bytes) (hbuf : buf.length = 64) (hh : h.length = 32) :
    (ws.foldl (verifyStep H) (buf, h)).2 = foldHash H ws h := by
  induction ws generalizing buf h with
  | nil => rfl
  | cons w ws ih =>
    have hwl : w.hv.length = 32 := hw w List.mem_cons_self
    have hws : All32 ws := fun x hx => hw x (List.mem_cons_of_mem _ hx)
    simp only [List.foldl_cons, foldHash]
    rw [ser_eq _ _ hwl hh, ser_eq _ _ hh hwl]
    unfold verifyStep
    by_cases hd : w.dir = .left
    · simp only [hd, if_true]
      rw [copy2 buf w.hv h hbuf hwl hh]
      exact ih hws _ _ (by rw [List.length_append, hwl, hh]) (hlen _)
    · simp only [hd, if_false]
      rw [copy2 buf h w.hv hbuf hh hwl]
      exact ih hws _ _ (by rw [List.length_append, hwl, hh]) (hlen _)

theorem verifyFold_eq (H : Bytes → Bytes) (hlen : ∀ x, (H x).length = 32)
    (ws : List Witness) (hw : All32 ws) (h : Bytes) (hh : h.length = 32) :
    verifyFold H ws h = foldHash H ws h := by
  unfold verifyFold
  exact foldl_verifyStep H hlen ws hw _ h List.length_replicate hh

theorem verify_ok (H : Bytes → Bytes) (hlen : ∀ x, (H x).length = 32) {a : Acc} {ws : List Witness}
    {leaf : Bytes} {t : Node} (hw : All32 ws) (hl : leaf.length = 32)
    (hslot : a.roots[ws.length]? = some (some t)) (hf : foldHash H ws leaf = t.hashOf) :
    a.verify H ws leaf = .ok := by
  have hlt : ¬ ws.length ≥ a.roots.length := fun h => by
    rw [List.getElem?_eq_none h] at hslot; cases hslot
  unfold Acc.verify
  rw [verifyFold_eq H hlen ws hw _ hl, if_neg hlt, hslot]
  exact if_pos hf.symm

theorem foldHash_append (H : Bytes → Bytes) (a b : List Witness) (h : Bytes) :
    foldHash H (a ++ b) h = foldHash H b (foldHash H a h) :=
  List.foldl_append

/-- `IsTree H d t ls`: `t` is a perfect, not yet flushed tree of height `d` built by `addNode` whose
    leaves, left to right, have the (32 byte) hashes `ls`. Not yet flushed (`flushed = false` in every
    node), so that `Node.flush` writes all of it (`flush_stored`). -/
inductive IsTree (H : Bytes → Bytes) : Nat → Node → List Bytes → Prop
  | leafHash (hv : Bytes) : hv.length = 32 → IsTree H 0 (.hash hv) [hv]
  | leafData (d : Bytes) : IsTree H 0 (.data (H d) false d) [H d]
  | branch (d : Nat) (l r : Node) (ls rs : List Bytes) :
      IsTree H d l ls → IsTree H d r rs →
      IsTree H (d + 1) (.branch (H (ser l.hashOf r.hashOf)) false l r) (ls ++ rs)

theorem IsTree.length {H d t ls} (h : IsTree H d t ls) : ls.length = 2 ^ d := by
  induction h with
  | leafHash => rfl
  | leafData => rfl
  | branch d l r ls rs _ _ ih1 ih2 => rw [List.length_append, ih1, ih2, Nat.pow_succ, Nat.mul_two]

theorem IsTree.hashLen {H d t ls} (hlen : ∀ x, (H x).length = 32) (h : IsTree H d t ls) :
    t.hashOf.length = 32 := by
  cases h with
  | leafHash hv h => exact h
  | leafData => exact hlen _
  | branch => exact hlen _

/-- the values `Flush` writes for a not yet flushed tree (each under the key `H value`) -/
def Node.preimages : Node → List Bytes
  | .hash _ => []
  | .data _ _ d => [d]
  | .branch _ _ l r => ser l.hashOf r.hashOf :: (l.preimages ++ r.preimages)

def StoredAll (H : Bytes → Bytes) (db : DB) (xs : List Bytes) : Prop := ∀ x ∈ xs, db.get (H x) = some x

theorem resolve_ser (db : DB) {k a b : Bytes} (hget : db.get k = some (ser a b))
    (ha : a.length = 32) (hb : b.length = 32) : resolve db k = some (a, b) := by
  rw [resolve, hget, ser_eq a b ha hb]
  dsimp only
  rw [if_neg (by simp [hashSize, ha, hb])]
  unfold hashSize
  rw [List.take_left' ha, List.drop_left' ha]

/-- `WitnessFor` on a perfect in-memory tree: succeeds for every index, leaves the tree as it
    is, and the witness folds the leaf hash up to the root hash. With the tree's nodes in the
    bucket, `WitnessFor` on the bare root hash (what `Recover` creates) returns the same witness. -/
theorem witnessNode_isTree (H : Bytes → Bytes) (hlen : ∀ x, (H x).length = 32) (db : DB)
    {d : Nat} {t : Node} {ls : List Bytes} (ht : IsTree H d t ls) :
    ∀ (idx : Nat), idx < 2 ^ d →
      ∃ ws, witnessNode db d t idx [] = (t, .ok ws) ∧ ws.length = d ∧ All32 ws ∧
        foldHash H ws (ls.getD idx []) = t.hashOf ∧
        (StoredAll H db t.preimages → ∃ n', witnessNode db d (.hash t.hashOf) idx [] = (n', .ok ws)) := by
  induction ht with
  | leafHash hv h =>
    intro idx hi
    obtain rfl : idx = 0 := Nat.lt_one_iff.mp hi
    exact ⟨[], by simp [witnessNode], rfl, nofun, rfl, fun _ => ⟨.hash hv, by simp [witnessNode, Node.hashOf]⟩⟩
  | leafData d =>
    intro idx hi
    obtain rfl : idx = 0 := Nat.lt_one_iff.mp hi
    exact ⟨[], by simp [witnessNode], rfl, nofun, rfl, fun _ => ⟨.hash (H d), by simp [witnessNode, Node.hashOf]⟩⟩
  | branch d l r ls rs hl hr ihl ihr =>
    intro idx hi
    have hll := hl.length
    have hlh := hl.hashLen hlen
    have hrh := hr.hashLen hlen
    have hres := fun hs : StoredAll H db (Node.branch (H (ser l.hashOf r.hashOf)) false l r).preimages =>
      resolve_ser db (hs _ List.mem_cons_self) hlh hrh
    by_cases hlt : idx < 2 ^ d
    · obtain ⟨ws, h1, h2, h3, h4, h5⟩ := ihl idx hlt
      refine ⟨ws ++ [⟨.right, r.hashOf⟩], by simp [witnessNode, hlt, h1], by simp [h2],
        List.forall_mem_append.mpr ⟨h3, List.forall_mem_singleton.mpr hrh⟩, ?_, fun hs => ?_⟩
      · rw [foldHash_append, getD_append_left ls rs [] (hll ▸ hlt), h4]; rfl
      · obtain ⟨n', h6⟩ := h5 fun x hx => hs x (List.mem_cons_of_mem _ (List.mem_append_left _ hx))
        refine ⟨.branch (H (ser l.hashOf r.hashOf)) true n' (.hash r.hashOf), ?_⟩
        show witnessNode db (d + 1) (.hash (H (ser l.hashOf r.hashOf))) idx [] = _
        simp only [witnessNode, hres hs, hlt, if_true, h6]
        simp [Node.hashOf]
    · rw [Nat.pow_succ, Nat.mul_two] at hi
      obtain ⟨ws, h1, h2, h3, h4, h5⟩ := ihr (idx - 2 ^ d) (Nat.sub_lt_left_of_lt_add (Nat.le_of_not_lt hlt) hi)
      refine ⟨ws ++ [⟨.left, l.hashOf⟩], by simp [witnessNode, hlt, h1], by simp [h2],
        List.forall_mem_append.mpr ⟨h3, List.forall_mem_singleton.mpr hlh⟩, ?_, fun hs => ?_⟩
      · rw [foldHash_append, getD_append_right ls rs [] (hll ▸ Nat.le_of_not_lt hlt), hll, h4]; rfl
      · obtain ⟨n', h6⟩ := h5 fun x hx => hs x (List.mem_cons_of_mem _ (List.mem_append_right _ hx))
        refine ⟨.branch (H (ser l.hashOf r.hashOf)) true (.hash l.hashOf) n', ?_⟩
        show witnessNode db (d + 1) (.hash (H (ser l.hashOf r.hashOf))) idx [] = _
        simp only [witnessNode, hres hs, hlt, if_false, h6]
        simp [Node.hashOf]

/-- `RootsInv H h rs items`: `rs = roots[h:]`; every occupied slot `h+i` holds a perfect tree of
    height `h+i`; the leaves of the higher slots come first: `items` is their concatenation. -/
def RootsInv (H : Bytes → Bytes) : Nat → List (Option Node) → List Bytes → Prop
  | _, [], items => items = []
  | h, none :: rest, items => RootsInv H (h + 1) rest items
  | h, some t :: rest, items => ∃ hi lo, items = hi ++ lo ∧ IsTree H h t lo ∧ RootsInv H (h + 1) rest hi

/-- `addNode` with a perfect tree of the height of the slot it starts at: the invariant holds for
    the items with the new leaves appended, and the witness returned folds the new node's hash up
    to the root it ends in -/
theorem addNode_spec (H : Bytes → Bytes) (hlen : ∀ x, (H x).length = 32) :
    ∀ (rs : List (Option Node)) (h : Nat) (items : List Bytes) (n : Node) (ls : List Bytes) (w0 : List Witness),
      RootsInv H h rs items → IsTree H h n ls →
      RootsInv H h (addNode H rs n w0).1 (items ++ ls) ∧
      ∃ wk t', (addNode H rs n w0).2 = w0 ++ wk ∧ All32 wk ∧
        (addNode H rs n w0).1[wk.length]? = some (some t') ∧ foldHash H wk n.hashOf = t'.hashOf := by
  intro rs
  induction rs with
  | nil =>
    intro h items n ls w0 hinv hn
    obtain rfl : items = [] := hinv
    exact ⟨⟨[], ls, rfl, hn, rfl⟩, [], n, (List.append_nil _).symm, nofun, rfl, rfl⟩
  | cons r rest ih =>
    intro h items n ls w0 hinv hn
    cases r with
    | none => exact ⟨⟨items, ls, rfl, hn, hinv⟩, [], n, (List.append_nil _).symm, nofun, rfl, rfl⟩
    | some root =>
      obtain ⟨hi, lo, rfl, ht, hr⟩ := hinv
      obtain ⟨e0, wk, t', e1, e2, e3, e4⟩ := ih (h + 1) hi (mkBranch H root n) (lo ++ ls)
        (w0 ++ [⟨.left, root.hashOf⟩]) hr (IsTree.branch h root n lo ls ht hn)
      rw [List.append_assoc]
      exact ⟨e0, ⟨.left, root.hashOf⟩ :: wk, t', e1.trans (List.append_assoc _ _ _),
        List.forall_mem_cons.mpr ⟨ht.hashLen hlen, e2⟩, e3, e4⟩

theorem RootsInv.nil_of_items {H h items} (hi : RootsInv H h [] items) : items = [] := hi

theorem setAt_same {α} (l : List α) (i : Nat) (v : α) : l[i]? = some v → setAt l i v = l := by
  fun_induction setAt l i v with
  | case1 => nofun
  | case2 => rintro ⟨⟩; rfl
  | case3 x _ _ _ ih => exact fun h => congrArg (x :: ·) (ih h)

/-- the roots `Recover` builds from what `Flush` stored -/
def hashRoots (rs : List (Option Node)) : List (Option Node) :=
  rs.map (Option.map fun t => Node.hash t.hashOf)

/-- The `WitnessFor` loop comes down from the top slot while `RootsInv` lists the slots upwards:
    so for the slots from `h` on, holding `items`, say both what happens to an index among `items`
    (found there) and to a larger one (it reaches slot `h` reduced by `|items|`). The loop over the
    recovered roots takes the same steps, and returns the same witness once the tree found is in the bucket. -/
theorem witnessLoop_spec (H : Bytes → Bytes) (hlen : ∀ x, (H x).length = 32) (db : DB)
    (R : List (Option Node)) :
    ∀ (rs : List (Option Node)) (h : Nat) (items : List Bytes), R.drop h = rs → RootsInv H h rs items →
      ∀ idx,
        (idx < items.length → ∃ t ws, witnessLoop db R (h + rs.length) idx = (R, .ok ws) ∧
          R[ws.length]? = some (some t) ∧ All32 ws ∧
          foldHash H ws (items.getD idx []) = t.hashOf ∧
          (StoredAll H db t.preimages → (witnessLoop db (hashRoots R) (h + rs.length) idx).2 = .ok ws)) ∧
        (items.length ≤ idx →
          witnessLoop db R (h + rs.length) idx = witnessLoop db R h (idx - items.length) ∧
          witnessLoop db (hashRoots R) (h + rs.length) idx = witnessLoop db (hashRoots R) h (idx - items.length)) := by
  intro rs
  induction rs with
  | nil =>
    intro h items _ hinv idx
    obtain rfl : items = [] := hinv
    exact ⟨nofun, fun _ => ⟨rfl, rfl⟩⟩
  | cons o rest ih =>
    intro h items hdrop hinv idx
    have hget : R[h]? = some o := by
      have := @List.getElem?_drop _ R h 0
      rw [hdrop] at this; exact this.symm
    have hget' : (hashRoots R)[h]? = some (o.map fun t => Node.hash t.hashOf) := by
      rw [hashRoots, List.getElem?_map, hget]; rfl
    have hrest : R.drop (h + 1) = rest := by
      rw [← List.drop_drop, hdrop]; rfl
    rw [show h + (o :: rest).length = h + 1 + rest.length from Nat.add_right_comm h rest.length 1]
    cases o with
    | none =>
      obtain ⟨i1, i2⟩ := ih (h + 1) items hrest hinv idx
      refine ⟨i1, fun hge => ?_⟩
      rw [(i2 hge).1, (i2 hge).2]
      exact ⟨by rw [witnessLoop, hget], by rw [witnessLoop, hget']; rfl⟩
    | some t =>
      obtain ⟨hi, lo, rfl, ht, hr⟩ := hinv
      have htl := ht.length
      rw [List.length_append, htl]
      obtain ⟨i1, i2⟩ := ih (h + 1) hi hrest hr idx
      by_cases hlt : idx < hi.length
      · refine ⟨fun _ => ?_, fun hge => absurd hlt (Nat.not_lt.mpr (Nat.le_trans (Nat.le_add_right _ _) hge))⟩
        rw [getD_append_left hi lo [] hlt]
        exact i1 hlt
      · have hge := Nat.le_of_not_lt hlt
        rw [(i2 hge).1, (i2 hge).2, witnessLoop, hget, witnessLoop, hget']
        dsimp only [Option.map_some]
        refine ⟨fun hlt2 => ?_, fun hge2 => ?_⟩
        · have hin : idx - hi.length < 2 ^ h := Nat.sub_lt_left_of_lt_add hge hlt2
          obtain ⟨ws, h1, h2, h3, h4, h5⟩ := witnessNode_isTree H hlen db ht (idx - hi.length) hin
          refine ⟨t, ws, ?_, h2 ▸ hget, h3, ?_, fun hs => ?_⟩
          · rw [if_pos hin, h1]
            dsimp only
            rw [setAt_same R h (some t) hget]
          · rw [getD_append_right hi lo [] hge]; exact h4
          · obtain ⟨n', h6⟩ := h5 hs
            rw [if_pos hin, h6]
        · have hout := Nat.not_lt.mpr (Nat.le_sub_of_add_le' hge2)
          rw [if_neg hout, if_neg hout, Nat.sub_sub]
          exact ⟨rfl, rfl⟩

theorem witnessFor_lt {db : DB} {a : Acc} {i : Nat} (h : i < a.length) :
    a.witnessFor db i = ({ a with roots := (witnessLoop db a.roots a.roots.length i).1 },
      (witnessLoop db a.roots a.roots.length i).2) :=
  if_neg (Nat.not_le.mpr h)

/-- `H` is injective on the listed values -/
def NoColl (H : Bytes → Bytes) (S : List Bytes) : Prop := ∀ x ∈ S, ∀ y ∈ S, H x = H y → x = y

/-- bindings `H y ↦ y` for `y ∈ S` survive from `db` to `db'` -/
def Keeps (H : Bytes → Bytes) (S : List Bytes) (db db' : DB) : Prop :=
  ∀ y ∈ S, db.get (H y) = some y → db'.get (H y) = some y

theorem Keeps.refl (H S db) : Keeps H S db db := fun _ _ h => h
theorem Keeps.trans {H S a b c} (h1 : Keeps H S a b) (h2 : Keeps H S b c) : Keeps H S a c :=
  fun y hy h => h2 y hy (h1 y hy h)

theorem keeps_set {H : Bytes → Bytes} {S : List Bytes} (hn : NoColl H S) (db : DB) (x : Bytes) (hx : x ∈ S) :
    Keeps H S db (db.set (H x) x) := by
  intro y hy h
  simp only [DB.set, DB.get]
  split
  · -- the one place where `NoColl` is used: the new binding shadows `H y ↦ y` only if `H x = H y`
    rename_i he; rw [hn x hx y hy he]
  · exact h

theorem get_set_self (db : DB) (k v : Bytes) : (db.set k v).get k = some v := if_pos rfl

theorem flush_hashOf (t : Node) (db : DB) : (t.flush db).1.hashOf = t.hashOf := by
  fun_cases Node.flush t db <;> rfl

/-- flushing a fresh tree stores everything it is made of, and keeps what was stored -/
theorem flush_stored (H : Bytes → Bytes) (S : List Bytes) (hn : NoColl H S)
    {d : Nat} {t : Node} {ls : List Bytes} (ht : IsTree H d t ls) :
    ∀ (db : DB), (∀ x ∈ t.preimages, x ∈ S) →
      StoredAll H (t.flush db).2 t.preimages ∧ Keeps H S db (t.flush db).2 := by
  induction ht with
  | leafHash hv h => intro db _; exact ⟨nofun, Keeps.refl H S db⟩
  | leafData d =>
    intro db hs
    exact ⟨List.forall_mem_singleton.mpr (get_set_self _ _ _), keeps_set hn db d (hs d List.mem_cons_self)⟩
  | branch d l r ls rs hl hr ihl ihr =>
    intro db hs
    obtain ⟨hser, hs'⟩ := List.forall_mem_cons.mp hs
    obtain ⟨hsl, hsr⟩ := List.forall_mem_append.mp hs'
    obtain ⟨sl, kl⟩ := ihl db hsl
    obtain ⟨sr, kr⟩ := ihr (l.flush db).2 hsr
    simp only [Node.flush, Bool.false_eq_true, if_false, Node.preimages]
    rw [flush_hashOf l db, flush_hashOf r (l.flush db).2]
    have kset := keeps_set hn (r.flush (l.flush db).2).2 _ hser
    exact ⟨List.forall_mem_cons.mpr ⟨get_set_self _ _ _, List.forall_mem_append.mpr
      ⟨fun x hx => kset x (hsl x hx) (kr x (hsl x hx) (sl x hx)), fun x hx => kset x (hsr x hx) (sr x hx)⟩⟩,
      (kl.trans kr).trans kset⟩

/-- everything `Flush` writes for the roots -/
def allPreimages : List (Option Node) → List Bytes
  | [] => []
  | none :: rest => allPreimages rest
  | some t :: rest => t.preimages ++ allPreimages rest

/-- `Flush` of the roots: `Recover` from what it persists gives the bare root hashes, and every
    tree is in the bucket afterwards -/
theorem flushRoots_spec (H : Bytes → Bytes) (hlen : ∀ x, (H x).length = 32) (S : List Bytes) (hn : NoColl H S) :
    ∀ (rs : List (Option Node)) (h : Nat) (items : List Bytes) (db : DB) (n : Nat),
      RootsInv H h rs items → (∀ x ∈ allPreimages rs, x ∈ S) →
      (recover (some ⟨(flushRoots rs db).2.1, n⟩)).roots = hashRoots rs ∧
      (∀ t, some t ∈ rs → StoredAll H (flushRoots rs db).2.2 t.preimages) ∧
      Keeps H S db (flushRoots rs db).2.2 := by
  intro rs
  induction rs with
  | nil => intro h items db n _ _; exact ⟨rfl, nofun, Keeps.refl H S db⟩
  | cons r rest ih =>
    intro h items db n hinv hs
    cases r with
    | none =>
      obtain ⟨e1, e2, e3⟩ := ih (h + 1) items db n hinv hs
      exact ⟨congrArg (none :: ·) e1, fun t ht => e2 t ((List.mem_cons.mp ht).resolve_left nofun), e3⟩
    | some t =>
      obtain ⟨hi, lo, _, ht, hrest⟩ := hinv
      have hst : ∀ x ∈ t.preimages, x ∈ S := fun x hx => hs x (List.mem_append_left _ hx)
      obtain ⟨s1, k1⟩ := flush_stored H S hn ht db hst
      obtain ⟨e1, e2, e3⟩ := ih (h + 1) hi (t.flush db).2 n hrest fun x hx => hs x (List.mem_append_right _ hx)
      refine ⟨?_, fun u hu => ?_, k1.trans e3⟩
      · have h32 := ht.hashLen hlen
        simp only [recover, flushRoots, hashRoots, List.map_cons] at e1 ⊢
        rw [e1, flush_hashOf]; simp [h32, hashSize]
      · rcases List.mem_cons.mp hu with hu | hu
        · cases hu; exact fun x hx => e3 x (hst x hx) (s1 x hx)
        · exact e2 u hu

/-- the number whose binary digits (least significant first) say which slots are occupied -/
def occupancy : List (Option Node) → Nat
  | [] => 0
  | o :: rs => (if o.isSome then 1 else 0) + 2 * occupancy rs

theorem addNode_occupancy (H : Bytes → Bytes) :
    ∀ (rs : List (Option Node)) (x : Node) (w : List Witness),
      occupancy (addNode H rs x w).1 = occupancy rs + 1 := by
  intro rs
  induction rs with
  | nil => intro x w; rfl
  | cons r rest ih =>
    intro x w
    cases r with
    | none =>
      show 1 + 2 * occupancy rest = 0 + 2 * occupancy rest + 1
      rw [Nat.zero_add, Nat.add_comm]
    | some t =>
      show 0 + 2 * occupancy (addNode H rest _ _).1 = 1 + 2 * occupancy rest + 1
      rw [ih, Nat.zero_add, Nat.mul_add, Nat.add_comm 1]

theorem testBit_occupancy : ∀ (rs : List (Option Node)) (h : Nat),
    (occupancy rs).testBit h = (rs.getD h none).isSome := by
  intro rs
  induction rs with
  | nil => intro h; exact Nat.zero_testBit h
  | cons o rest ih =>
    intro h
    cases h with
    | zero =>
      rw [Nat.testBit_zero, occupancy, Nat.add_mul_mod_self_left]
      cases o <;> rfl
    | succ h =>
      rw [Nat.testBit_succ, occupancy, Nat.add_mul_div_left _ _ (by decide), List.getD_cons_succ, ← ih h]
      cases o <;> simp
end Goloop.C27
