/-
  Proofs/C02Aux — second invariant of the running machine: the effect trace satisfies `TraceInv`
  (durable-before-send + height bound at EVERY prefix), heights follow the finalize effects; kept by
  every move of the machine (`Move.aux`).
-/
import Goloop.Proofs.C02Trace
import Goloop.Proofs.C01Move
namespace Goloop.C01

structure Aux (me n : Nat) (s : S) : Prop where
  hme : s.me = me
  hn : s.n = n
  tr : TraceInv me n s.eff
  /-- waived for a stuck machine: one that stops between Finalize and the new height (move `finStuck`) stays at
      the finalized height -/
  ht : s.stuck = true ∨ s.height = lastFinalizedHeight s.eff + 1
  db : s.dbHeight = lastFinalizedHeight s.eff

/-- just after the finalize effect, before the height is advanced -/
structure AuxFin (me n : Nat) (s : S) : Prop where
  hme : s.me = me
  hn : s.n = n
  tr : TraceInv me n s.eff
  ht : s.height = lastFinalizedHeight s.eff
  db : s.dbHeight = lastFinalizedHeight s.eff

theorem aux_of_fields_eq {me n : Nat} {s s' : S}
    (h : (s'.n, s'.me, s'.height, s'.dbHeight, s'.eff) = (s.n, s.me, s.height, s.dbHeight, s.eff))
    (hst : s.stuck = true → s'.stuck = true) (ha : Aux me n s) : Aux me n s' := by
  simp only [Prod.mk.injEq] at h
  obtain ⟨h1, h2, h3, h4, h5⟩ := h
  exact ⟨h2 ▸ ha.hme, h1 ▸ ha.hn, h5 ▸ ha.tr, by
    rcases ha.ht with h | h
    · exact Or.inl (hst h)
    · right; rw [h3, h5]; exact h, by rw [h4, h5]; exact ha.db⟩

theorem aux_stuck {me n : Nat} (s : S) (ha : Aux me n s) : Aux me n { s with stuck := true } :=
  aux_of_fields_eq (s := s) rfl (fun _ => rfl) ha

theorem aux_rfs {me n : Nat} (s : S) (to : Nat) (ha : Aux me n s) : Aux me n (s.resetForNewStep to) :=
  beginStep_cases (Aux me n) s.endStep to (fun _ => aux_of_fields_eq (s := s) rfl id ha)
    (aux_of_fields_eq (s := s) rfl (fun _ => rfl) ha)

theorem aux_rfr {me n : Nat} (s : S) (r : Nat) (ha : Aux me n s) : Aux me n (s.resetForNewRound r) :=
  rfr_eq s r ▸ aux_of_fields_eq (s := s) rfl id ha

theorem aux_of_trace {me n : Nat} (s : S) (e : Eff) (hf : ∀ h b, e ≠ .finalize h b) (ha : Aux me n s)
    (htr : TraceInv me n (s.eff ++ [e])) : Aux me n (s.emit e) :=
  have hl : lastFinalizedHeight (s.emit e).eff = lastFinalizedHeight s.eff := lastFin_append_other _ _ hf
  ⟨ha.hme, ha.hn, htr, hl ▸ ha.ht, hl ▸ ha.db⟩

theorem aux_emit {me n : Nat} (s : S) (e : Eff) (he : ∀ m, e ≠ .send m) (hf : ∀ h b, e ≠ .finalize h b)
    (ha : Aux me n s) : Aux me n (s.emit e) :=
  aux_of_trace s e hf ha (traceInv_append_nonsend _ _ _ _ he ha.tr)

theorem aux_send {me n : Nat} (s : S) (m : Msg) (ha : Aux me n s)
    (hv : s.stuck = false ∧ msgSigner m = s.me ∧ msgHeight m = s.height ∧ (∀ v, m = .vote v → s.me < s.n)) :
    Aux me n (((s.emit (.write .round (.msg m))).emit (.sync .round)).emit (.send m)) := by
  have h2 : Aux me n ((s.emit (.write .round (.msg m))).emit (.sync .round)) :=
    aux_emit _ _ (Eff.sync_ne_send _) nofun (aux_emit s _ (Eff.write_ne_send _ _) nofun ha)
  have hht := h2.ht.resolve_left (fun h => nomatch hv.1.symm.trans h)
  exact aux_of_trace _ _ nofun h2 (traceInv_append_send me n _ m h2.tr (walDurable_write_sync .round s.eff (.msg m))
    ⟨hv.2.1.trans ha.hme, fun v hm => ha.hme ▸ ha.hn ▸ hv.2.2.2 v hm, hv.2.2.1 ▸ Nat.le_of_eq hht⟩)

/-- Finalize: needs a non-stuck state (the callers are guarded) -/
theorem auxfin_finalize {me n : Nat} (s : S) (b : Blk) (ha : Aux me n s) (hs : s.stuck = false) :
    AuxFin me n { s.emit (.finalize s.height b) with dbHeight := s.height } := by
  have hht : s.height = lastFinalizedHeight s.eff + 1 := ha.ht.resolve_left (fun h => nomatch hs.symm.trans h)
  have hl : lastFinalizedHeight (s.eff ++ [.finalize s.height b]) = s.height := by
    rw [lastFin_append_fin]; omega
  exact ⟨ha.hme, ha.hn, traceInv_append_nonsend _ _ _ _ (Eff.finalize_ne_send _ _) ha.tr, hl.symm, hl.symm⟩

theorem aux_of_fin_stuck {me n : Nat} (s : S) (ha : AuxFin me n s) : Aux me n { s with stuck := true } :=
  ⟨ha.hme, ha.hn, ha.tr, Or.inl rfl, ha.db⟩

theorem aux_rfh {me n : Nat} (s : S) (ha : AuxFin me n s) : Aux me n (s.resetForNewHeight (s.height + 1)) :=
  beginStep_cases (Aux me n) _ _ (fun _ => ⟨ha.hme, ha.hn, ha.tr, Or.inr (congrArg (· + 1) ha.ht), ha.db⟩)
    ⟨ha.hme, ha.hn, ha.tr, Or.inl rfl, ha.db⟩

structure IHA (me n : Nat) (f : Nat) : Prop where
  recvVote : ∀ s m, Aux me n s → Aux me n (recvVote f s m)
  sendVote : ∀ s t v, Aux me n s → Aux me n (sendVote f s t v)
  handlePrevote : ∀ s mr, Aux me n s → Aux me n (handlePrevote f s mr)
  handlePrecommit : ∀ s mr, Aux me n s → Aux me n (handlePrecommit f s mr)
  enterPropose : ∀ s, Aux me n s → Aux me n (enterPropose f s)
  enterPrevote : ∀ s, Aux me n s → Aux me n (enterPrevote f s)
  enterPrevoteWait : ∀ s, Aux me n s → Aux me n (enterPrevoteWait f s)
  enterPrecommit : ∀ s, Aux me n s → Aux me n (enterPrecommit f s)
  enterPrecommitWait : ∀ s, Aux me n s → Aux me n (enterPrecommitWait f s)
  enterCommit : ∀ s b r, Aux me n s → Aux me n (enterCommit f s b r)
  commitAndEnterNewHeight : ∀ s, Aux me n s → Aux me n (commitAndEnterNewHeight f s)
  enterNewHeight : ∀ s, AuxFin me n s → Aux me n (enterNewHeight f s)
  enterNewRound : ∀ s, Aux me n s → Aux me n (enterNewRound f s)

section
variable {L : List VoteRec} {me n : Nat}

theorem Move.aux {s s' : S} (h : Move L s s') (ha : Aux me n s) : Aux me n s' := by
  cases h with
  | stuck => exact aux_stuck s ha
  | frame | cur | pend | unlock | setlock => exact aux_of_fields_eq (s := s) rfl id ha
  | rfs to => exact aux_rfs s to ha
  | rfr r => exact aux_rfr s r ha
  | hvsAdd m => exact hvsAdd_cases (Aux me n) s m ha (aux_of_fields_eq (s := s) rfl id ha)
  | sync w => exact aux_emit s _ (Eff.sync_ne_send w) nofun ha
  | writeBP | writeVL => exact aux_emit s _ (Eff.write_ne_send _ _) nofun ha
  | vote t v hst hlt => exact aux_send s _ ha ⟨hst, rfl, rfl, fun _ _ => hlt⟩
  | propose b pol hst => exact aux_send s _ ha ⟨hst, rfl, rfl, nofun⟩
  | unlockRound mr => exact aux_rfr s.unlock mr (aux_of_fields_eq (s := s) rfl id ha)
  | rfsCommit s1 b r c _ _ e => exact aux_of_fields_eq (s := s1) rfl id (e ▸ aux_rfs s stCommit ha)
  | newHeight b hst => exact aux_rfh _ (auxfin_finalize s b ha hst)
  | finStuck b hst => exact aux_of_fin_stuck _ (auxfin_finalize s b ha hst)
  | importVote ib b hst hlt =>
    exact aux_send { s with pend := .none } _ (aux_of_fields_eq (s := s) rfl id ha) ⟨hst, rfl, rfl, fun _ _ => hlt⟩

theorem Moves.aux {s s' : S} (h : Moves L s s') (ha : Aux me n s) : Aux me n s' := h.inv _ (fun _ _ => Move.aux) ha

end

end Goloop.C01
