/-
  Proofs/C01Restart — crash and restart for the lock rule (G2 / G3 / Finalize rule).

  * the trace facts `TR` (G2, G3 with exact timing, Finalize rule, "WAL vote lists hold known votes")
    are closed under the crash cut;
  * the WAL replay (applyRoundWAL + applyLockWAL + applyCommitWAL) puts only KNOWN votes back into the
    height vote set — derived from the code: every record in a durable WAL was written by the machine
    (`walDurable_sub`), every vote list it wrote held known votes (`T3.wl`), every own vote it wrote to
    the round WAL was also signed-and-sent (`SignClosed`, a condition on the crash point);
  * the replay never restores step commit;
  * hence the replayed state satisfies all three running invariants PROVIDED `RLS` (RestoreLockSound):
    the restored lock is on the block of the machine's last non-nil precommit of the height, with
    lockedRound ≥ that precommit's round.  `RLS` is false for the unchanged code (F1).
-/
import Goloop.Proofs.C01G3Step
import Goloop.Proofs.C02Restart
namespace Goloop.C01

/-- every record a (re)starting validator reads from a WAL was written to that WAL by the machine -/
theorem walDurable_sub (w : Wal) (es : List Eff) (r : Rec) (h : r ∈ walDurable w es) :
    Eff.write w r ∈ es := by
  unfold walDurable walState at h
  rw [walGo_foldl] at h
  -- effect by effect, the synced and the buffered part hold only records written so far
  refine List.foldlRecOn es (walStep w) (motive := fun st => ∀ x, x ∈ st.1 ++ st.2 → Eff.write w x ∈ es)
    (fun _ h => by cases h) (fun st ih e he x => ?_) r (List.mem_append_left _ h)
  fun_cases walStep w st e with
  | case1 r' =>
    rw [← List.append_assoc, List.mem_append, List.mem_singleton]
    exact fun hx => hx.elim (ih x) fun h => h ▸ he
  | case3 => rw [List.append_nil]; exact ih x
  | case5 k =>
    rw [List.append_nil, List.mem_append]
    exact fun hx => ih x (List.mem_append.mpr (hx.imp_right List.mem_of_mem_take))
  | case2 | case4 | case6 => exact ih x

def votesOf (ms : List Msg) : List VoteRec :=
  ms.filterMap (fun m => match m with | .vote v => some v | _ => none)

theorem votesOf_some {m : Msg} {v : VoteRec}
    (e : (match m with | .vote v => some v | _ => none) = some v) : m = .vote v := by
  cases m with
  | proposal => cases e
  | vote w => cases e; rfl

theorem mem_votesOf {ms : List Msg} {v : VoteRec} : v ∈ votesOf ms ↔ Msg.vote v ∈ ms := by
  unfold votesOf
  rw [List.mem_filterMap]
  exact ⟨fun ⟨m, hm, he⟩ => votesOf_some he ▸ hm, fun h => ⟨_, h, rfl⟩⟩

theorem votesOf_pairwise {ms : List Msg} (h : ms.Pairwise msgLt) :
    (votesOf ms).Pairwise (fun a b => lexLt (voteKey a) (voteKey b)) := by
  unfold votesOf
  refine List.Pairwise.filterMap _ (fun a a' hr x hx x' hx' => ?_) h
  rw [votesOf_some hx, votesOf_some hx'] at hr
  exact hr

variable {L L' : List VoteRec} {me n : Nat}

structure TR (L : List VoteRec) (n : Nat) (eff : List Eff) : Prop where
  g3 : ∀ pre w post, sentOf eff = pre ++ Msg.vote w :: post → w.typ = .prevote →
        ∀ v b, Msg.vote v ∈ pre → v.typ = .precommit → v.val = some b → v.height = w.height →
          v.round < w.round → w.val ≠ some b →
          ∃ r'' y, v.round < r'' ∧ r'' ≤ w.round ∧ y ≠ some b ∧
            quorumKnown L n pre w.height .prevote r'' y
  g2 : ∀ pre v post b, sentOf eff = pre ++ Msg.vote v :: post → v.typ = .precommit → v.val = some b →
        quorumKnown L n pre v.height .prevote v.round (some b)
  tr : T3 L n eff

/-- G2 for a precommit anywhere in the trace: the polka is known by the end of it -/
theorem TR.g2_mem {eff : List Eff} (ht : TR L n eff) {v : VoteRec} {b : Blk} (hv : Msg.vote v ∈ sentOf eff)
    (hvt : v.typ = .precommit) (hvb : v.val = some b) : polkaKnown L n (sentOf eff) v.height v.round b := by
  obtain ⟨pre, post, hd⟩ := List.append_of_mem hv
  exact hd ▸ quorumKnown_append _ (ht.g2 pre v post b hd hvt hvb)

theorem tr_crash {eff : List Eff} (cut k : Nat) (ht : TR L n eff) :
    TR L n (eff.take cut ++ [.crash k]) := by
  have hs : sentOf (eff.take cut ++ [.crash k]) = sentOf (eff.take cut) :=
    sentOf_nonsend _ _ (by intro m; simp)
  obtain ⟨rest, hr⟩ := sentOf_prefix (List.take_prefix cut eff)
  refine ⟨?_, ?_, ?_⟩
  · intro pre w post hd
    rw [hs] at hd
    exact ht.g3 pre w (post ++ rest) (by rw [← hr, hd]; simp)
  · intro pre v post b hd
    rw [hs] at hd
    exact ht.g2 pre v (post ++ rest) b (by rw [← hr, hd]; simp)
  · exact t3_append _ (t3_take cut ht.tr) trivial

/-- every own vote written to the round WAL within the trace was also handed to the network within it
    (the crash did not fall between the WAL write of a vote and its send) -/
def SignClosed (eff : List Eff) : Prop :=
  ∀ v, Eff.write .round (.msg (.vote v)) ∈ eff → Msg.vote v ∈ sentOf eff

/-- the own non-nil precommits of height `h`, in signing order -/
def nnPrecommitsAt (sent : List Msg) (h : Nat) : List VoteRec :=
  (votesOf sent).filter (fun v => v.typ == .precommit && v.val.isSome && v.height == h)

/-- **RestoreLockSound** for a stopped machine `s`: if the machine has signed a non-nil precommit for
    the height it restarts in, then the WAL replay restores a lock on the block of the LAST such
    precommit, with lockedRound at least that precommit's round.  Nothing is required when there is no
    such precommit, nothing about earlier precommits, nothing about the restored round / step / votes. -/
def RLS (s : S) : Prop :=
  ∀ v, v ∈ (nnPrecommitsAt (sentOf s.eff) (replayed s).height).getLast?.toList →
    (replayed s).locked.map (·.1) = v.val ∧ (v.round : Int) ≤ (replayed s).lockedRound

instance (s : S) : Decidable (RLS s) := by unfold RLS; infer_instance

/-- in a list sorted by `R` the last element is `R`-above every other one -/
theorem pairwise_getLast? {α : Type} {R : α → α → Prop} {l : List α} (h : l.Pairwise R) {x y : α}
    (hx : l.getLast? = some x) (hy : y ∈ l) : y = x ∨ R y x := by
  obtain ⟨l', rfl⟩ := List.getLast?_eq_some_iff.mp hx
  rcases List.mem_append.mp hy with hy | hy
  · exact Or.inr ((List.pairwise_append.mp h).2.2 y hy x (List.mem_singleton_self x))
  · exact Or.inl (List.mem_singleton.mp hy)

theorem mem_nnPrecommitsAt {sent : List Msg} {h : Nat} {v : VoteRec} :
    v ∈ nnPrecommitsAt sent h ↔ Msg.vote v ∈ sent ∧ v.typ = .precommit ∧ v.val.isSome = true ∧ v.height = h := by
  unfold nnPrecommitsAt
  rw [List.mem_filter, mem_votesOf]
  simp [and_assoc]

theorem lock_of_rls (L : List VoteRec) (n : Nat) (sent : List Msg) (H R : Nat) (lk : Option Blk) (lr : Int)
    (hinc : sent.Pairwise msgLt)
    (hg2 : ∀ v b, Msg.vote v ∈ sent → v.typ = .precommit → v.val = some b →
      polkaKnown L n sent v.height v.round b)
    (hbnd : ∀ v, Msg.vote v ∈ sent → v.height = H → v.round ≤ R)
    (hrls : ∀ v, v ∈ (nnPrecommitsAt sent H).getLast?.toList → lk = v.val ∧ (v.round : Int) ≤ lr)
    (v : VoteRec) (b : Blk) (hv : Msg.vote v ∈ sent) (hvt : v.typ = .precommit) (hvb : v.val = some b)
    (hvh : v.height = H) :
    (lk = some b ∧ (v.round : Int) ≤ lr) ∨
    ∃ r'' y, v.round < r'' ∧ r'' ≤ R ∧ y ≠ some b ∧ quorumKnown L n sent H .prevote r'' y := by
  have hvP : v ∈ nnPrecommitsAt sent H := mem_nnPrecommitsAt.mpr ⟨hv, hvt, by rw [hvb]; rfl, hvh⟩
  -- `vs`: the last non-nil precommit of the height; every other one is of an earlier round
  obtain ⟨vs, hl⟩ := Option.isSome_iff_exists.mp (List.getLast?_isSome.mpr (List.ne_nil_of_mem hvP))
  obtain ⟨hvs1, hvs2, hvs3, hvs4⟩ := mem_nnPrecommitsAt.mp (List.mem_of_getLast? hl)
  obtain ⟨bs, hbs⟩ := Option.isSome_iff_exists.mp hvs3
  have hlast := hrls vs (by rw [hl]; exact List.mem_singleton_self _)
  rcases pairwise_getLast? (List.Pairwise.filter _ (votesOf_pairwise hinc)) hl hvP with rfl | hlt
  · exact Or.inl ⟨hlast.1.trans hvb, hlast.2⟩
  · have hrlt := (round_of_key_lt hlt (hvh.trans hvs4.symm)).2 (hvt.trans hvs2.symm)
    by_cases hb : bs = b
    · exact Or.inl ⟨hlast.1.trans (hbs.trans (congrArg some hb)),
        Int.le_trans (Int.ofNat_le.mpr (Nat.le_of_lt hrlt)) hlast.2⟩
    · -- the polka that allowed the last precommit unlocks `b`
      exact Or.inr ⟨vs.round, some bs, hrlt, hbnd vs hvs1 hvs4, fun h => hb (Option.some.inj h),
        hvs4 ▸ hg2 vs bs hvs1 hvs2 hbs⟩

theorem vlOk_durable {eff : List Eff} (ht : T3 L n eff) {w : Wal}
    {vl : List VoteRec} (h : Rec.voteList vl ∈ walDurable w eff) : VLOk L (sentOf eff) vl := by
  obtain ⟨pre, post, hd⟩ := List.append_of_mem (walDurable_sub _ _ _ h)
  have hv := ht.wl pre _ vl post hd
  refine ⟨fun v hv' => (hv.1 v hv').imp id fun hs => ?_, hv.2⟩
  rw [hd, sentOf_append]; exact List.mem_append_left _ hs

theorem h2_replayed (s : S) (hn : s.n = n) (htr : TR L n s.eff)
    (hsc : SignClosed s.eff) : H2 L (replayed s) := by
  obtain ⟨s1, e1, hv1, _, e⟩ := replayed_eq s
  rw [e]
  have he : ∀ {x}, Keeps s1 x → x.eff = s.eff := fun hx => hx.eff.trans (congrArg (·.2.2.2.2.1) e1)
  have h1 : H2 L s1 := by
    refine ⟨fun r t => ?_, fun v b hv ht hval => ?_⟩
    · rw [hv1]; exact ⟨wf_empty _, fun e he => by simp [votesFor] at he⟩
    · rw [he (.refl s1)] at hv ⊢
      rw [show s1.n = n from (congrArg (·.1) e1).trans hn]
      exact htr.g2_mem hv ht hval
  -- record by record the height and the trace stay (`Keeps`) and only known votes enter the vote sets
  let P := fun x => Keeps s1 x ∧ H2 L x
  have hadd : ∀ x m, P x → Known L (sentOf s.eff) m → m.height = x.height → m.signer < x.n → P (x.hvsAdd m).2 :=
    fun x m hx hk hh hn => ⟨hx.1.hvsAdd m, h2_hvsAdd x m hx.2 hn hh (he hx.1 ▸ hk)⟩
  have hadv : ∀ (x : S) (r st : Nat), P x → le2 (x.round, x.step) (r, st) → st ≤ stPrecommit →
      P { x with round := r, step := st } :=
    fun x _ _ hx hle hst => ⟨hx.1.adv hle hst, h2_of_gproj_eq (s := x) rfl hx.2⟩
  have hlist : ∀ (w : Wal) (x : S) vl, P x → Rec.voteList vl ∈ walDurable w s.eff → P (addVotes x vl) :=
    fun w x vl hx hm => addVotes_ind P vl (fun y m hy hm' => hadd y m hy ((vlOk_durable htr.tr hm).1 m hm')) x hx
  have h2 := applyRoundWAL_ind P (walDurable .round s.eff)
    (fun x m hx hm => hadd x m hx (Or.inr (hsc m (walDurable_sub _ _ _ hm)))) (hlist .round) hadv s1 ⟨.refl s1, h1⟩
  have h3 := applyLockWAL_ind P (walDurable .lock s.eff) (hlist .lock) hadv
    (fun x _ _ hx => ⟨hx.1, h2_of_gproj_eq (s := x) rfl hx.2⟩) _ none none h2
  -- the commit WAL does not filter by height vote by vote: a written list is of one height
  have h4 := applyCommitWAL_ind P (walDurable .commit s.eff)
    (fun x v vl hx hm hh => addVotesC_ind P _ (fun y m hy hm' => hadd y m hy ((vlOk_durable htr.tr hm).1 m hm')
      (((vlOk_durable htr.tr hm).2 m hm' v List.mem_cons_self).trans (hh.trans
        (hx.1.height.trans hy.1.height.symm)))) x hx)
    hadv _ h3
  exact h2_of_gproj_eq (s := applyCommitWAL _ _) rfl h4.2

theorem a3_replayed (s : S) (hi : Inv me n s)
    (htr : TR L n s.eff) (hsc : SignClosed s.eff) (hr : RLS s) : A3 L s.eff (replayed s) := by
  have f5 := (replayed_dominates s).1
  have f7 := (replayed_dominates s).2.1
  have hc := (replayed_spec s hi).1
  have hn : (replayed s).n = n := (replayed_spec s hi).2.hn
  have htr' : TR L (replayed s).n (replayed s).eff := by rw [hn, f5]; exact htr
  refine ⟨hc, h2_replayed s hi.hn htr hsc, by rw [f5]; exact List.prefix_refl _, ?_, ?_, ?_, htr'.g3, htr'.g2, htr'.tr⟩
  · intro _ v b hv hvt hvb hvh
    rw [f5] at hv
    unfold Covered
    rw [hn, f5]
    refine lock_of_rls L n (sentOf s.eff) (replayed s).height (replayed s).round _ _ hi.inc (fun _ _ => htr.g2_mem) ?_ hr
      v b hv hvt hvb hvh
    -- `hbnd` of `lock_of_rls`: an own vote of the restored height is of a round ≤ the restored one, by `Core.bnd`
    intro x hx hxh
    have := hc.bnd (.vote x) (by simp only [ctrl]; rw [f5]; exact hx)
    simp only [lexLe, ctrl, msgKey, voteKey] at this
    omega
  · intro _ b hp; rw [f7] at hp; cases hp
  · exact comInv_of_nc (Or.inr fun h8 => absurd (h8 ▸ (replayed_dominates s).2.2.1) (by decide))

/-- the per-machine invariant of L-sys with crashes: C02's global invariant, the trace facts, and —
    while running — the three invariants of the running machine -/
structure M3 (L : List VoteRec) (me n : Nat) (s : S) : Prop where
  inv : Inv me n s
  trf : TR L n s.eff
  /-- base `[]`: `H3.pre` says nothing between events; `m3_vstepS` sets the base to the trace before the event
      (`a3_rebase`) and `m3_of_a3` reads the prefix off afterwards -/
  run : s.started = false ∨ A3 L [] s

theorem m3_of_a3 {base : List Eff} {s : S} (hi : Inv me n s)
    (ha : A3 L base s) : M3 L me n s ∧ base <+: s.eff :=
  ⟨⟨hi, hi.hn ▸ (⟨ha.h3.g3, ha.h3.g2, ha.h3.tr⟩ : TR L s.n s.eff), Or.inr (a3_rebase [] List.nil_prefix ha)⟩,
    ha.h3.pre⟩

theorem m3_crash (s : S) (cut k : Nat) (hm : M3 L me n s) :
    M3 L me n (crash s cut k) :=
  ⟨inv_crash s cut k hm.inv, tr_crash cut k hm.trf, Or.inl rfl⟩

theorem m3_start (s : S) (hns : s.started = false)
    (hsc : SignClosed s.eff) (hr : RLS s) (hm : M3 L me n s) :
    M3 L me n (start s) ∧ s.eff <+: (start s).eff :=
  m3_of_a3 (vstep_inv s .start hm.inv)
    (a3_start s.eff s hns (a3_replayed s hm.inv hm.trf hsc hr))

/-- the first start is a restart from the empty trace -/
theorem a3_first_start (n me : Nat) : A3 L [] (start { n := n, me := me }) := by
  have tr0 : TR L n [] :=
    ⟨fun pre _ _ hd => (by cases pre <;> cases hd), fun pre _ _ _ hd => (by cases pre <;> cases hd), t3_nil L n⟩
  exact a3_start [] _ rfl
    (a3_replayed _ (inv_init me n) tr0 (fun _ hv => by cases hv) (fun _ hv => by cases hv))

theorem inv_start (n me : Nat) : Inv me n (start { n := n, me := me }) :=
  vstep_inv _ .start (inv_init me n)

theorem m3_first_start (n me : Nat) : M3 L me n (start { n := n, me := me }) :=
  (m3_of_a3 (inv_start n me) (a3_first_start n me)).1

end Goloop.C01
