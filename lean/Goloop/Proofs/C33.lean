import Goloop.Model.C33
import Goloop.Base.Cases
import Goloop.Base.List
namespace Goloop.C33.Proofs
open Goloop Goloop.C33

/-- holds in every state reachable from `NewPacketPool(nb, bl)` with `nb, bl ≥ 1` (`reach_wf`) -/
structure WF (p : Pool) : Prop where
  nb1 : 1 ≤ p.nb
  bl1 : 1 ≤ p.bl
  blen : p.buckets.length = p.nb
  llen : p.lens.length = p.nb
  cur_lt : p.cur < p.nb
  low : ∀ i, i ≤ p.cur → p.B i ≠ none
  -- `cur` has not wrapped round yet (nothing allocated above it), or it has, and every bucket is allocated
  high : (∀ i, p.cur < i → p.B i = none) ∨ (∀ i, i < p.nb → p.B i ≠ none)

def Mem (p : Pool) (h : UInt64) : Prop := ∃ i m, p.B i = some m ∧ h ∈ m

theorem B_some_lt (p : Pool) (wf : WF p) (i : Nat) (m : List UInt64) (h : p.B i = some m) :
    i < p.nb := by
  rw [← wf.blen]
  unfold Pool.B at h
  rw [List.getD_eq_getElem?_getD] at h
  by_cases hl : i < p.buckets.length
  · exact hl
  · rw [List.getElem?_eq_none (Nat.le_of_not_lt hl)] at h
    cases h

theorem loop_step (p : Pool) (h : UInt64) (f c : Nat) (m : List UInt64) (hb : p.B c = some m) :
    containsLoop p h (f + 1) c = true ↔
      h ∈ m ∨ containsLoop p h f (if c < 1 then p.nb - 1 else c - 1) = true := by
  rw [containsLoop, hb, ← List.contains_iff_mem]
  dsimp only
  by_cases hm : m.contains h = true
  · rw [if_pos hm]; exact iff_of_true rfl (.inl hm)
  · rw [if_neg hm]; exact (or_iff_right hm).symm

theorem loop_sound (p : Pool) (h : UInt64) (f c : Nat) : containsLoop p h f c = true → Mem p h := by
  fun_induction containsLoop p h f c with
  | case1 | case2 => nofun
  | case3 f c m hb hm => exact fun _ => ⟨c, m, hb, List.contains_iff_mem.mp hm⟩
  | case4 f c m hb hm ih => exact ih

/-- one step of the walk, on unrolled indices: bucket `u % nb` is followed by bucket `(u - 1) % nb` -/
theorem prev_mod (nb u : Nat) (hnb : 0 < nb) :
    (if (u + 1) % nb < 1 then nb - 1 else (u + 1) % nb - 1) = u % nb := by
  rw [← Nat.mod_add_mod]
  have hr := Nat.mod_lt u hnb
  generalize u % nb = r at hr ⊢
  rcases Nat.eq_or_lt_of_le (Nat.succ_le_of_lt hr) with rfl | hlt
  · rw [Nat.mod_self, if_pos Nat.zero_lt_one]; rfl
  · rw [Nat.mod_eq_of_lt hlt, if_neg (Nat.not_lt.mpr (Nat.le_add_left 1 r))]; rfl

/-- walking down from bucket `u % nb` over allocated buckets reaches bucket `v % nb`, `v ≤ u`, while the fuel lasts -/
theorem loop_find (p : Pool) (h : UInt64) (hnb : 0 < p.nb) (v : Nat) (m : List UInt64)
    (hd : p.B (v % p.nb) = some m) (hm : h ∈ m) :
    ∀ f u, v ≤ u → u < v + f → (∀ w, w ≤ u → p.B (w % p.nb) ≠ none) → containsLoop p h f (u % p.nb) = true
  | 0, _, hvu, hf, _ => absurd hf (Nat.not_lt.mpr hvu)
  | f + 1, u, hvu, hf, hB => by
    rcases Nat.eq_or_lt_of_le hvu with rfl | hlt
    · exact (loop_step p h f _ m hd).mpr (.inl hm)
    · cases hb : p.B (u % p.nb) with
      | none => exact absurd hb (hB u (Nat.le_refl _))
      | some mc =>
        obtain ⟨u', rfl⟩ := Nat.exists_eq_add_one_of_ne_zero (Nat.ne_zero_of_lt hlt)
        refine (loop_step p h f _ mc hb).mpr (.inr ?_)
        rw [prev_mod p.nb u' hnb]
        exact loop_find p h hnb v m hd hm f u' (Nat.le_of_lt_succ hlt) (Nat.lt_of_succ_lt_succ hf)
          (fun w hw => hB w (Nat.le_succ_of_le hw))

theorem contains_iff (p : Pool) (wf : WF p) (h : UInt64) : contains p h = true ↔ Mem p h := by
  constructor
  · exact loop_sound p h _ _
  · rintro ⟨i, m, hi, hm⟩
    have hin := B_some_lt p wf i m hi
    have hi' : p.B (i % p.nb) = some m := by rw [Nat.mod_eq_of_lt hin]; exact hi
    unfold contains
    rw [← Nat.mod_eq_of_lt wf.cur_lt]
    by_cases hle : i ≤ p.cur
    · exact loop_find p h wf.nb1 i m hi' hm _ _ hle (Nat.lt_of_lt_of_le wf.cur_lt (Nat.le_add_left ..))
        (fun w hw => by rw [Nat.mod_eq_of_lt (Nat.lt_of_le_of_lt hw wf.cur_lt)]; exact wf.low w hw)
    · -- `i` above `cur` is allocated, so every bucket is: the walk from `cur + nb` down to `i`
      rw [← Nat.add_mod_right]
      refine loop_find p h wf.nb1 i m hi' hm _ _ (Nat.le_trans (Nat.le_of_lt hin) (Nat.le_add_left ..))
        (Nat.add_lt_add_right (Nat.lt_of_not_le hle) _) (fun w _ => ?_)
      rcases wf.high with hh | hh
      · have := hh i (Nat.lt_of_not_le hle); rw [hi] at this; cases this
      · exact hh _ (Nat.mod_lt _ wf.nb1)

theorem contains_false_iff (p : Pool) (wf : WF p) (h : UInt64) :
    contains p h = false ↔ ¬ Mem p h := by
  rw [← contains_iff p wf h]; simp

def curLen (p : Pool) : Nat := p.lens.getD p.cur 0
def nextCur (p : Pool) : Nat := if p.cur + 1 ≥ p.nb then 0 else p.cur + 1
theorem nextCur_eq (p : Pool) : nextCur p = (if p.cur + 1 ≥ p.nb then 0 else p.cur + 1) := rfl

/-- `Put` of a new hash is `insert`, then `rotate` if the bucket is full (`put_new`). -/
def insert (p : Pool) (h : UInt64) : Pool :=
  { p with buckets := p.buckets.set p.cur (some (h :: (p.B p.cur).getD [])),
           lens := p.lens.set p.cur (curLen p + 1) }

def rotate (p : Pool) : Pool :=
  { p with buckets := p.buckets.set (nextCur p) (some []), lens := p.lens.set (nextCur p) 0,
           cur := nextCur p }

theorem put_rejected (p : Pool) (h : UInt64) (hc : contains p h = true) : put p h = (p, false) := by
  rw [put, if_pos hc]

theorem put_new (p : Pool) (h : UInt64) (hc : contains p h = false) :
    put p h = (if p.bl ≤ curLen p + 1 then rotate (insert p h) else insert p h, true) := by
  rw [put, if_neg (by rw [hc]; exact Bool.false_ne_true)]
  by_cases hl : p.bl ≤ curLen p + 1
  · rw [if_pos hl]; exact if_pos hl
  · rw [if_neg hl]; exact if_neg hl

theorem put_flag_iff (p : Pool) (h : UInt64) : (put p h).2 = true ↔ contains p h = false := by
  cases hc : contains p h with
  | true => rw [put_rejected p h hc]; exact ⟨nofun, nofun⟩
  | false => rw [put_new p h hc]; exact ⟨fun _ => rfl, fun _ => rfl⟩

theorem put_nb_bl (p : Pool) (h : UInt64) : (put p h).1.nb = p.nb ∧ (put p h).1.bl = p.bl := by
  fun_cases put p h <;> exact ⟨rfl, rfl⟩

theorem nextCur_cases (p : Pool) :
    (p.nb ≤ p.cur + 1 ∧ nextCur p = 0) ∨ (p.cur + 1 < p.nb ∧ nextCur p = p.cur + 1) := by
  fun_cases nextCur p with
  | case1 h => exact .inl ⟨h, rfl⟩
  | case2 h => exact .inr ⟨Nat.lt_of_not_le h, rfl⟩

theorem nextCur_lt (p : Pool) (h : p.cur < p.nb) : nextCur p < p.nb := by
  rcases nextCur_cases p with ⟨_, e⟩ | ⟨h', e⟩ <;> rw [e]
  · exact Nat.lt_of_le_of_lt (Nat.zero_le _) h
  · exact h'

theorem insert_B (p : Pool) (wf : WF p) (h : UInt64) (j : Nat) :
    (insert p h).B j = if j = p.cur then some (h :: (p.B p.cur).getD []) else p.B j :=
  getD_set_lt _ _ _ _ _ (wf.blen ▸ wf.cur_lt)

theorem rotate_B (p : Pool) (wf : WF p) (j : Nat) :
    (rotate p).B j = if j = nextCur p then some [] else p.B j :=
  getD_set_lt _ _ _ _ _ (wf.blen ▸ nextCur_lt p wf.cur_lt)

theorem curLen_insert (p : Pool) (wf : WF p) (h : UInt64) : curLen (insert p h) = curLen p + 1 :=
  (getD_set_lt _ _ _ _ _ (wf.llen ▸ wf.cur_lt)).trans (if_pos rfl)

theorem curLen_rotate (p : Pool) (wf : WF p) : curLen (rotate p) = 0 :=
  (getD_set_lt _ _ _ _ _ (wf.llen ▸ nextCur_lt p wf.cur_lt)).trans (if_pos rfl)

theorem wf_insert (p : Pool) (wf : WF p) (h : UInt64) : WF (insert p h) := by
  have hB : ∀ j, (insert p h).B j = none ↔ p.B j = none := by
    intro j
    rw [insert_B p wf h j]
    by_cases e : j = p.cur
    · rw [if_pos e, e]; exact ⟨nofun, fun hn => absurd hn (wf.low _ (Nat.le_refl _))⟩
    · rw [if_neg e]
  exact ⟨wf.nb1, wf.bl1, (List.length_set ..).trans wf.blen, (List.length_set ..).trans wf.llen,
    wf.cur_lt, fun i hi => mt (hB i).mp (wf.low i hi),
    wf.high.imp (fun hh i hi => (hB i).mpr (hh i hi)) (fun hh i hi => mt (hB i).mp (hh i hi))⟩

theorem wf_rotate (p : Pool) (wf : WF p) : WF (rotate p) := by
  have hB : ∀ j, p.B j ≠ none ∨ j = nextCur p → (rotate p).B j ≠ none := by
    intro j hj
    rw [rotate_B p wf j]
    by_cases e : j = nextCur p
    · rw [if_pos e]; nofun
    · rw [if_neg e]; exact hj.resolve_right e
  refine ⟨wf.nb1, wf.bl1, (List.length_set ..).trans wf.blen, (List.length_set ..).trans wf.llen,
    nextCur_lt p wf.cur_lt, ?_, ?_⟩
  · intro i (hi : i ≤ nextCur p)
    rcases nextCur_cases p with ⟨_, e⟩ | ⟨_, e⟩ <;> rw [e] at hi
    · exact hB i (.inr (e ▸ Nat.le_zero.mp hi))
    · exact hB i ((Nat.le_succ_iff.mp hi).imp (wf.low i) (fun h => e ▸ h))
  · rcases nextCur_cases p with ⟨hw, _⟩ | ⟨_, e⟩
    · exact .inr fun i hi => hB i (.inl (wf.low i (Nat.le_of_lt_succ (Nat.lt_of_lt_of_le hi hw))))
    · refine wf.high.imp (fun hh i (hi : nextCur p < i) => ?_) (fun hh i hi => hB i (.inl (hh i hi)))
      rw [e] at hi
      rw [rotate_B p wf i, if_neg (e ▸ Nat.ne_of_gt hi)]
      exact hh i (Nat.lt_of_succ_lt hi)

theorem wf_put (p : Pool) (wf : WF p) (h : UInt64) : WF (put p h).1 := by
  cases hc : contains p h with
  | true => rw [put_rejected p h hc]; exact wf
  | false =>
    rw [put_new p h hc]
    exact ite_both WF (wf_rotate _ (wf_insert p wf h)) (wf_insert p wf h)

theorem wf_fresh (p : Pool) (h1 : 1 ≤ p.nb) (h2 : 1 ≤ p.bl)
    (hb : p.buckets = (List.replicate p.nb none).set 0 (some [])) (hl : p.lens.length = p.nb)
    (hc : p.cur = 0) : WF p := by
  have hB : ∀ i, p.B i = if i = 0 then some [] else none := by
    intro i
    rw [Pool.B, hb, getD_set_lt _ _ _ _ _ (by rw [List.length_replicate]; exact h1)]
    by_cases e : i = 0
    · rw [if_pos e, if_pos e]
    · rw [if_neg e, if_neg e, List.getD_eq_getElem?_getD, List.getElem?_replicate]
      split <;> rfl
  refine ⟨h1, h2, by rw [hb, List.length_set, List.length_replicate], hl, hc ▸ h1, ?_, .inl ?_⟩
  · intro i hi
    rw [hB, if_pos (Nat.le_zero.mp (hc ▸ hi))]; nofun
  · intro i hi
    rw [hB, if_neg (Nat.ne_of_gt (Nat.lt_of_le_of_lt (Nat.zero_le _) hi))]

theorem wf_new (nb bl : Nat) (h1 : 1 ≤ nb) (h2 : 1 ≤ bl) : WF (newPool nb bl) :=
  wf_fresh _ h1 h2 rfl (List.length_replicate ..) rfl

theorem wf_clear (p : Pool) (wf : WF p) : WF (clear p) :=
  wf_fresh _ wf.nb1 wf.bl1 rfl wf.llen rfl

/-- accepted puts until the next rotation; `max 1`: `Clear` leaves `len[0]` as it is (network/pool.go), so
    `curLen` can have reached `bl` or passed it, and the next accepted put rotates all the same -/
def gap (p : Pool) : Nat := max 1 (p.bl - curLen p)
/-- rotations until bucket `i` is overwritten -/
def dist (p : Pool) (i : Nat) : Nat := if i > p.cur then i - p.cur else i + p.nb - p.cur

/-- `h` is guaranteed to stay in the pool for the next `t` accepted puts: an accepted put takes at most one
    off `t` (`safe_step`), and a hash just put starts with `(nb - 1) * bl` (`safe_new`). -/
def Safe (p : Pool) (h : UInt64) (t : Nat) : Prop :=
  t = 0 ∨ ∃ i m, p.B i = some m ∧ h ∈ m ∧ t ≤ gap p + (dist p i - 1) * p.bl

/-- the bound in `Safe` -/
def life (p : Pool) (i : Nat) : Nat := gap p + (dist p i - 1) * p.bl

theorem safe_contains (p : Pool) (wf : WF p) (h : UInt64) (t : Nat) (hs : Safe p h (t + 1)) :
    contains p h = true := by
  rcases hs with h0 | ⟨i, m, hb, hm, _⟩
  · cases h0
  · exact (contains_iff p wf h).mpr ⟨i, m, hb, hm⟩

theorem safe_mono (p : Pool) (h : UInt64) (t t' : Nat) (hle : t' ≤ t) (hs : Safe p h t) :
    Safe p h t' := by
  rcases hs with h0 | ⟨i, m, hb, hm, ht⟩
  · exact .inl (Nat.le_zero.mp (h0 ▸ hle))
  · exact .inr ⟨i, m, hb, hm, Nat.le_trans hle ht⟩

-- successor form: the `- 1` of `life` then cancels by rewriting (`omega` is far dearer to check)
theorem sub_succ_step (a c : Nat) (h : c + 1 < a) : ∃ e, a - (c + 1) = e + 1 ∧ a - c = e + 1 + 1 := by
  obtain ⟨k, rfl⟩ := Nat.exists_eq_add_of_lt h
  refine ⟨k, Nat.add_sub_cancel_left (n := c + 1) (m := k + 1), ?_⟩
  rw [Nat.add_right_comm c 1 k]
  exact Nat.add_sub_cancel_left (n := c) (m := k + 2)

theorem dist_cur (p : Pool) : dist p p.cur = p.nb :=
  (if_neg (Nat.lt_irrefl _)).trans (Nat.add_sub_cancel_left ..)

theorem dist_next (p : Pool) (hc : p.cur < p.nb) : dist p (nextCur p) = 1 := by
  unfold dist
  rcases nextCur_cases p with ⟨hw, e⟩ | ⟨_, e⟩ <;> rw [e]
  · rw [if_neg (Nat.not_lt_zero _), Nat.le_antisymm hw hc, Nat.zero_add]
    exact Nat.add_sub_cancel_left ..
  · rw [if_pos (Nat.lt_succ_self _)]
    exact Nat.add_sub_cancel_left ..

theorem dist_rotate (p : Pool) (i : Nat) (hc : p.cur < p.nb) (hi : i < p.nb) (hn : i ≠ nextCur p) :
    ∃ e, dist (rotate p) i = e + 1 ∧ dist p i = e + 1 + 1 := by
  show ∃ e, (if i > nextCur p then i - nextCur p else i + p.nb - nextCur p) = e + 1 ∧ _
  unfold dist
  rcases nextCur_cases p with ⟨hw, e⟩ | ⟨hw, e⟩ <;> rw [e] at hn ⊢
  · have hnb := Nat.le_antisymm hw hc
    rw [if_pos (Nat.pos_of_ne_zero hn),
      if_neg (Nat.not_lt.mpr (Nat.le_of_lt_succ (Nat.lt_of_lt_of_le hi hw)))]
    obtain ⟨k, rfl⟩ := Nat.exists_eq_succ_of_ne_zero hn
    refine ⟨k, rfl, ?_⟩
    rw [hnb]
    show k + 1 + p.cur + 1 - p.cur = k + 1 + 1
    rw [Nat.add_right_comm (k + 1) p.cur 1]
    exact Nat.add_sub_cancel ..
  · by_cases h : i > p.cur
    · rw [if_pos h, if_pos (Nat.lt_of_le_of_ne h (Ne.symm hn))]
      exact sub_succ_step i p.cur (Nat.lt_of_le_of_ne h (Ne.symm hn))
    · rw [if_neg h, if_neg (fun h' => h (Nat.lt_of_succ_lt h'))]
      exact sub_succ_step _ p.cur (Nat.lt_of_lt_of_le hw (Nat.le_add_left ..))

theorem gap_full (p : Pool) (hl : p.bl ≤ curLen p + 1) : gap p = 1 :=
  Nat.max_eq_left (Nat.sub_le_iff_le_add'.mpr hl)

theorem life_insert_lt (p : Pool) (wf : WF p) (h : UInt64) (i : Nat) (hl : curLen p + 1 < p.bl) :
    life p i = life (insert p h) i + 1 := by
  obtain ⟨e, e1, e2⟩ := sub_succ_step p.bl (curLen p) hl
  show max 1 (p.bl - curLen p) + _ = max 1 (p.bl - curLen (insert p h)) + _ + 1
  rw [curLen_insert p wf h, e1, e2, Nat.max_eq_right (Nat.le_add_left 1 e),
    Nat.max_eq_right (Nat.le_add_left 1 (e + 1))]
  exact Nat.add_right_comm ..

theorem life_rotate_insert (p : Pool) (wf : WF p) (h : UInt64) (hl : p.bl ≤ curLen p + 1) (i : Nat)
    (hi : i < p.nb) (hn : i ≠ nextCur p) : life p i = life (rotate (insert p h)) i + 1 := by
  obtain ⟨d, e1, e2⟩ := dist_rotate (insert p h) i wf.cur_lt hi hn
  show gap p + (dist (insert p h) i - 1) * p.bl = max 1 (p.bl - curLen (rotate (insert p h))) + _ * p.bl + 1
  rw [gap_full p hl, curLen_rotate _ (wf_insert p wf h), e1, e2, Nat.add_sub_cancel,
    Nat.add_sub_cancel, Nat.succ_mul, Nat.sub_zero, Nat.max_eq_right wf.bl1,
    Nat.add_comm (d * p.bl)]
  exact Nat.add_comm ..

/-- an accepted `Put` of `x` keeps the content of a bucket that lives for `t + 1` more accepted puts, and `x` itself
    if that bucket is the current one, for `t` more -/
theorem put_bucket (p : Pool) (wf : WF p) (x : UInt64) (hc : contains p x = false) (i : Nat)
    (m : List UInt64) (hb : p.B i = some m) (h : UInt64) (hm : h ∈ m ∨ (i = p.cur ∧ h = x)) (t : Nat)
    (ht : t + 1 ≤ life p i) : Safe (put p x).1 h t := by
  have hi := B_some_lt p wf i m hb
  have hB : ∃ m', (insert p x).B i = some m' ∧ h ∈ m' := by
    rw [insert_B p wf x i]
    by_cases e : i = p.cur
    · rw [if_pos e, ← e, hb]
      exact ⟨_, rfl, hm.elim (List.mem_cons_of_mem _) (fun hx => hx.2 ▸ List.mem_cons_self)⟩
    · exact ⟨m, by rw [if_neg e, hb], hm.resolve_right (fun hx => e hx.1)⟩
  obtain ⟨m', hB, hm'⟩ := hB
  rw [put_new p x hc]
  by_cases hl : p.bl ≤ curLen p + 1
  · rw [if_pos hl]
    by_cases hn : i = nextCur p
    · change t + 1 ≤ gap p + (dist p i - 1) * p.bl at ht
      rw [hn, dist_next p wf.cur_lt, gap_full p hl, Nat.sub_self, Nat.zero_mul] at ht
      exact .inl (Nat.le_zero.mp (Nat.le_of_succ_le_succ ht))
    · have hn' : i ≠ nextCur (insert p x) := hn
      rw [life_rotate_insert p wf x hl i hi hn] at ht
      exact .inr ⟨i, m', by rw [rotate_B _ (wf_insert p wf x), if_neg hn']; exact hB, hm',
        Nat.le_of_succ_le_succ ht⟩
  · rw [if_neg hl]
    rw [life_insert_lt p wf x i (Nat.lt_of_not_le hl)] at ht
    exact .inr ⟨i, m', hB, hm', Nat.le_of_succ_le_succ ht⟩

theorem safe_step (p : Pool) (wf : WF p) (x h : UInt64) (t : Nat)
    (hc : contains p x = false) (hs : Safe p h (t + 1)) : Safe (put p x).1 h t := by
  rcases hs with h0 | ⟨i, m, hb, hm, ht⟩
  · cases h0
  · exact put_bucket p wf x hc i m hb h (.inl hm) t ht

theorem safe_new (p : Pool) (wf : WF p) (h : UInt64) (hc : contains p h = false) :
    Safe (put p h).1 h ((p.nb - 1) * p.bl) := by
  cases hb : p.B p.cur with
  | none => exact absurd hb (wf.low p.cur (Nat.le_refl _))
  | some m =>
    refine put_bucket p wf h hc p.cur m hb h (.inr ⟨rfl, rfl⟩) _ ?_
    -- `life p cur = gap p + (nb - 1) * bl` with `gap p ≥ 1`
    show _ ≤ gap p + (dist p p.cur - 1) * p.bl
    rw [dist_cur, Nat.add_comm]
    exact Nat.add_le_add_right (Nat.le_max_left 1 _) _

/-- states reachable from `NewPacketPool(nb, bl)` by any sequence of `Put` / `Clear`. -/
inductive Reach (nb bl : Nat) : Pool → Prop where
  | new : Reach nb bl (newPool nb bl)
  | put (p : Pool) (h : UInt64) : Reach nb bl p → Reach nb bl (put p h).1
  | clear (p : Pool) : Reach nb bl p → Reach nb bl (clear p)

theorem reach_wf (nb bl : Nat) (h1 : 1 ≤ nb) (h2 : 1 ≤ bl) (p : Pool) (r : Reach nb bl p) :
    WF p ∧ p.nb = nb ∧ p.bl = bl := by
  induction r with
  | new => exact ⟨wf_new nb bl h1 h2, rfl, rfl⟩
  | put p h _ ih =>
    exact ⟨wf_put p ih.1 h, (put_nb_bl p h).1.trans ih.2.1, (put_nb_bl p h).2.trans ih.2.2⟩
  | clear p _ ih => exact ⟨wf_clear p ih.1, ih.2.1, ih.2.2⟩

/-- run `Put` over `xs`; `some n`: the first *accepted* `Put` of `h` in `xs` is preceded by
    exactly `n` accepted `Put`s (of other hashes); `none`: `h` is not accepted in `xs`. -/
def reaccept (p : Pool) (h : UInt64) : List UInt64 → Option Nat
  | [] => none
  | x :: xs =>
    if (put p x).2 then
      if x = h then some 0 else (reaccept (put p x).1 h xs).map (· + 1)
    else reaccept (put p x).1 h xs

theorem reaccept_ge (h : UInt64) (xs : List UInt64) (p : Pool) : ∀ (t n : Nat),
    WF p → Safe p h t → reaccept p h xs = some n → t ≤ n := by
  fun_induction reaccept p h xs with
  | case1 => nofun
  | case2 p xs hput =>
    intro t n wf hs _
    cases t with
    | zero => exact Nat.zero_le _
    | succ t => rw [put_flag_iff, safe_contains p wf h t hs] at hput; cases hput
  | case3 p x xs hput hx ih =>
    intro t n wf hs hr
    cases t with
    | zero => exact Nat.zero_le _
    | succ t =>
      obtain ⟨n', hq, rfl⟩ := Option.map_eq_some_iff.mp hr
      exact Nat.succ_le_succ (ih t n' (wf_put p wf x)
        (safe_step p wf x h t ((put_flag_iff p x).mp hput) hs) hq)
  | case4 p x xs hput ih =>
    rw [put_rejected p x (by rwa [put_flag_iff, Bool.not_eq_false] at hput)] at ih ⊢
    exact ih

def Pass (e : Ev) : Prop :=
  e.peerHasProto = true ∧ e.connNone = false ∧ e.self ≠ e.src ∧
  (e.isOneHop = true → e.peerId = e.src) ∧
  (e.isBroadcast = true → e.peerId = e.src → e.hasRoot = true) ∧ e.hasCb = true

theorem oneHop_guard (e : Ev) :
    (e.isOneHop && !e.isSourcePeer) = true ↔ ¬ (e.isOneHop = true → e.peerId = e.src) := by
  rw [Bool.and_eq_true, Bool.not_eq_true', Classical.not_imp]
  exact and_congr_right fun _ => beq_eq_false_iff_ne

theorem broadcast_guard (e : Ev) :
    (e.isBroadcast && e.isSourcePeer && !e.hasRoot) = true ↔
      ¬ (e.isBroadcast = true → e.peerId = e.src → e.hasRoot = true) := by
  rw [Bool.and_eq_true, Bool.and_eq_true, Bool.not_eq_true', Classical.not_imp, Classical.not_imp,
    and_assoc]
  exact and_congr_right fun _ => and_congr beq_iff_eq Bool.eq_false_iff

theorem onPacket_spec (p : Pool) (e : Ev) :
    (¬ Pass e ∧ (onPacket p e).1 = p ∧ (onPacket p e).2 ≠ .deliver) ∨
    (Pass e ∧ e.isOneHop = true ∧ onPacket p e = (p, .deliver)) ∨
    (Pass e ∧ e.isOneHop = false ∧ (onPacket p e).1 = (put p e.hash).1 ∧
      ((onPacket p e).2 = .deliver ↔ (put p e.hash).2 = true)) := by
  unfold onPacket
  cases h1 : e.peerHasProto
  · exact .inl ⟨fun hp => Bool.false_ne_true (h1.symm.trans hp.1), rfl, Outcome.noConfusion⟩
  rw [if_neg (show ¬ (!true) = true from Bool.false_ne_true)]
  cases h2 : e.connNone
  case true => exact .inl ⟨fun hp => Bool.false_ne_true (hp.2.1.symm.trans h2), rfl, Outcome.noConfusion⟩
  rw [if_neg Bool.false_ne_true]
  by_cases h3 : e.self = e.src
  · rw [if_pos (beq_iff_eq.mpr h3)]; exact .inl ⟨fun hp => hp.2.2.1 h3, rfl, Outcome.noConfusion⟩
  rw [if_neg (mt beq_iff_eq.mp h3)]
  by_cases h4 : e.isOneHop = true → e.peerId = e.src
  case neg =>
    rw [if_pos ((oneHop_guard e).mpr h4)]
    exact .inl ⟨fun hp => h4 hp.2.2.2.1, rfl, Outcome.noConfusion⟩
  rw [if_neg (mt (oneHop_guard e).mp (not_not_intro h4))]
  by_cases h5 : e.isBroadcast = true → e.peerId = e.src → e.hasRoot = true
  case neg =>
    rw [if_pos ((broadcast_guard e).mpr h5)]
    exact .inl ⟨fun hp => h5 hp.2.2.2.2.1, rfl, Outcome.noConfusion⟩
  rw [if_neg (mt (broadcast_guard e).mp (not_not_intro h5))]
  cases h6 : e.hasCb
  · exact .inl ⟨fun hp => Bool.false_ne_true (h6.symm.trans hp.2.2.2.2.2), rfl, Outcome.noConfusion⟩
  rw [if_pos rfl]
  have hp : Pass e := ⟨h1, h2, h3, h4, h5, h6⟩
  cases h7 : e.isOneHop
  · refine .inr (.inr ⟨hp, rfl, ?_⟩)
    rw [if_neg Bool.false_ne_true]
    cases hq : (put p e.hash).2 <;> simp [hq]
  · exact .inr (.inl ⟨hp, rfl, rfl⟩)

/-- a receive function that touches the pool only for a flooded (not one-hop) packet, and then by
    exactly one `Put` whose result decides between delivery and a drop. -/
def PoolStep (f : Pool → Ev → Pool × Outcome) : Prop :=
  ∀ p e, ((f p e).1 = p ∧ ((f p e).2 = .deliver → e.isOneHop = true)) ∨
    (e.isOneHop = false ∧ (f p e).1 = (put p e.hash).1 ∧
      ((f p e).2 = .deliver ↔ (put p e.hash).2 = true))

theorem onPacket_poolStep : PoolStep onPacket := by
  intro p e
  rcases onPacket_spec p e with ⟨_, h1, h2⟩ | ⟨_, ho, he⟩ | ⟨_, h⟩
  · exact .inl ⟨h1, fun hd => absurd hd h2⟩
  · exact .inl ⟨by rw [he], fun _ => ho⟩
  · exact .inr h

theorem PoolStep.reach {f : Pool → Ev → Pool × Outcome} (hf : PoolStep f) (nb bl : Nat) (p : Pool)
    (r : Reach nb bl p) (e : Ev) : Reach nb bl (f p e).1 := by
  rcases hf p e with ⟨hx, _⟩ | ⟨_, hp, _⟩
  · rw [hx]; exact r
  · rw [hp]; exact Reach.put p e.hash r

theorem onPacketFull_of_ne (p : Pool) (e : Ev) (h : e.protoId ≠ 0) :
    onPacketFull p e = onPacket p e := by
  fun_cases onPacketFull p e with
  | case1 h1 => rw [onPacket, if_pos h1]
  | case2 _ h0 | case3 _ h0 | case4 _ h0 => exact absurd (beq_iff_eq.mp h0) h
  | case5 => rfl

/-- run `onPacket` over a sequence of received packets (any peers, any order);
    `some n`: the first flooded packet with hash `h` that is delivered is preceded by exactly
    `n` other delivered flooded packets. -/
def redeliver (p : Pool) (h : UInt64) : List Ev → Option Nat
  | [] => none
  | e :: es =>
    if (onPacket p e).2 = .deliver ∧ e.isOneHop = false then
      if e.hash = h then some 0 else (redeliver (onPacket p e).1 h es).map (· + 1)
    else redeliver (onPacket p e).1 h es

/-- `redeliver` for any receive function `f` -/
def redeliverG (f : Pool → Ev → Pool × Outcome) (p : Pool) (h : UInt64) : List Ev → Option Nat
  | [] => none
  | e :: es =>
    if (f p e).2 = .deliver ∧ e.isOneHop = false then
      if e.hash = h then some 0 else (redeliverG f (f p e).1 h es).map (· + 1)
    else redeliverG f (f p e).1 h es

theorem redeliver_eq (h : UInt64) : ∀ (es : List Ev) (p : Pool),
    redeliver p h es = redeliverG onPacket p h es
  | [], _ => rfl
  | e :: es, p => by rw [redeliver, redeliverG, redeliver_eq h es]

/-- node-level deliveries are accepted `Put`s of the hashes that reach the pool -/
theorem PoolStep.redeliverG_eq {f : Pool → Ev → Pool × Outcome} (hf : PoolStep f) (h : UInt64) :
    ∀ (es : List Ev) (p : Pool), ∃ xs, redeliverG f p h es = reaccept p h xs
  | [], _ => ⟨[], rfl⟩
  | e :: es, p => by
    rcases hf p e with ⟨hp, hd⟩ | ⟨hoh, hp, hd⟩
    · obtain ⟨xs, hx⟩ := hf.redeliverG_eq h es p
      have hno : ¬ ((f p e).2 = .deliver ∧ e.isOneHop = false) := by
        intro ⟨a, b⟩; rw [hd a] at b; cases b
      exact ⟨xs, by rw [redeliverG, if_neg hno, hp, hx]⟩
    · obtain ⟨xs, hx⟩ := hf.redeliverG_eq h es (put p e.hash).1
      exact ⟨e.hash :: xs, by simp only [redeliverG, reaccept, hp, hd, hoh, and_true, hx]⟩

end Goloop.C33.Proofs
