/-
  Proofs/C01Move — what the running step machine (Model/C01) can do, as a relation.

  `Move L s s'` is one move; its guards are path conditions of the code, and `Fresh`, which `Core` knows right
  after a step reset.  Every function of the machine, every crash-free event, the dispatch of `start` and block
  sync are finite compositions of moves (`Moves`): `moves_all`, `moves_vstep`, `moves_start`, `moves_syncBlock`.
  An invariant is proved move by move (`Move.core` here, `Move.h2`, `Move.g3`, `Move.aux` with their invariants)
  and carried along a composition by `Moves.inv`; none walks the machine again.  Elsewhere a function of the machine
  is opened only at its first guard (`vstep_stopped`, Proofs/C02Restart: a stopped engine ignores the event) and on
  the empty state (`start_fresh_eff`, Proofs/C01Sys).
-/
import Goloop.Proofs.C01G1
namespace Goloop.C01

/-- a vote the machine knows of: delivered by an event (`L`) or signed by itself -/
def Known (L : List VoteRec) (sent : List Msg) (v : VoteRec) : Prop := v ∈ L ∨ Msg.vote v ∈ sent

instance (L : List VoteRec) (sent : List Msg) (v : VoteRec) : Decidable (Known L sent v) := by
  unfold Known; infer_instance

/-- the precondition under which `sendVote` may sign a non-nil precommit -/
def PC (s : S) (t : VType) (v : Option Blk) : Prop :=
  t = .precommit → ∀ b, v = some b → (votesFor s.hvs s.round .prevote).decision s.n = some (some b)

theorem pc_prevote (s : S) (v : Option Blk) : PC s .prevote v := fun h => nomatch h
theorem pc_nil (s : S) (t : VType) : PC s t none := fun _ _ h => nomatch h

/-- what `sendVote` needs to know about the lock: a prevote is for the locked block (if any); a non-nil
    precommit is for the block locked in this very round -/
def PV (s : S) (t : VType) (v : Option Blk) : Prop :=
  (t = .prevote → ∀ b, s.locked.map (·.1) = some b → v = some b) ∧
  (t = .precommit → ∀ b, v = some b → s.locked.map (·.1) = some b ∧ s.lockedRound = (s.round : Int))

theorem pv_prevote (s : S) (v : Option Blk) (h : ∀ b, s.locked.map (·.1) = some b → v = some b) :
    PV s .prevote v :=
  ⟨fun _ => h, nofun⟩

theorem pv_precommit (s : S) (v : Option Blk)
    (h : ∀ b, v = some b → s.locked.map (·.1) = some b ∧ s.lockedRound = (s.round : Int)) :
    PV s .precommit v :=
  ⟨nofun, fun _ => h⟩

theorem pv_nil_precommit (s : S) : PV s .precommit none :=
  pv_precommit s none (fun _ h => nomatch h)

theorem pv_unlocked (s : S) (v : Option Blk) (h : s.locked = none) : PV s .prevote v :=
  pv_prevote s v (fun b hb => by rw [h] at hb; cases hb)

/-- not in step commit (or stuck): there `ComInv` (Proofs/C01G3) asks nothing -/
def NC (s : S) : Prop := s.stuck = true ∨ s.step ≠ stCommit

theorem nc_rfs (s : S) (tgt : Nat) (ht : tgt ≠ 0 ∧ tgt ≠ 2 ∧ tgt ≠ stCommit) :
    NC (s.resetForNewStep tgt) := by
  rcases rfs_eq s tgt ht.1 ht.2.1 with ⟨_, e⟩ | e <;> rw [e]
  · exact Or.inr ht.2.2
  · exact Or.inl rfl

/-- doSendVote / doSendProposal: WAL write, WAL sync, then the message handed to the network -/
abbrev signed (s : S) (m : Msg) : S :=
  ((s.emit (.write .round (.msg m))).emit (.sync .round)).emit (.send m)

theorem nc_signed (s : S) (m : Msg) (h : NC s) : NC (signed s m) := by unfold signed S.emit; exact h

/-- Finalize of block `b` (commitAndEnterNewHeight, the commit ImportBlock callback) -/
abbrev fin (s : S) (b : Blk) : S := { s.emit (.finalize s.height b) with dbHeight := s.height }

/-- getOverTwoThirdsPartSetID of the votes (r, t) -/
abbrev dec (s : S) (r : Nat) (t : VType) : Option (Option Blk) := (votesFor s.hvs r t).decision s.n

/-- when block `b` may be finalized: in step commit (where the invariant knows the quorum behind the part set),
    or with its +2/3 precommits in the vote set -/
def FinOk (s : S) (b : Blk) : Prop := s.step = stCommit ∨ ∃ r, dec s r .precommit = some (some b)

inductive Move (L : List VoteRec) : S → S → Prop
  /-- fuel exhausted, or a Go panic -/
  | stuck (s : S) : Move L s { s with stuck := true }
  /-- fields no invariant reads -/
  | frame (s : S) (t : Bool) (p : Int) (l : List Blk) : Move L s { s with timer := t, polRound := p, bpm := l }
  /-- currentBlockParts changes: outside step commit freely; in it for the same block, or (processBlock) for a
      block with +2/3 precommits in the vote set -/
  | cur (s : S) (c : Cur) : NC s ∨ c.id = s.cur.id ∨ (∃ b r, c.id = some b ∧ dec s r .precommit = some (some b)) →
      Move L s { s with cur := c }
  /-- resetForNewStep, except into step commit -/
  | rfs (s : S) (to : Nat) : to ≠ 0 ∧ to ≠ 2 ∧ to ≠ stCommit → Move L s (s.resetForNewStep to)
  | rfr (s : S) (r : Nat) : s.round < r → Move L s (s.resetForNewRound r)
  | hvsAdd (s : S) (m : VoteRec) : m.height = s.height → m.signer < s.n → Known L (sentOf s.eff) m →
      Move L s (s.hvsAdd m).2
  | sync (s : S) (w : Wal) : Move L s (s.emit (.sync w))
  | writeBP (s : S) (w : Wal) (h : Nat) (b : Blk) : Move L s (s.emit (.write w (.blockPart h b)))
  | writeVL (s : S) (w : Wal) (r : Nat) (t : VType) : Move L s (s.emit (.write w (.voteList (voteListOf s r t))))
  /-- doSendVote up to the feedback of the own vote -/
  | vote (s : S) (t : VType) (v : Option Blk) : s.stuck = false → s.me < s.n → Fresh s (mstepOf t) →
      PC s t v → PV s t v → Move L s (signed s (.vote ⟨s.me, s.height, t, s.round, v⟩))
  /-- doSendProposal -/
  | propose (s : S) (b : Blk) (pol : Int) : s.stuck = false → Fresh s stPropose →
      Move L s (signed s (.proposal s.me s.height s.round b pol))
  /-- a BlockManager callback is armed (enterPropose: Propose; enterPrevote: ImportBlock of an unvalidated candidate,
      only when not locked; commitAndEnterNewHeight: ImportBlock, which signs nothing) or cleared -/
  | pend (s : S) (p : Pend) : PendOk s p → (∀ b, p = .import_ s.height s.round b → s.locked = none) →
      Move L s { s with pend := p }
  /-- handlePrevoteMessage: a polka of round `mr` for something else than the locked block unlocks … -/
  | unlock (s : S) (mr : Nat) (psid : Option Blk) : dec s mr .prevote = some psid →
      s.lockedRound < (mr : Int) → s.locked.map (·.1) ≠ psid → mr ≤ s.round → Move L s s.unlock
  /-- … and if that round is ahead, the machine moves to it in the same call -/
  | unlockRound (s : S) (mr : Nat) (psid : Option Blk) : dec s mr .prevote = some psid →
      s.lockedRound < (mr : Int) → s.locked.map (·.1) ≠ psid → s.round < mr →
      Move L s (s.unlock.resetForNewRound mr)
  /-- enterPrecommit: the lock follows the +2/3 prevotes `y` of the current round -/
  | setlock (s : S) (c : Cur) (lk : Option (Blk × Bool)) (lr : Int) (y : Option Blk) :
      Fresh s stPrecommit → NC s → dec s s.round .prevote = some y →
      (∀ b, y = some b → s.locked.map (·.1) = some b → lk.map (·.1) = some b ∧ lr = (s.round : Int)) →
      Move L s { s with cur := c, lockedRound := lr, locked := lk }
  /-- enterCommit: step commit is entered holding (the id of) the decided block; the code sets the part set after
      the two commit-WAL effects, which do not look at it -/
  | rfsCommit (s s1 : S) (b : Blk) (r : Nat) (c : Cur) : dec s r .precommit = some (some b) → c.id = some b →
      s1 = s.resetForNewStep stCommit → Move L s { s1 with commitRound := (r : Int), cur := c }
  /-- Finalize and resetForNewHeight; `Aux` does not hold in between -/
  | newHeight (s : S) (b : Blk) : s.stuck = false → s.cur.id = some b → FinOk s b →
      Move L s ((fin s b).resetForNewHeight (s.height + 1))
  | finStuck (s : S) (b : Blk) : s.stuck = false → s.cur.id = some b → FinOk s b →
      Move L s { fin s b with stuck := true }
  /-- the ImportBlock callback of the current round fires in time and signs the prevote; that the machine is not
      locked then is part of `H3`, so this is a move of its own and not `pend`, `vote` -/
  | importVote (s : S) (ib b : Blk) : s.stuck = false → s.me < s.n →
      s.pend = .import_ s.height s.round ib → s.step ≤ stPrevoteWait →
      Move L s (signed { s with pend := .none } (.vote ⟨s.me, s.height, .prevote, s.round, some b⟩))

inductive Moves (L : List VoteRec) (s : S) : S → Prop
  | refl : Moves L s s
  | tail {x y : S} : Moves L s x → Move L x y → Moves L s y

variable {L : List VoteRec}

theorem Moves.inv (P : S → Prop) (hstep : ∀ x y, Move L x y → P x → P y) {s s' : S}
    (h : Moves L s s') (hs : P s) : P s' := by
  induction h with
  | refl => exact hs
  | tail _ st ih => exact hstep _ _ st ih

theorem Move.core {s s' : S} (h : Move L s s') (hc : Core s) : Core s' := by
  cases h with
  | stuck => exact core_stuck s hc
  | frame | cur | unlock | setlock => exact core_of_ctrl_eq (s := s) rfl hc
  | rfs to ht => exact core_rfs s to ht.1 ht.2.1 hc
  | rfr r hr => exact core_rfr s r hr hc
  | hvsAdd m => exact core_of_ctrl_eq (ctrl_hvsAdd s m) hc
  | sync w => exact core_emit_nonsend s _ (Eff.sync_ne_send w) hc
  | writeBP | writeVL => exact core_emit_nonsend s _ (Eff.write_ne_send _ _) hc
  | vote t v hst _ hf => exact core_signed s _ _ hc hst hf rfl
  | propose b pol hst hf => exact core_signed s _ _ hc hst hf rfl
  | pend p hp => exact core_set_pend s p hp hc
  | unlockRound mr psid _ _ _ hr => exact core_rfr s.unlock mr hr (core_of_ctrl_eq (s := s) rfl hc)
  | rfsCommit s1 b r c _ _ e =>
    exact core_of_ctrl_eq (s := s1) rfl (e ▸ core_rfs s stCommit (by decide) (by decide) hc)
  | newHeight b => exact core_rfh (fin s b) (core_finalize s b hc)
  | finStuck b => exact core_stuck _ (core_finalize s b hc)
  | importVote ib b hst _ hp h5 =>
    -- a callback signs only inside its window, where nothing was signed for its key yet
    exact core_signed _ _ _ (core_set_pend s .none (pendOk_off rfl) hc) hst
      (fresh_of_pend s 4 5 hc (by rw [hp]; rfl) h5) rfl

theorem Moves.core {s0 s : S} (h : Moves L s0 s) (hc : Core s0) : Core s := h.inv Core (fun _ _ => Move.core) hc

/-- doSendProposal, then the proposed block becomes the current part set -/
theorem moves_sendProposal {s0 s : S} (hs : Moves L s0 s) (hf : Fresh s stPropose) (hn : NC s) (b : Blk) (pol : Int)
    (c : Cur) : Moves L s0 { s.sendProposal b pol with cur := c } := by
  fun_cases S.sendProposal s b pol with
  | case1 => exact hs.tail (.cur s c (.inl hn))
  | case2 hst => exact (hs.tail (.propose s b pol (eq_false_of_ne_true hst) hf)).tail (.cur _ c (.inl (nc_signed s _ hn)))

theorem rfs_hvs_n (s : S) (to : Nat) : (s.resetForNewStep to).hvs = s.hvs ∧ (s.resetForNewStep to).n = s.n :=
  beginStep_cases (fun x => x.hvs = s.hvs ∧ x.n = s.n) s.endStep to (fun _ => ⟨rfl, rfl⟩) ⟨rfl, rfl⟩

/-- `x` is reached from `s0` and may sign the vote `(t, v)`: the guards of the move `vote` -/
def Ready (L : List VoteRec) (s0 x : S) (t : VType) (v : Option Blk) : Prop :=
  Moves L s0 x ∧ Fresh x (mstepOf t) ∧ PC x t v ∧ PV x t v

/-- Every function of the machine, called with fuel `f` in a state reached from `s0`, ends in a state reached from
    `s0`.  The hypotheses beside `Moves` are what the callers in the code have checked. -/
structure IHM (L : List VoteRec) (s0 : S) (f : Nat) : Prop where
  recvVote : ∀ s, Moves L s0 s → ∀ m, Known L (sentOf s.eff) m → Moves L s0 (recvVote f s m)
  sendVote : ∀ s t v, Ready L s0 s t v → Moves L s0 (sendVote f s t v)
  handlePrevote : ∀ s, Moves L s0 s → ∀ mr, Moves L s0 (handlePrevote f s mr)
  handlePrecommit : ∀ s, Moves L s0 s → ∀ mr, Moves L s0 (handlePrecommit f s mr)
  enterPropose : ∀ s, Moves L s0 s → Moves L s0 (enterPropose f s)
  enterPrevote : ∀ s, Moves L s0 s → Moves L s0 (enterPrevote f s)
  enterPrevoteWait : ∀ s, Moves L s0 s → Moves L s0 (enterPrevoteWait f s)
  enterPrecommit : ∀ s, Moves L s0 s → Moves L s0 (enterPrecommit f s)
  enterPrecommitWait : ∀ s, Moves L s0 s → Moves L s0 (enterPrecommitWait f s)
  enterCommit : ∀ s, Moves L s0 s → ∀ b r, dec s r .precommit = some (some b) → Moves L s0 (enterCommit f s b r)
  commitAndEnterNewHeight : ∀ s, Moves L s0 s → (∀ b, s.cur.id = some b → FinOk s b) →
    Moves L s0 (commitAndEnterNewHeight f s)
  enterNewHeight : ∀ s, Moves L s0 s → ∀ b, s.stuck = false → s.cur.id = some b → FinOk s b →
    Moves L s0 (enterNewHeight f (fin s b))
  enterNewRound : ∀ s, Moves L s0 s → Moves L s0 (enterNewRound f s)

/-- what is known of the calls a function makes when it runs with fuel `n` -/
def IHP (L : List VoteRec) (s0 : S) : Nat → Prop
  | 0 => True
  | f+1 => IHM L s0 f

/-! One lemma per function of the machine, by `fun_cases` (case1 is fuel 0).  `fun_cases` does not take apart a branch
bound by `let`; the three functions that have one (`enterPrevote`, `enterPrecommit`, `enterCommit`) are walked by hand:
the equation of the function, `extract_lets`, then `split` or `ite_both` on the bound branch.  The value of an
intermediate state is forgotten (`clear_value`) once the facts about it are taken, or the unifier unfolds it. -/
section
variable {s0 : S} (hc0 : Core s0) (n : Nat) (ih : IHP L s0 n) (s : S) (hs : Moves L s0 s)
include hc0 ih hs

omit hc0 in
theorem moves_recvVote (m : VoteRec) (hk : Known L (sentOf s.eff) m) : Moves L s0 (recvVote n s m) := by
  have h' : ∀ a x, ¬(m.height != s.height) = true → ¬m.signer ≥ s.n → s.hvsAdd m = (a, x) → Moves L s0 x :=
    fun a x hh hn e => (show (s.hvsAdd m).2 = x from congrArg Prod.snd e) ▸ hs.tail
      (.hvsAdd s m (eq_of_not_bne hh) (Nat.lt_of_not_ge hn) hk)
  fun_cases recvVote n s m with
  | case1 => exact hs.tail (.stuck s)
  | case2 | case3 | case4 => exact hs
  | case5 f _ _ _ hh hn a x e | case6 f _ _ _ hh hn a x e => exact h' a x hh hn e
  | case7 f _ _ _ hh hn a x e => exact ih.handlePrevote _ (h' a x hh hn e) _
  | case8 f _ _ _ hh hn a x e => exact ih.handlePrecommit _ (h' a x hh hn e) _

omit hc0 hs in
theorem moves_sendVote (t : VType) (v : Option Blk) (h : Ready L s0 s t v) : Moves L s0 (sendVote n s t v) := by
  fun_cases sendVote n s t v with
  | case1 => exact h.1.tail (.stuck s)
  | case2 | case3 => exact h.1
  | case4 f _ _ _ hst hn =>
    exact ih.recvVote _ (h.1.tail (.vote s t v (eq_false_of_ne_true hst) (Nat.lt_of_not_ge hn) h.2.1 h.2.2.1 h.2.2.2)) _
      (Or.inr (by rw [sentOf_emit_send]; exact List.mem_append_right _ (List.mem_singleton_self _)))

omit hc0 in
theorem moves_handlePrevote (mr : Nat) : Moves L s0 (handlePrevote n s mr) := by
  have h1 : ∀ s1, ¬s.step ≥ stCommit → s1 = s.prevoteDecision mr (dec s mr .prevote) →
      (mr ≤ s1.round → Moves L s0 s1) ∧ (s1.round < mr → Moves L s0 (s1.resetForNewRound mr)) := fun s1 hstep e => by
    have c0 : ∀ c, Moves L s0 { s with cur := c } := fun c =>
      hs.tail (.cur s c (.inl (.inr (Nat.ne_of_lt (Nat.lt_of_not_ge hstep)))))
    rw [e]
    refine prevoteDecision_cases (fun x => (mr ≤ x.round → Moves L s0 x) ∧
      (x.round < mr → Moves L s0 (x.resetForNewRound mr))) s mr _
      (fun c => ⟨fun _ => c0 c, fun h => (c0 c).tail (.rfr _ mr h)⟩) fun psid c hd hlr hne => ?_
    -- ahead of the round the unlock is no move by itself: `unlockRound`, after `cur`
    exact ⟨fun h => (c0 c).tail (.unlock _ mr psid hd hlr hne h),
      fun h => (c0 c).tail (.unlockRound _ mr psid hd hlr hne h)⟩
  have le : ∀ {x : S} {b : Bool}, (x.round == mr && b) = true → mr ≤ x.round := fun c =>
    Nat.le_of_eq (beq_iff_eq.1 (Bool.and_eq_true_iff.1 c).1).symm
  fun_cases handlePrevote n s mr with
  | case1 => exact hs.tail (.stuck s)
  | case2 | case3 => exact hs
  | case4 f _ _ _ hc d s1 c =>
    refine ih.enterPrevote _ ((h1 s1 hc rfl).1 ?_)
    simp only [Bool.and_eq_true, decide_eq_true_eq] at c; exact Nat.le_of_lt c.1.1.1
  | case5 f _ _ _ hc d s1 _ c => exact ih.enterPrevote _ ((h1 s1 hc rfl).1 (le c))
  | case6 f _ _ _ hc d s1 _ _ c => exact ih.enterPrevoteWait _ ((h1 s1 hc rfl).1 (le c))
  | case7 f _ _ _ hc d s1 _ _ _ c => exact ih.enterPrecommit _ ((h1 s1 hc rfl).1 (le c))
  | case8 f _ _ _ hc d s1 _ _ _ c => exact (h1 s1 hc rfl).1 (le c)
  | case9 f _ _ _ hc d s1 _ _ _ _ c =>
    refine ih.enterPrevote _ ((h1 s1 hc rfl).2 ?_)
    simp only [Bool.and_eq_true, decide_eq_true_eq] at c; exact c.1
  | case10 f _ _ _ hc d s1 _ _ _ _ c =>
    -- the last `else`: not behind, since the step (unchanged by `prevoteDecision`) is below commit
    refine (h1 s1 hc rfl).1 ?_
    simp only [Bool.and_eq_true, decide_eq_true_eq, not_and] at c
    exact Nat.le_of_not_lt fun hl => c hl (prevoteDecision_step s mr _ ▸ Nat.lt_of_not_ge hc)

omit hc0 in
theorem moves_handlePrecommit (mr : Nat) : Moves L s0 (handlePrecommit n s mr) := by
  fun_cases handlePrecommit n s mr with
  | case1 => exact hs.tail (.stuck s)
  | case2 | case4 | case9 | case11 => exact hs
  | case3 f _ _ _ d _ b hd => exact ih.enterCommit _ hs _ _ hd
  | case5 => exact ih.enterPrecommit _ hs
  | case6 => exact ih.enterPrecommitWait _ hs
  | case7 f _ _ _ d _ _ _ _ b hd => exact ih.enterCommit _ hs _ _ hd
  | case8 => exact ih.enterNewRound _ hs
  | case10 f _ _ _ _ _ _ _ c =>
    refine ih.enterPrecommit _ (hs.tail (.rfr s mr ?_))
    simp only [Bool.and_eq_true, decide_eq_true_eq] at c; exact c.1

theorem moves_enterPropose : Moves L s0 (enterPropose n s) := by
  have key : ∀ s1 s2 : S, ¬s.stuck = true → s1 = s.resetForNewStep stPropose → s2 = { s1 with timer := true } →
      Moves L s0 s2 ∧ Fresh s2 stPropose ∧ NC s2 := fun s1 s2 hst e1 e2 => by
    have r1 : Moves L s0 s1 := e1 ▸ hs.tail (.rfs s stPropose (by decide))
    have f1 : Fresh s1 stPropose := e1 ▸ fresh_rfs s stPropose (Or.inl rfl) (hs.core hc0) (eq_false_of_ne_true hst)
    have n1 : NC s1 := e1 ▸ nc_rfs s stPropose (by decide)
    subst e2
    exact ⟨r1.tail (.frame s1 true s1.polRound s1.bpm), fresh_of_ctrl (s := s1) rfl _ f1, n1⟩
  fun_cases enterPropose n s with
  | case1 => exact hs.tail (.stuck s)
  | case2 => exact hs
  | case3 f _ hst s1 s2 _ b v =>
    exact moves_sendProposal (key s1 s2 hst rfl rfl).1 (key s1 s2 hst rfl rfl).2.1 (key s1 s2 hst rfl rfl).2.2 b _ _
  | case4 f _ hst s1 s2 =>
    exact (key s1 s2 hst rfl rfl).1.tail (.pend s2 _ (pendOk_arm rfl (key s1 s2 hst rfl rfl).2.1) nofun)
  | case5 f _ hst s1 s2 => exact ih.enterPrevote _ (key s1 s2 hst rfl rfl).1
  | case6 f _ hst s1 s2 => exact (key s1 s2 hst rfl rfl).1

theorem moves_enterPrevote : Moves L s0 (enterPrevote n s) := by
  cases n with
  | zero => exact enterPrevote.eq_1 s ▸ hs.tail (.stuck s)
  | succ f =>
    rw [enterPrevote.eq_2]
    refine ite_pred (Moves L s0) _ _ _ (fun _ => hs) fun hst => ?_
    extract_lets s1 s2
    have r1 : Moves L s0 s1 := hs.tail (.rfs s stPrevote (by decide))
    have f1 : Fresh s1 (mstepOf .prevote) :=
      fresh_rfs s stPrevote (Or.inr (Or.inl rfl)) (hs.core hc0) (eq_false_of_ne_true hst)
    have key : Moves L s0 s2 := by
      unfold s2
      split
      next b v hl =>
        exact ih.sendVote _ _ _ ⟨r1, f1, pc_prevote _ _, pv_prevote _ _ fun b' hb' => by
          rw [hl] at hb'; exact congrArg some (Option.some.inj hb')⟩
      next hl =>
        have sv : ∀ v, Moves L s0 (sendVote f s1 .prevote v) := fun _ =>
          ih.sendVote _ _ _ ⟨r1, f1, pc_prevote _ _, pv_unlocked _ _ hl⟩
        split
        next b vd hcur =>
          exact ite_both (Moves L s0) (sv _) (ite_both (Moves L s0) (sv _)
            (r1.tail (.pend s1 (.import_ _ _ b) (pendOk_arm rfl f1) fun _ _ => hl)))
        next => exact sv _
    exact ite_both (Moves L s0) (ite_both (Moves L s0) (ih.enterPrevoteWait _ key) key) key

omit hc0 in
theorem moves_enterPrevoteWait : Moves L s0 (enterPrevoteWait n s) := by
  fun_cases enterPrevoteWait n s with
  | case1 => exact hs.tail (.stuck s)
  | case2 => exact hs
  | case3 f _ _ s1 s2 =>
    exact ih.enterPrecommit _ ((hs.tail (.rfs s stPrevoteWait (by decide))).tail (.writeVL s1 .round s1.round .prevote))
  | case4 f _ _ s1 s2 =>
    exact ((hs.tail (.rfs s stPrevoteWait (by decide))).tail (.writeVL s1 .round s1.round .prevote)).tail
      (.frame s2 true s2.polRound s2.bpm)

theorem moves_enterPrecommit : Moves L s0 (enterPrecommit n s) := by
  cases n with
  | zero => exact enterPrecommit.eq_1 s ▸ hs.tail (.stuck s)
  | succ f =>
    rw [enterPrecommit.eq_2]
    refine ite_pred (Moves L s0) _ _ _ (fun _ => hs) fun hst => ?_
    extract_lets s1 s2
    have r1 : Moves L s0 s1 := hs.tail (.rfs s stPrecommit (by decide))
    have n1 : NC s1 := nc_rfs s stPrecommit (by decide)
    have f1 : Fresh s1 (mstepOf .precommit) :=
      fresh_rfs s stPrecommit (Or.inr (Or.inr rfl)) (hs.core hc0) (eq_false_of_ne_true hst)
    clear_value s1
    -- what the +2/3 prevotes of the round do to the lock: for a block `b` the machine ends locked on it in this round
    -- (`lk`: what it holds) and votes `b`; for a `y` it is not locked on it ends unlocked (`cur` may change) and votes nil
    have hl : ∀ (lk : Option (Blk × Bool)) b, dec s1 s1.round .prevote = some (some b) → lk.map (·.1) = some b →
        Ready L s0 { s1 with lockedRound := s1.round, locked := lk } .precommit (some b) := fun lk b hd hk =>
      ⟨r1.tail (.setlock s1 s1.cur lk _ (some b) f1 n1 hd fun _ hb _ => Option.some.inj hb ▸ ⟨hk, rfl⟩),
        fresh_of_ctrl (s := s1) rfl _ f1, fun _ _ hb => Option.some.inj hb ▸ hd,
        pv_precommit _ _ fun _ hb => Option.some.inj hb ▸ ⟨hk, rfl⟩⟩
    have hu : ∀ (c : Cur) (y : Option Blk), dec s1 s1.round .prevote = some y →
        (∀ b, y = some b → s1.locked.map (·.1) ≠ some b) →
        Ready L s0 { s1 with cur := c, lockedRound := -1, locked := none } .precommit none := fun c y hd hy =>
      ⟨r1.tail (.setlock s1 c none (-1) y f1 n1 hd fun b hb h => absurd h (hy b hb)), fresh_of_ctrl (s := s1) rfl _ f1,
        pc_nil _ _, pv_nil_precommit _⟩
    have key : Moves L s0 s2 := by
      unfold s2
      split
      next hd => exact ih.sendVote _ _ _ ⟨r1, f1, pc_nil _ _, pv_nil_precommit _⟩
      next hd => exact ih.sendVote _ _ _ (hu s1.cur none hd nofun)
      next b hd =>
        refine ite_pred (Moves L s0) _ _ _ (fun hlk => ih.sendVote _ _ _ (hl s1.locked b hd (beq_iff_eq.1 hlk)))
          fun hlk => ?_
        refine ite_both (Moves L s0) ?_ (ih.sendVote _ _ _ (hu (s1.cur.setByID b) (some b) hd
          fun _ hb h => hlk (beq_iff_eq.2 (Option.some.inj hb ▸ h))))
        extract_lets x1 x2 x3 x4
        -- the lock WAL records; one effect at a time, or the unifier walks the nested `emit`s
        have em : ∀ (y : S) (e : Eff), Move L y (y.emit e) → (∀ m, e ≠ .send m) →
            Ready L s0 y .precommit (some b) → Ready L s0 (y.emit e) .precommit (some b) :=
          fun y e st he h => ⟨h.1.tail st, fresh_emit_nonsend y e he _ h.2.1, h.2.2.1, h.2.2.2⟩
        exact ih.sendVote _ _ _ (em x3 _ (.sync _ .lock) (Eff.sync_ne_send _) (em x2 _ (.writeBP _ .lock x1.height b)
          (Eff.write_ne_send _ _) (em x1 _ (.writeVL x1 .lock x1.round .prevote) (Eff.write_ne_send _ _)
            (hl (some (b, s1.cur.hasValidated)) b hd rfl))))
    exact ite_both (Moves L s0) (ite_both (Moves L s0) (ih.enterPrecommitWait _ key) key) key

omit hc0 in
theorem moves_enterPrecommitWait : Moves L s0 (enterPrecommitWait n s) := by
  have r2 : ∀ s1 : S, s1 = s.resetForNewStep stPrecommitWait →
      Moves L s0 (s1.emit (.write .round (.voteList (voteListOf s1 s1.round .precommit)))) := fun s1 e =>
    (e ▸ hs.tail (.rfs s stPrecommitWait (by decide))).tail (.writeVL s1 .round s1.round .precommit)
  fun_cases enterPrecommitWait n s with
  | case1 => exact hs.tail (.stuck s)
  | case2 => exact hs
  | case3 f _ _ s1 s2 b hd => exact ih.enterCommit _ (r2 s1 rfl) _ _ hd
  | case4 f _ _ s1 s2 => exact ih.enterNewRound _ (r2 s1 rfl)
  | case5 f _ _ s1 s2 => exact (r2 s1 rfl).tail (.frame s2 true s2.polRound s2.bpm)

omit hc0 in
theorem moves_enterCommit (b r : Nat) (hd : dec s r .precommit = some (some b)) :
    Moves L s0 (enterCommit n s b r) := by
  cases n with
  | zero => exact enterCommit.eq_1 s b r ▸ hs.tail (.stuck s)
  | succ f =>
    rw [enterCommit.eq_2]
    refine ite_both (Moves L s0) hs ?_
    extract_lets s1 s2 s3 s4 s5
    have r1 : ∀ c : Cur, c.id = some b → Moves L s0 { s1 with commitRound := (r : Int), cur := c } := fun c hc =>
      hs.tail (.rfsCommit s s1 b r c hd hc rfl)
    have h1 : s1.hvs = s.hvs ∧ s1.n = s.n := rfs_hvs_n s stCommit
    clear_value s1
    -- whatever part set `c` for `b` the function ends with: reached, and ready for `commitAndEnterNewHeight`
    have key : ∀ c : Cur, c.id = some b →
        Moves L s0 { s3 with cur := c } ∧ ∀ b', c.id = some b' → FinOk { s3 with cur := c } b' := fun c hc =>
      ⟨((r1 c hc).tail (.writeVL _ .commit r .precommit)).tail (.sync _ .commit), fun b' hb' => .inr ⟨r, by
        show (votesFor s1.hvs r .precommit).decision s1.n = _
        rw [h1.1, h1.2, Option.some.inj (hb'.symm.trans hc)]; exact hd⟩⟩
    clear_value s3
    have q : Moves L s0 s5 ∧ ∀ b', s5.cur.id = some b' → FinOk s5 b' :=
      ite_both (fun x : S => Moves L s0 x ∧ ∀ b', x.cur.id = some b' → FinOk x b') (key _ rfl)
        (key _ (Cur.setByID_id _ b))
    exact ite_both (Moves L s0) (ih.commitAndEnterNewHeight _ q.1 q.2) q.1

omit hc0 in
theorem moves_commitAndEnterNewHeight (hq : ∀ b, s.cur.id = some b → FinOk s b) :
    Moves L s0 (commitAndEnterNewHeight n s) := by
  fun_cases commitAndEnterNewHeight n s with
  | case1 | case5 => exact hs.tail (.stuck s)
  | case2 => exact hs
  | case3 => exact hs.tail (.pend s _ (pendOk_off rfl) nofun)
  | case4 f _ hst b v hc hv =>
    have hid : s.cur.id = some b := by rw [hc]; rfl
    exact ih.enterNewHeight s hs b (eq_false_of_ne_true hst) hid (hq b hid)

omit hc0 in
theorem moves_enterNewHeight (b : Blk) (hst : s.stuck = false) (hid : s.cur.id = some b) (hq : FinOk s b) :
    Moves L s0 (enterNewHeight n (fin s b)) := by
  generalize e : fin s b = x
  fun_cases enterNewHeight n x with
  | case1 => exact e ▸ hs.tail (.finStuck s b hst hid hq)
  | case2 f _ h => subst e; exact nomatch hst.symm.trans h
  | case3 f =>
    subst e
    exact ih.enterPropose _ ((hs.tail (.newHeight s b hst hid hq)).tail (.rfs _ stTransactionWait (by decide)))

omit hc0 in
theorem moves_enterNewRound : Moves L s0 (enterNewRound n s) := by
  fun_cases enterNewRound n s with
  | case1 => exact hs.tail (.stuck s)
  | case2 => exact hs
  | case3 => exact ih.enterPropose _ (hs.tail (.rfr s _ (Nat.lt_succ_self _)))

end

theorem moves_all (L : List VoteRec) {s0 : S} (hc0 : Core s0) : ∀ f, IHM L s0 f := by
  have step : ∀ n, IHP L s0 n → IHM L s0 n := fun n ih =>
    ⟨moves_recvVote n ih, moves_sendVote n ih, moves_handlePrevote n ih, moves_handlePrecommit n ih,
      moves_enterPropose hc0 n ih, moves_enterPrevote hc0 n ih, moves_enterPrevoteWait n ih, moves_enterPrecommit hc0 n ih,
      moves_enterPrecommitWait n ih, moves_enterCommit n ih, moves_commitAndEnterNewHeight n ih, moves_enterNewHeight n ih,
      moves_enterNewRound n ih⟩
  intro f
  induction f with
  | zero => exact step 0 trivial
  | succ f ih => exact step (f+1) ih

theorem moves_vstep (s : S) (e : Event) (hn : e.noCrash) (hl : ∀ m, e = .vote m → m ∈ L) (hc : Core s) :
    Moves L s (vstep s e) := by
  have R := moves_all L hc
  cases e with
  | start => exact absurd hn id
  | crash c k => exact absurd hn id
  | proposal sg h r b pol =>
    show Moves L s (recvProposal s sg h r b pol)
    have r1 : ¬(h != s.height || r != s.round || decide (s.step ≥ stCommit)) = true → ∀ c,
        Moves L s { s with polRound := pol, cur := c } := fun hc c =>
      (Moves.refl.tail (.frame s s.timer pol s.bpm)).tail (.cur _ c (.inl (.inr (Nat.ne_of_lt (by
        simp only [Bool.or_eq_true, decide_eq_true_eq, not_or] at hc; exact Nat.lt_of_not_ge hc.2)))))
    fun_cases recvProposal s sg h r b pol with
    | case1 | case2 | case3 | case4 | case5 | case6 => exact .refl
    | case7 _ _ hc => exact (R _).enterPrevote _ (ite_both (Moves L s) (r1 hc _) (r1 hc _))
    | case8 _ _ hc => exact ite_both (Moves L s) (r1 hc _) (r1 hc _)
  | blockPart h b =>
    show Moves L s (recvBlockPart s h b)
    have r1 : ∀ {c : Prop} [Decidable c], Moves L s (if c then { s with bpm := s.bpm ++ [b] } else s) :=
      ite_both (Moves L s) (Moves.refl.tail (.frame s s.timer s.polRound _)) .refl
    have r2 : ∀ x : S, Moves L s x → ¬(x.cur.id != some b) = true → Moves L s { x with cur := .full b false } :=
      fun x hx hid => hx.tail (.cur x _ (.inr (.inl (eq_of_not_bne hid).symm)))
    fun_cases recvBlockPart s h b with
    | case1 => exact .refl
    | case2 | case3 | case4 => exact r1
    | case5 _ s1 _ _ hid => exact (R _).enterPrevote _ (r2 s1 r1 hid)
    | case6 _ s1 _ _ hid s2 _ c =>
      exact (R _).commitAndEnterNewHeight _ (r2 s1 r1 hid) fun _ _ => .inl (beq_iff_eq.1 (Bool.and_eq_true_iff.1 c).1)
    | case7 _ s1 _ _ hid => exact r2 s1 r1 hid
  | vote m => exact ite_both (Moves L s) .refl ((R _).recvVote _ .refl _ (Or.inl (hl m rfl)))
  | timeout st =>
    show Moves L s (timeout s st)
    fun_cases timeout s st with
    | case1 | case5 => exact .refl
    | case2 => exact (R _).enterPrevote _ .refl
    | case3 => exact (R _).enterPrecommit _ .refl
    | case4 => exact (R _).enterNewRound _ .refl
  | async =>
    show Moves L s (async s)
    have r1 : Moves L s { s with pend := .none } := Moves.refl.tail (.pend s .none (pendOk_off rfl) nofun)
    have hst : ¬(!s.started || s.stuck) = true → s.stuck = false := fun h => by
      simp only [Bool.or_eq_true, not_or, Bool.not_eq_true] at h; exact h.2
    fun_cases async s with
    | case1 | case2 => exact .refl
    | case3 _ h r hp =>
      fun_cases asyncPropose { s with pend := .none } h r with
      | case1 => exact r1
      | case2 c =>
        simp only [Bool.or_eq_true, bne_iff_ne, ne_eq, not_or, Decidable.not_not] at c
        exact (R _).enterPrevote _ (moves_sendProposal r1
          (fresh_of_pend s 3 3 hc (by rw [hp, ← c.1.1, ← c.1.2]; rfl) (Nat.le_of_eq c.2))
          (.inr (c.2 ▸ (by decide : stPropose ≠ stCommit))) _ _ _)
    | case4 hs h r ib hp =>
      have r2 : ∀ {a : Bool}, ¬(a || decide (s.step ≥ stCommit)) = true → ∀ cu,
          Moves L s { s with pend := .none, cur := cu } := fun c cu =>
        r1.tail (.cur _ cu (.inl (.inr (Nat.ne_of_lt (by
          simp only [Bool.or_eq_true, decide_eq_true_eq, not_or] at c; exact Nat.lt_of_not_ge c.2)))))
      fun_cases asyncImport { s with pend := .none } h r ib with
      | case1 => exact r1
      | case2 c s2 h5 b =>
        refine markValidated_frame (fun x : S => x.step ≤ stPrevoteWait →
          Moves L s (sendVote fuel0 x .prevote (some b))) _ ib (fun cu h5 => ?_) h5
        have r3 := r2 c cu
        simp only [Bool.or_eq_true, bne_iff_ne, ne_eq, decide_eq_true_eq, not_or, Decidable.not_not] at c
        -- `sendVote` is opened here: its own vote is the move `importVote` of the state before the callback
        rw [show fuel0 = 63 + 1 from rfl, sendVote.eq_2]
        refine ite_both (Moves L s) r3 (ite_pred (Moves L s) _ _ _ (fun _ => r3) fun hlt => ?_)
        exact (R 63).recvVote _ ((Moves.refl.tail (.cur s cu (.inl (.inr (Nat.ne_of_lt (Nat.lt_of_not_ge c.2)))))).tail
          (.importVote _ ib b (hst hs) (Nat.lt_of_not_ge hlt) (by rw [hp, ← c.1.1, ← c.1.2]) h5)) _
          (Or.inr (by rw [sentOf_emit_send]; exact List.mem_append_right _ (List.mem_singleton_self _)))
      | case3 c => exact (markValidated_frame (Moves L s) _ ib (r2 c)).tail (.stuck _)
      | case4 c => exact markValidated_frame (Moves L s) _ ib (r2 c)
    | case5 hs h r hp =>
      fun_cases asyncCommit { s with pend := .none } h r with
      | case1 => exact r1
      | case2 c b v hcur s2 =>
        simp only [Bool.or_eq_true, bne_iff_ne, ne_eq, not_or, Decidable.not_not] at c
        exact (R _).enterNewHeight _ (r1.tail (.cur _ _ (.inr (.inl (by rw [hcur]; rfl))))) b (hst hs) rfl (.inl c.2)
      | case3 => exact r1.tail (.stuck _)

/-- the Start dispatch on the state the WAL replay built (`replayed s` unfolds to the state `start` dispatches on) -/
theorem moves_start (s : S) (hns : s.started = false) (hc : Core (replayed s)) : Moves L (replayed s) (start s) := by
  have R := moves_all L hc
  fun_cases start s with
  | case1 h => exact nomatch hns.symm.trans h
  | case2 => exact (R _).enterPropose _ (Moves.refl.tail (.rfs _ stTransactionWait (by decide)))
  | case3 => exact (R _).enterPropose _ .refl
  | case4 => exact (R _).enterPrevote _ .refl
  | case5 => exact (R _).enterPrevoteWait _ .refl
  | case7 => exact (R _).enterPrecommitWait _ .refl
  | case6 | case8 | case9 => exact .refl

def syncVotes (h r : Nat) (b : Blk) (signers : List Nat) : List VoteRec :=
  signers.map (fun sg => ⟨sg, h, .precommit, r, some b⟩)

/-- block sync: the commit votes handed over count as delivered -/
theorem moves_syncBlock (s : S) (h r : Nat) (b : Blk) (signers : List Nat)
    (hk : ∀ v, v ∈ syncVotes h r b signers → v ∈ L) (hc : Core s) : Moves L s (syncBlock s h r b signers) := by
  have R := moves_all L hc
  have r1 : ¬s.height < h → ∀ {a : Bool}, ¬(decide (s.height > h) || a) = true → ∀ x ok,
      syncAddVotes s (syncVotes h r b signers) = (x, ok) → Moves L s x := fun c1 _ c2 x ok e => by
    simp only [Bool.or_eq_true, decide_eq_true_eq, not_or] at c2
    have hh : h = s.height := Nat.le_antisymm (Nat.le_of_not_lt c1) (Nat.le_of_not_lt c2.1)
    exact (show (syncAddVotes s _).1 = x from congrArg Prod.fst e) ▸
      (syncAddVotes_ind (fun x => x.height = s.height ∧ Moves L s x) _
        (fun x m hx hm hn => ⟨((Keeps.refl x).hvsAdd m).height.trans hx.1,
          hx.2.tail (.hvsAdd x m (by obtain ⟨sg, _, rfl⟩ := List.mem_map.mp hm; exact hh.trans hx.1.symm) hn
            (Or.inl (hk m hm)))⟩)
        s ⟨rfl, .refl⟩).2
  -- the block handed over becomes the part set on its +2/3 precommits
  have r2 : ∀ (x : S) (b' : Blk) (k : Bool), Moves L s x → dec x r .precommit = some (some b') → ¬(b' != b) = true →
      Moves L s { x with cur := .full b k } ∧ dec { x with cur := .full b k } r .precommit = some (some b) :=
    fun x b' k hx hd hb => by
      cases eq_of_not_bne hb
      exact ⟨hx.tail (.cur x _ (.inr (.inr ⟨_, r, rfl, hd⟩))), hd⟩
  fun_cases syncBlock s h r b signers with
  | case1 | case2 => exact .refl
  | case3 c1 c2 s1 ok e | case4 c1 c2 s1 ok e | case7 c1 c2 s1 ok e => exact r1 c1 c2 s1 ok e
  | case5 c1 c2 s1 ok e _ b' hd hb k =>
    exact (R _).enterCommit _ (r2 s1 b' k (r1 c1 c2 s1 ok e) hd hb).1 _ _ (r2 s1 b' k (r1 c1 c2 s1 ok e) hd hb).2
  | case6 c1 c2 s1 ok e _ b' hd hb k =>
    exact (R _).commitAndEnterNewHeight _ (r2 s1 b' k (r1 c1 c2 s1 ok e) hd hb).1 fun b'' hb'' =>
      .inr ⟨r, Option.some.inj hb'' ▸ (r2 s1 b' k (r1 c1 c2 s1 ok e) hd hb).2⟩

/-- the delivered votes one event accounts for -/
def Event.votes : Event → List VoteRec
  | .vote m => [m]
  | _ => []

theorem vstep_core (s : S) (e : Event) (hn : e.noCrash) (hc : Core s) : Core (vstep s e) :=
  (moves_vstep (L := e.votes) s e hn (fun m hm => hm ▸ List.mem_singleton_self m) hc).core hc

theorem run_core (s : S) (evs : List Event) (hn : ∀ e ∈ evs, e.noCrash) (hc : Core s) : Core (run s evs) :=
  run_foldl s evs ▸ List.foldlRecOn evs vstep hc fun s hs e he => vstep_core s e (hn e he) hs

end Goloop.C01
