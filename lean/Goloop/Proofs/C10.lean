/-
  Proofs/C10: the invariant `Inv` of the concurrent executor's transition system (`Core`: what finished
  and running workers have established; `Pos`: where the dispatcher stands), the measure `mu` that
  every step lowers, and the sequential loop.
-/
import Goloop.Model.C10
namespace Goloop.C10.Proofs
open Goloop.C10

theorem workerIter_again_lt {t : Tx} {i k : Nat} : workerIter t i k = .again → k < retryCount := by
  fun_cases workerIter t i k with
  | case1 | case2 | case3 | case4 => nofun
  | case5 _ hlt => exact fun _ => Nat.lt_of_not_le hlt

theorem seqIter_again_lt {t : Tx} {i k : Nat} (h : seqIter t i k = .again) : k < retryCount := by
  revert h
  fun_cases seqIter t i k with
  | case1 | case2 | case3 | case4 => nofun
  | case5 _ _ hlt => exact fun _ => Nat.lt_of_not_le hlt

theorem wFrom_eq_seqFrom (t : Tx) (i : Nat) : ∀ f k, t.att k ≠ .hfail → wFrom t i f k = seqFrom t i f k := by
  intro f
  induction f with
  | zero => intro k _; rfl
  | succ f ih =>
    intro k hk
    rw [wFrom, seqFrom, seqIter, if_neg hk]
    fun_cases workerIter t i k with
    | case1 h | case2 h => rw [h]
    | case3 h hge => simp only [h, if_pos hge]
    | case4 h hge hh =>
      simp only [h, if_neg hge]
      cases f with
      | zero => rfl
      | succ f' => simp [seqFrom, seqIter, hh]
    | case5 h hge hh =>
      simp only [h, if_neg hge]
      exact ih (k + 1) hh

theorem txPar_ok_prep {t : Tx} {i k : Nat} : txPar t i = .ok k → t.prep = false := by
  fun_cases txPar t i with
  | case1 | case2 => nofun
  | case3 _ hp => exact fun _ => Bool.eq_false_iff.mpr hp

theorem seqLoop_spec : ∀ (txs : List Tx) (cnt : Nat) (buf : Buf), cnt + txs.length ≤ buf.length →
    (∃ out, seqLoop txs cnt buf = .ok out ∧ out.length = buf.length ∧ (∀ p, p < cnt → out[p]? = buf[p]?) ∧
      ∀ j (h : j < txs.length), ∃ k, out[j + cnt]? = some (some k) ∧ txSeq txs[j] (j + cnt) = .ok k) ∨
    (∃ e, seqLoop txs cnt buf = .error e ∧ ∃ j, ∃ h : j < txs.length, txSeq txs[j] (j + cnt) = .error e ∧
      ∀ j' (h' : j' < j), ∃ k, txSeq (txs[j']'(by omega)) (j' + cnt) = .ok k) := by
  intro txs cnt buf
  fun_induction seqLoop txs cnt buf with
  | case1 cnt buf => exact fun _ => .inl ⟨buf, rfl, rfl, fun _ _ => rfl, fun j h => absurd h (Nat.not_lt_zero j)⟩
  | case3 t rest cnt buf e hr =>
    exact fun _ => .inr ⟨e, rfl, 0, Nat.zero_lt_succ _, (Nat.zero_add cnt).symm ▸ hr, fun j' h' => absurd h' (Nat.not_lt_zero j')⟩
  | case2 t rest cnt buf k hr ih =>
    intro hlen
    rw [List.length_cons] at hlen
    have hcnt : cnt < buf.length := Nat.lt_of_lt_of_le (Nat.lt_add_of_pos_right (Nat.succ_pos _)) hlen
    have e1 : ∀ j, j + (cnt + 1) = j + 1 + cnt := fun j => (Nat.succ_add j cnt).symm
    rcases ih (by rw [List.length_set, Nat.add_right_comm]; exact hlen) with
      ⟨out, h0, h1, h2, h3⟩ | ⟨e, h0, j, hj, hj1, hj2⟩
    · rw [List.length_set] at h1
      have h2' : ∀ p, p < cnt → out[p]? = buf[p]? := fun p hp => by
        rw [h2 p (Nat.lt_succ_of_lt hp), List.getElem?_set_ne (Nat.ne_of_gt hp)]
      refine .inl ⟨out, h0, h1, h2', Nat.forall_lt_succ_left'.mpr ⟨?_, fun j hj => e1 j ▸ h3 j hj⟩⟩
      rw [Nat.zero_add]
      exact ⟨k, by rw [h2 cnt (Nat.lt_succ_self _), List.getElem?_set_self hcnt], hr⟩
    · exact .inr ⟨e, h0, j + 1, Nat.succ_lt_succ hj, e1 j ▸ hj1,
        Nat.forall_lt_succ_left'.mpr ⟨⟨k, (Nat.zero_add cnt).symm ▸ hr⟩, fun j' h' => e1 j' ▸ hj2 j' h'⟩⟩

theorem upd_same {α : Type} (f : Nat → α) (i : Nat) (v : α) : upd f i v i = v := by simp [upd]
theorem upd_ne {α : Type} (f : Nat → α) {i j : Nat} (v : α) (h : j ≠ i) : upd f i v j = f j := by
  simp [upd, h]

/-- facts about finished / running workers and the latch (independent of the dispatcher) -/
structure Core (c : Cfg) (ws : Nat → WSt) (latch : Option Err) (buf : Nat → Option Nat) : Prop where
  done : ∀ j, j < c.n → ws j = .done →
    (∃ k, buf j = some k ∧ txPar (c.tx j) j = .ok k) ∨ latch ≠ none
  /-- `retryCount - k + 1` is what attempt `k` has left of the fuel `retryCount + 1` that `txPar` gives `wFrom`; the `+ 1`
      stands last so that `wFrom` unfolds (`inv_stepW`). The same number is `wm (.blocked k)`. -/
  blk : ∀ j k, j < c.n → ws j = .blocked k → txPar (c.tx j) j = wFrom (c.tx j) j (retryCount - k + 1) k
  lat : ∀ e, latch = some e → ∃ j, j < c.n ∧ txPar (c.tx j) j = .error e

variable {c : Cfg}

/-- Worker `i` moves to `v`, possibly with a new latch and a new receipt of its own: what has to be
    shown is about `i` alone. -/
theorem core_upd {ws latch buf} (h : Core c ws latch buf) {i : Nat} {v : WSt}
    {latch' : Option Err} {buf' : Nat → Option Nat} (hbuf : ∀ j, j ≠ i → buf' j = buf j)
    (hl1 : latch ≠ none → latch' ≠ none)
    (hl2 : ∀ e, latch' = some e → latch = some e ∨ (i < c.n ∧ txPar (c.tx i) i = .error e))
    (hv : match v with
      | .done => (∃ k, buf' i = some k ∧ txPar (c.tx i) i = .ok k) ∨ latch' ≠ none
      | .blocked k => txPar (c.tx i) i = wFrom (c.tx i) i (retryCount - k + 1) k
      | .idle => True) :
    Core c (upd ws i v) latch' buf' := by
  refine ⟨fun j hj hd => ?_, fun j k hj hb => ?_, fun e he => ?_⟩
  · by_cases hji : j = i
    · subst hji; rw [upd_same] at hd; subst hd; exact hv
    · rw [upd_ne _ _ hji] at hd; rw [hbuf j hji]
      exact (h.done j hj hd).imp id hl1
  · by_cases hji : j = i
    · subst hji; rw [upd_same] at hb; subst hb; exact hv
    · rw [upd_ne _ _ hji] at hb; exact h.blk j k hj hb
  · rcases hl2 e he with h1 | h1
    · exact h.lat e h1
    · exact ⟨i, h1⟩

theorem report_fixed_ne_none (latch : Option Err) (e : Err) : report true latch e ≠ none := by
  cases latch <;> simp [report]

theorem report_fixed_cases (latch : Option Err) (e x : Err) (h : report true latch e = some x) :
    latch = some x ∨ (latch = none ∧ x = e) := by
  cases latch with
  | none => simp [report] at h; exact Or.inr ⟨rfl, h.symm⟩
  | some y => simp [report] at h; exact Or.inl (by rw [h])

def sumTo (f : Nat → Nat) : Nat → Nat
  | 0 => 0
  | n + 1 => sumTo f n + f n

/-- a value lowered by `d` at `i`: no partial sum rises (this half carries the induction up to `i`), those beyond `i` fall by `d` -/
theorem sumTo_upd {α : Type} (f : Nat → α) (g : α → Nat) (i : Nat) (v : α) (d : Nat) (h : g v + d ≤ g (f i)) :
    ∀ n, sumTo (fun j => g (upd f i v j)) n ≤ sumTo (fun j => g (f j)) n ∧
      (i < n → sumTo (fun j => g (upd f i v j)) n + d ≤ sumTo (fun j => g (f j)) n)
  | 0 => ⟨Nat.le_refl _, nofun⟩
  | n + 1 => by
    obtain ⟨h1, h2⟩ := sumTo_upd f g i v d h n
    simp only [sumTo]
    by_cases hi : n = i
    · subst hi
      rw [upd_same]
      exact ⟨Nat.add_le_add h1 (Nat.le_trans (Nat.le_add_right _ d) h),
        fun _ => by rw [Nat.add_assoc]; exact Nat.add_le_add h1 h⟩
    · rw [upd_ne _ _ hi]
      refine ⟨Nat.add_le_add_right h1 _, fun hlt => ?_⟩
      rw [Nat.add_right_comm]
      exact Nat.add_le_add_right (h2 (Nat.lt_of_le_of_ne (Nat.le_of_lt_succ hlt) (Ne.symm hi))) _

theorem sumTo_const (v : Nat) : ∀ n, sumTo (fun _ => v) n = n * v := by
  intro n
  induction n with
  | zero => simp [sumTo]
  | succ n ih => simp [sumTo, ih, Nat.succ_mul]

/-- `idle` is two above `blocked 0`: `inv_launch` brings `mu` strictly below the `wsum` before the launch, although `head`
    may end at a gate, which weighs 1 (`dw`). Hence `bound`: every worker idle, and the first gate. -/
def wm : WSt → Nat
  | .idle => retryCount + 3
  | .blocked k => retryCount - k + 1
  | .done => 0

def dw : Disp → Nat
  | .gate _ => 1
  | _ => 0

def wsum (c : Cfg) (ws : Nat → WSt) : Nat := sumTo (fun j => wm (ws j)) c.n
def mu (c : Cfg) (s : PS) : Nat := wsum c s.ws + dw s.disp

theorem wsum_upd (c : Cfg) {ws : Nat → WSt} {i : Nat} (hi : i < c.n) {w : WSt} (hw : ws i = w) {v : WSt} {d : Nat}
    (h : wm v + d ≤ wm w) : wsum c (upd ws i v) + d ≤ wsum c ws :=
  (sumTo_upd ws wm i v d (hw ▸ h) c.n).2 hi

def PosAt (ws : Nat → WSt) (i : Nat) : Prop :=
  (∀ j, j < i → ws j ≠ .idle) ∧ (∀ j, i ≤ j → ws j = .idle)

/-- some worker is in `Execute` -/
def Running (c : Cfg) (ws : Nat → WSt) : Prop := ∃ j, j < c.n ∧ ∃ k, ws j = .blocked k

/-- Before the end, all that progress needs of the semaphore: a dispatcher that finds no free slot, or waits, waits
    for a worker that runs (at `ready` also what `inv_launch` asks of transaction `i`); at `fin`, that the result
    returned is right, which is what `par_total` reads off. -/
def Pos (c : Cfg) (disp : Disp) (tokens : Nat) (ws : Nat → WSt) (buf : Nat → Option Nat) : Prop :=
  match disp with
  | .gate i => i < c.n ∧ PosAt ws i ∧ (tokens = 0 → Running c ws)
  | .ready i => i < c.n ∧ PosAt ws i ∧ Running c ws ∧ (c.tx i).att 0 ≠ .hfail ∧ (c.tx i).prep = false
  | .realize => (∀ j, j < c.n → ws j ≠ .idle) ∧ Running c ws
  | .fin none => ∀ j, j < c.n → ∃ k, buf j = some k ∧ txPar (c.tx j) j = .ok k
  | .fin (some e) => ∃ j, j < c.n ∧ txPar (c.tx j) j = .error e

def Inv (c : Cfg) (s : PS) : Prop :=
  Core c s.ws s.latch s.buf ∧ Pos c s.disp s.tokens s.ws s.buf

def isFin (s : PS) : Prop := ∃ r, s.disp = .fin r

theorem isBlocked_iff {w : WSt} : isBlocked w = true ↔ ∃ k, w = .blocked k := by
  cases w <;> simp [isBlocked]

theorem noneBlocked_false {s : PS} (h : noneBlocked c s = false) : Running c s.ws := by
  simp only [Running, ← isBlocked_iff]
  simpa [noneBlocked, List.all_eq_false] using h

theorem noneBlocked_true {s : PS} (h : noneBlocked c s = true) :
    ∀ j, j < c.n → isBlocked (s.ws j) = false := by
  simpa [noneBlocked, List.all_eq_true] using h

theorem not_idle_not_blocked_done {w : WSt} (h1 : w ≠ .idle) (h2 : isBlocked w = false) : w = .done := by
  cases w <;> simp_all [isBlocked]

theorem inv_tryRealize (hf : c.fixed = true) {s : PS}
    (hc : Core c s.ws s.latch s.buf) (hd : s.disp = .realize) (hni : ∀ j, j < c.n → s.ws j ≠ .idle) :
    Inv c (tryRealize c s) ∧ mu c (tryRealize c s) = wsum c s.ws := by
  fun_cases tryRealize c s with
  | case1 hnb =>
    rw [if_pos hf]
    refine ⟨⟨hc, ?_⟩, rfl⟩
    show Pos c (.fin s.latch) s.tokens s.ws s.buf
    cases hl : s.latch with
    | none =>
      exact fun j hj => (hc.done j hj (not_idle_not_blocked_done (hni j hj) (noneBlocked_true hnb j hj))).resolve_right
        fun hne => hne hl
    | some e =>
      exact hc.lat e hl
  | case2 hnb =>
    rw [mu, hd]
    exact ⟨⟨hc, hd ▸ ⟨hni, noneBlocked_false (Bool.eq_false_iff.mpr hnb)⟩⟩, rfl⟩

theorem inv_head (hf : c.fixed = true) {s : PS} {i : Nat}
    (hc : Core c s.ws s.latch s.buf) (hp : PosAt s.ws i)
    (ht : s.tokens = 0 → Running c s.ws) :
    Inv c (head c s i) ∧ mu c (head c s i) ≤ wsum c s.ws + 1 := by
  fun_cases head c s i with
  | case1 hge =>
    have := inv_tryRealize hf (s := { s with disp := .realize }) hc rfl
      (fun j hj => hp.1 j (Nat.lt_of_lt_of_le hj hge))
    exact ⟨this.1, this.2 ▸ Nat.le_succ _⟩
  | case2 hge e hl => exact ⟨⟨hc, hc.lat e hl⟩, Nat.le_succ _⟩
  | case3 hge hl => exact ⟨⟨hc, Nat.lt_of_not_le hge, hp, ht⟩, Nat.le_refl _⟩

theorem posAt_launch {ws : Nat → WSt} {i : Nat} (hp : PosAt ws i) : PosAt (upd ws i (.blocked 0)) (i + 1) := by
  refine ⟨?_, ?_⟩
  · intro j hj
    by_cases hji : j = i
    · subst hji; simp [upd_same]
    · rw [upd_ne _ _ hji]; exact hp.1 j (Nat.lt_of_le_of_ne (Nat.le_of_lt_succ hj) hji)
  · intro j hj
    rw [upd_ne _ _ (Nat.ne_of_gt hj)]; exact hp.2 j (Nat.le_of_succ_le hj)

/-- `ec.Ready()` succeeded for index `i` -/
theorem inv_launch (hf : c.fixed = true) {s : PS} {i : Nat}
    (hc : Core c s.ws s.latch s.buf) (hi : i < c.n) (hp : PosAt s.ws i)
    (h0 : (c.tx i).att 0 ≠ .hfail) (hpr : (c.tx i).prep = false) :
    Inv c (launch c s i) ∧ mu c (launch c s i) < wsum c s.ws := by
  unfold launch
  have hidle := hp.2 i (Nat.le_refl _)
  have hws : wsum c (upd s.ws i (.blocked 0)) + 2 ≤ wsum c s.ws :=
    wsum_upd c hi hidle (v := .blocked 0) (d := 2) (by decide)
  have := inv_head hf (s := { s with tokens := s.tokens - 1, ws := upd s.ws i (.blocked 0) }) (i := i + 1)
    (core_upd hc (fun _ _ => rfl) id (fun _ he => .inl he) (by simp [txPar, h0, hpr]))
    (posAt_launch hp) (fun _ => ⟨i, hi, 0, upd_same s.ws i _⟩)
  exact ⟨this.1, Nat.lt_of_lt_of_le (Nat.lt_succ_of_le this.2) hws⟩

theorem inv_stepD (hf : c.fixed = true) {s : PS} {i : Nat} (h : Inv c s) (hd : s.disp = .gate i) :
    Inv c (stepD c s i) ∧ mu c (stepD c s i) < mu c s := by
  obtain ⟨disp, tokens, ws, latch, buf, execs⟩ := s
  cases hd
  obtain ⟨hc, hi, hpa, ht⟩ := h
  fun_cases stepD c _ i with
  | case1 h0 => exact ⟨⟨hc, i, hi, by simp [txPar, h0]⟩, Nat.lt_succ_self _⟩
  | case2 h0 hpr => exact ⟨⟨hc, i, hi, by simp [txPar, h0, hpr]⟩, Nat.lt_succ_self _⟩
  | case3 h0 hpr htok =>
    have := inv_launch hf hc hi hpa h0 (Bool.eq_false_iff.mpr hpr)
    exact ⟨this.1, Nat.lt_succ_of_lt this.2⟩
  | case4 h0 hpr htok =>
    exact ⟨⟨hc, hi, hpa, ht (Nat.eq_zero_of_not_pos htok), h0, Bool.eq_false_iff.mpr hpr⟩, Nat.lt_succ_self _⟩

theorem notIdle_upd {ws : Nat → WSt} {j : Nat} {v : WSt} (hv : v ≠ .idle) {j' : Nat} (h : ws j' ≠ .idle) :
    upd ws j v j' ≠ .idle := by
  unfold upd; split
  · exact hv
  · exact h

theorem posAt_upd {ws : Nat → WSt} {i j k : Nat} {v : WSt} (hp : PosAt ws i)
    (hb : ws j = .blocked k) (hv : v ≠ .idle) : PosAt (upd ws j v) i :=
  ⟨fun j' hj' => notIdle_upd hv (hp.1 j' hj'),
   fun j' hj' => by rw [upd_ne _ _ (fun h : j' = j => nomatch hb.symm.trans (h ▸ hp.2 j' hj' : ws j = .idle))]; exact hp.2 j' hj'⟩

/-- `stepW` has written the receipt into the buffer before `finishWorker` runs, while its caller has `Pos` for the buffer
    before: `Pos` looks at the buffer only at `fin`, which `hnf` excludes, so any buffer `b0` will do there. -/
theorem inv_finish (hf : c.fixed = true) {s : PS} {j k : Nat} {b0 : Nat → Option Nat} (hj : j < c.n)
    (hb : s.ws j = .blocked k)
    (hc : Core c (upd s.ws j .done) s.latch s.buf)
    (hp : Pos c s.disp s.tokens s.ws b0) (hnf : ¬ isFin s) :
    Inv c (finishWorker c s j) ∧ mu c (finishWorker c s j) < mu c s := by
  have hws : wsum c (upd s.ws j .done) < wsum c s.ws :=
    wsum_upd c hj hb (v := .done) (d := 1) (Nat.le_add_left 1 _)
  -- with the state taken apart, `finishWorker`, `Pos` and `mu` compute once the dispatcher's position is known
  obtain ⟨disp, tokens, ws, latch, buf, execs⟩ := s
  cases disp with
  | fin r => exact absurd ⟨r, rfl⟩ hnf
  | gate i =>
    obtain ⟨hi, hpa, _⟩ := hp
    exact ⟨⟨hc, hi, posAt_upd hpa hb (by simp), fun h0 => nomatch h0⟩, Nat.add_lt_add_right hws 1⟩
  | ready i =>
    obtain ⟨hi, hpa, _, h0, hpr⟩ := hp
    have := inv_launch hf (s := ⟨.ready i, tokens + 1, upd ws j .done, latch, buf, execs⟩)
      hc hi (posAt_upd hpa hb (by simp)) h0 hpr
    exact ⟨this.1, Nat.lt_trans this.2 hws⟩
  | realize =>
    have := inv_tryRealize hf (s := ⟨.realize, tokens + 1, upd ws j .done, latch, buf, execs⟩) hc rfl
      (fun j' hj' => notIdle_upd (by simp) (hp.1 j' hj'))
    exact ⟨this.1, this.2 ▸ hws⟩

theorem pos_again {d : Disp} {t : Nat} {ws : Nat → WSt} {b : Nat → Option Nat} {j k : Nat}
    (hj : j < c.n) (hb : ws j = .blocked k) (hp : Pos c d t ws b) :
    Pos c d t (upd ws j (.blocked (k + 1))) b := by
  have hrun : Running c (upd ws j (.blocked (k + 1))) := ⟨j, hj, k + 1, upd_same ws j _⟩
  cases d with
  | gate i => exact ⟨hp.1, posAt_upd hp.2.1 hb (by simp), fun _ => hrun⟩
  | ready i => exact ⟨hp.1, posAt_upd hp.2.1 hb (by simp), hrun, hp.2.2.2⟩
  | realize => exact ⟨fun j' hj' => notIdle_upd (by simp) (hp.1 j' hj'), hrun⟩
  | fin r => cases r <;> exact hp

theorem inv_stepW (hf : c.fixed = true) {s : PS} {j k : Nat} (h : Inv c s) (hj : j < c.n)
    (hb : s.ws j = .blocked k) (hnf : ¬ isFin s) :
    Inv c (stepW c s j k) ∧ mu c (stepW c s j k) < mu c s := by
  obtain ⟨hc, hp⟩ := h
  have htx := hc.blk j k hj hb
  rw [wFrom] at htx
  fun_cases stepW c s j k with
  | case1 s1 hi =>
    rw [hi] at htx
    have hfuel : retryCount - (k + 1) + 1 = retryCount - k :=
      Nat.succ_pred_eq_of_pos (Nat.sub_pos_of_lt (workerIter_again_lt hi))
    have hws : wsum c (upd s.ws j (.blocked (k + 1))) < wsum c s.ws :=
      wsum_upd c hj hb (v := .blocked (k + 1)) (d := 1) (Nat.succ_le_succ (Nat.le_of_eq hfuel))
    refine ⟨⟨core_upd hc (fun _ _ => rfl) id (fun _ he => .inl he) (by rw [← hfuel] at htx; exact htx), pos_again hj hb hp⟩, ?_⟩
    exact Nat.add_lt_add_right hws _
  | case2 s1 r hi =>
    rw [hi] at htx
    exact inv_finish hf (b0 := s.buf)
      hj hb (core_upd hc (fun _ hji => upd_ne _ _ hji) id (fun _ he => .inl he)
        (.inl ⟨r, upd_same _ _ _, htx⟩)) hp hnf
  | case3 s1 e hi =>
    rw [hi] at htx
    rw [hf]
    exact inv_finish hf (b0 := s.buf)
      hj hb (core_upd hc (fun _ _ => rfl) (fun _ => report_fixed_ne_none _ _)
        (fun x hx => (report_fixed_cases _ _ _ hx).imp id (fun ⟨_, h2⟩ => ⟨hj, h2 ▸ htx⟩))
        (.inr (report_fixed_ne_none _ _))) hp hnf

theorem mem_enabled_W {s : PS} {j : Nat} : Act.W j ∈ enabled c s ↔ j < c.n ∧ ∃ k, s.ws j = .blocked k := by
  rw [← isBlocked_iff]
  unfold enabled
  split <;> simp [List.mem_filterMap]

theorem mem_enabled_D {s : PS} : Act.D ∈ enabled c s ↔ ∃ i, s.disp = .gate i := by
  cases hd : s.disp <;> simp [enabled, hd, List.mem_filterMap]

/-- no deadlock: the dispatcher is at a gate, or it waits (in `Ready` or `Realize`) for a worker that
    is still running -/
theorem progress {s : PS} (h : Inv c s) (hnf : ¬ isFin s) : enabled c s ≠ [] := by
  obtain ⟨_, hp⟩ := h
  have hrun : Running c s.ws → enabled c s ≠ [] := fun ⟨_, hj⟩ => List.ne_nil_of_mem (mem_enabled_W.mpr hj)
  cases hd : s.disp with
  | gate i => exact List.ne_nil_of_mem (mem_enabled_D.mpr ⟨i, hd⟩)
  | fin r => exact absurd ⟨r, hd⟩ hnf
  | realize => rw [hd] at hp; exact hrun hp.2
  | ready i => rw [hd] at hp; exact hrun hp.2.2.1

theorem step_fin {s : PS} (h : isFin s) (tok : Nat) : step c s tok = s := by
  obtain ⟨r, hr⟩ := h
  simp [step, hr]

theorem inv_step (hf : c.fixed = true) {s : PS} (h : Inv c s) (hnf : ¬ isFin s)
    (tok : Nat) :
    Inv c (step c s tok) ∧ mu c (step c s tok) < mu c s := by
  fun_cases step c s tok with
  | case1 r hd => exact absurd ⟨r, hd⟩ hnf
  | case2 hn =>
    exact absurd (List.getElem?_eq_none_iff.mp hn)
      (Nat.not_le_of_lt (Nat.mod_lt _ (List.length_pos_iff.mpr (progress h hnf))))
  | case3 a ha =>
    have hmem := List.mem_of_getElem? ha
    cases a with
    | D =>
      obtain ⟨i, hd⟩ := mem_enabled_D.mp hmem
      simp only [doAct, hd]
      exact inv_stepD hf h hd
    | W j =>
      obtain ⟨hj, k, hk⟩ := mem_enabled_W.mp hmem
      simp only [doAct, hk]
      exact inv_stepW hf h hj hk hnf

theorem runFuel_succ (c : Cfg) (f : Nat) (s : PS) (sched : List Nat) :
    runFuel c (f + 1) s sched = runFuel c f (step c s (sched.headD 0)) sched.tail := by
  cases sched <;> rfl

theorem runFuel_fin : ∀ (f : Nat) (s : PS) (sched : List Nat), isFin s → runFuel c f s sched = s := by
  intro f
  induction f with
  | zero => intro s sched _; rfl
  | succ f ih => intro s sched h; rw [runFuel_succ, step_fin h]; exact ih s _ h

theorem runFuel_spec (hf : c.fixed = true) :
    ∀ (f : Nat) (s : PS) (sched : List Nat), Inv c s → mu c s ≤ f →
      Inv c (runFuel c f s sched) ∧ isFin (runFuel c f s sched) := by
  intro f
  induction f with
  | zero =>
    intro s sched h hm
    by_cases hfin : isFin s
    · exact ⟨h, hfin⟩
    · exact absurd (Nat.lt_of_lt_of_le (inv_step hf h hfin 0).2 hm) (Nat.not_lt_zero _)
  | succ f ih =>
    intro s sched h hm
    by_cases hfin : isFin s
    · rw [runFuel_fin _ _ _ hfin]; exact ⟨h, hfin⟩
    · rw [runFuel_succ]
      have := inv_step hf h hfin (sched.headD 0)
      exact ih _ _ this.1 (Nat.le_of_lt_succ (Nat.lt_of_lt_of_le this.2 hm))

theorem inv_init (hf : c.fixed = true) (hl : c.level ≥ 1) : Inv c (init c) ∧ mu c (init c) ≤ bound c := by
  have hcore : Core c (fun _ => WSt.idle) none (fun _ => none) :=
    ⟨fun j _ h => (by cases h), fun j k _ h => (by cases h), fun e h => (by cases h)⟩
  have hpa : PosAt (fun _ => WSt.idle) 0 := ⟨fun j h => absurd h (Nat.not_lt_zero j), fun _ _ => rfl⟩
  have := inv_head hf (s := ⟨.gate 0, c.level, fun _ => .idle, none, fun _ => none, 0⟩) (i := 0)
    hcore hpa (fun h0 : c.level = 0 => absurd hl (h0 ▸ Nat.not_succ_le_zero 0))
  have h2 : mu c (init c) ≤ wsum c (fun _ => WSt.idle) + 1 := this.2
  rw [wsum, sumTo_const] at h2
  exact ⟨this.1, h2⟩

end Goloop.C10.Proofs
