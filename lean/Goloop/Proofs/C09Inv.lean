/-
  Proofs/C09Inv: the invariant of the event system `Sim` and its preservation by the three kinds
  of events (a step that only changes the transaction's local state, a step on the live store,
  a Commit).
-/
import Goloop.Proofs.C09Seq
namespace Goloop.C09.Proofs
open Goloop.C09

def stOf (s : Sim) (i : Nat) : TxSt := s.sts.getD i {}

theorem isCommitted_eq (s : Sim) (j : Nat) : s.isCommitted j = (stOf s j).committed := rfl

structure Inv (txs : List Tx) (init : List Nat) (s : Sim) : Prop where
  lenS : s.sts.length = txs.length
  lenN : s.snaps.length = txs.length
  lenR : s.real.length = init.length
  initEq : s.init = init
  pcLe : ∀ i, i < txs.length → (stOf s i).pc ≤ (txAt txs i).prog.length
  /-- everything a transaction has observed / accumulated so far is what it observes sequentially -/
  loc : ∀ i, i < txs.length → (stOf s i).loc = (P txs init i (stOf s i).pc).2
  commPc : ∀ i, i < txs.length → (stOf s i).committed = true → (stOf s i).pc = (txAt txs i).prog.length
  /-- account `a` of the live store belongs to its least uncommitted writer `w` and holds what the
      sequential run of `w` holds after the steps `w` has made -/
  own : ∀ a w, w < txs.length → writer txs w a = true → (stOf s w).committed = false →
      (∀ j, j < w → writer txs j a = true → (stOf s j).committed = true) →
      s.real.getD a 0 = (P txs init w (stOf s w).pc).1.getD a 0
  /-- no uncommitted writer left: final sequential value -/
  fin : ∀ a, (∀ j, j < txs.length → writer txs j a = true → (stOf s j).committed = true) →
      s.real.getD a 0 = (seqState txs init txs.length).getD a 0
  /-- the snapshot taken at Commit holds the sequential values of the accounts the transaction may write -/
  snap : ∀ i, i < txs.length → (stOf s i).committed = true → ∀ a, writer txs i a = true →
      ((s.snaps.getD i none).getD s.init).getD a 0 = (seqState txs init (i + 1)).getD a 0
  /-- committed writers of an account are downward closed among its writers: the bookkeeping records ONE dependency per
      account, and by this its Commit stands for that of every earlier writer (`dep_done`) -/
  closed : ∀ a j j', j < txs.length → writer txs j a = true → (stOf s j).committed = true →
      j' < j → writer txs j' a = true → (stOf s j').committed = true
  /-- The Commit of a world write locker is enabled unconditionally (its `las` is empty), so that its predecessors are
      committed by then can only come from its having made a step: hence `Supported.worldTouches`. -/
  worldStarted : ∀ i, i < txs.length → (lkAt txs i).world = 2 → 0 < (stOf s i).pc →
      ∀ j, j < i → (stOf s j).committed = true
  /-- a writer with an uncommitted earlier writer of the account has not touched the account: when the earlier one
      commits and the account passes to `w`, the value left there is the one `own` asks of `w` (`inv_commit`) -/
  untouched : ∀ a w j, w < txs.length → writer txs w a = true → j < w → writer txs j a = true →
      (stOf s j).committed = false →
      (P txs init w (stOf s w).pc).1.getD a 0 = (seqState txs init w).getD a 0

variable {txs : List Tx} {init : List Nat} {s : Sim}

theorem stOf_set (s : Sim) (i : Nat) (st' : TxSt) (h : i < s.sts.length) (j : Nat) (real : List Nat)
    (snaps : List (Option (List Nat))) :
    stOf { s with real := real, snaps := snaps, sts := s.sts.set i st' } j = if j = i then st' else stOf s j :=
  getD_set_lt s.sts i j st' {} h

def smallerDone (txs : List Tx) (s : Sim) (i a : Nat) : Prop :=
  ∀ j, j < i → writer txs j a = true → (stOf s j).committed = true

/-- the unique owner: an uncommitted writer all of whose smaller co-writers are committed -/
theorem owner_unique {a i w : Nat}
    (hwi : writer txs i a = true) (hci : (stOf s i).committed = false) (hsm : smallerDone txs s i a)
    (hww : writer txs w a = true) (hcw : (stOf s w).committed = false) (hsw : smallerDone txs s w a) : w = i := by
  rcases Nat.lt_trichotomy w i with h | h | h
  · have := hsm w h hww; rw [hcw] at this; cases this
  · exact h
  · have := hsw i h hwi; rw [hci] at this; cases this

/-- An event of an uncommitted transaction `i` that moves its program counter, replaces its local
    state and the live store and commits nothing: what remains to be shown is that the new store
    holds the sequential value of `i` on the accounts `i` owns and is the old one elsewhere, and
    that `i` has not run ahead. -/
theorem inv_update (h : Inv txs init s) {i : Nat}
    (hi : i < txs.length) (hc : (stOf s i).committed = false) {pc' : Nat} {l' : Local} {R' : List Nat}
    (hpc : pc' ≤ (txAt txs i).prog.length) (hl : l' = (P txs init i pc').2)
    (hlen : R'.length = init.length)
    (hmine : ∀ a, writer txs i a = true → smallerDone txs s i a →
      R'.getD a 0 = (P txs init i pc').1.getD a 0)
    (hrest : ∀ a, ¬ (writer txs i a = true ∧ smallerDone txs s i a) → R'.getD a 0 = s.real.getD a 0)
    (hws : (lkAt txs i).world = 2 → 0 < pc' → ∀ j, j < i → (stOf s j).committed = true)
    (hunt : ∀ a j, writer txs i a = true → j < i → writer txs j a = true → (stOf s j).committed = false →
      (P txs init i pc').1.getD a 0 = (seqState txs init i).getD a 0) :
    Inv txs init { s with real := R', sts := s.sts.set i { stOf s i with pc := pc', loc := l' } } := by
  have hst := fun j => stOf_set s i { stOf s i with pc := pc', loc := l' } (h.lenS ▸ hi) j R' s.snaps
  have hcomm : ∀ j, (stOf { s with real := R', sts := s.sts.set i { stOf s i with pc := pc', loc := l' } } j).committed
      = (stOf s j).committed := by
    intro j; rw [hst]; split <;> simp [*]
  have hpcq : ∀ j, (stOf { s with real := R', sts := s.sts.set i { stOf s i with pc := pc', loc := l' } } j).pc
      = if j = i then pc' else (stOf s j).pc := by
    intro j; rw [hst]; split <;> rfl
  refine ⟨by simp [h.lenS], h.lenN, hlen, h.initEq, ?_, ?_, ?_, ?_, ?_, ?_, ?_, ?_, ?_⟩
  · intro j hj; rw [hpcq]; split
    · subst j; exact hpc
    · exact h.pcLe j hj
  · intro j hj; rw [hpcq, hst]; split
    · subst j; exact hl
    · exact h.loc j hj
  · intro j hj hcj; rw [hcomm] at hcj
    rw [hpcq, if_neg (fun hji => by rw [hji, hc] at hcj; cases hcj)]; exact h.commPc j hj hcj
  · intro a w hw hwa hcw hsw
    simp only [hcomm] at hcw hsw
    rw [hpcq]; split
    · subst w; exact hmine a hwa hsw
    · rename_i hwi
      rw [hrest a fun ⟨hia, hsi⟩ => hwi (owner_unique hia hc hsi hwa hcw hsw)]
      exact h.own a w hw hwa hcw hsw
  · intro a hall
    simp only [hcomm] at hall
    rw [hrest a fun ⟨hia, _⟩ => by rw [hall i hi hia] at hc; cases hc]
    exact h.fin a hall
  · simp only [hcomm]; exact h.snap
  · simp only [hcomm]; exact h.closed
  · intro j hj hw hpos
    simp only [hcomm]
    rw [hpcq] at hpos
    split at hpos
    · subst j; exact hws hw hpos
    · exact h.worldStarted j hj hw hpos
  · intro a w j hw hwa hjw hja hcj
    rw [hcomm] at hcj
    rw [hpcq]; split
    · subst w; exact hunt a j hwa hjw hja hcj
    · exact h.untouched a w j hw hwa hjw hja hcj

/-- event kind 1: a step that leaves the stores alone (undeclared account, or read through a
    read-only copy); under the world write lock there is none -/
theorem inv_local (h : Inv txs init s) {i : Nat} (hi : i < txs.length)
    (l' : Local) (hpc : (stOf s i).pc < (txAt txs i).prog.length)
    (hc : (stOf s i).committed = false)
    (hl : l' = (P txs init i ((stOf s i).pc + 1)).2)
    (hstore : (P txs init i ((stOf s i).pc + 1)).1 = (P txs init i (stOf s i).pc).1)
    (hws : (lkAt txs i).world ≠ 2) :
    Inv txs init { s with sts := s.sts.set i { stOf s i with pc := (stOf s i).pc + 1, loc := l' } } := by
  refine inv_update h hi hc hpc hl h.lenR (fun a hwa hsm => ?_) (fun _ _ => rfl)
    (fun h2 => absurd h2 hws) (fun a j hwa hji hja hcj => ?_)
  · rw [hstore]; exact h.own a i hi hwa hc hsm
  · rw [hstore]; exact h.untouched a i j hi hwa hji hja hcj

/-- event kind 2: a step on the live store (write-locked account or world write lock) -/
theorem inv_store (h : Inv txs init s) {i : Nat} (hi : i < txs.length)
    (st : Step) (hst : (txAt txs i).prog[(stOf s i).pc]? = some st)
    (hc : (stOf s i).committed = false)
    (hwr : writer txs i st.acct = true)
    (hdecl : declaredBy (lkAt txs i) st.acct = true)
    (hsm : smallerDone txs s i st.acct)
    (hws : (lkAt txs i).world = 2 → ∀ j, j < i → (stOf s j).committed = true) :
    Inv txs init { s with
      real := (stepOn i (fun _ => true) st s.real (stOf s i).loc).1,
      sts := s.sts.set i { stOf s i with pc := (stOf s i).pc + 1,
                                          loc := (stepOn i (fun _ => true) st s.real (stOf s i).loc).2 } } := by
  have eP := P_succ init hst
  have eloc := h.loc i hi
  -- the live store and the sequential run agree on `st.acct`, so the step does the same to both
  have hag := stepOn_agree i _ st _ _ (stOf s i).loc hdecl (h.own st.acct i hi hwr hc hsm)
  refine inv_update h hi hc (List.getElem?_eq_some_iff.mp hst).1 ?_ ?_ (fun a hwa hsa => ?_)
    (fun a hneg => stepOn_getD_other i _ st _ _ a fun hab => hneg (hab ▸ ⟨hwr, hsm⟩)) (fun h2 _ => hws h2)
    (fun a j hwa hji hja hcj => ?_)
  · rw [eP, ← eloc]; exact hag.1
  · rw [stepOn_length]; exact h.lenR
  · rw [eP, ← eloc]
    exact hag.2 (by rw [h.lenR, P_length]) a (h.own a i hi hwa hc hsa)
  · rw [eP, stepOn_getD_other i _ st _ _ a ?_]
    · exact h.untouched a i j hi hwa hji hja hcj
    · rintro rfl
      rw [hsm j hji hja] at hcj; cases hcj

/-- an event of an uncommitted transaction that leaves the others alone uncommits nobody -/
theorem committed_mono {s s' : Sim} {i : Nat} (hnc : (stOf s i).committed = false)
    (hother : ∀ j, j ≠ i → stOf s' j = stOf s j) (j : Nat) (hc : (stOf s j).committed = true) :
    (stOf s' j).committed = true := by
  rw [hother j fun e => by rw [e, hnc] at hc; cases hc]; exact hc

/-- event kind 3: Commit; the state after it is a variable `s'` with an equation, so that the facts about `stOf s' j`
    below are stated, and used, without the record update unfolding in them -/
theorem inv_commit (hs : Supported txs) {s s' : Sim} (h : Inv txs init s) {i : Nat}
    (hi : i < txs.length)
    (hc : (stOf s i).committed = false)
    (hpc : (txAt txs i).prog.length ≤ (stOf s i).pc)
    (hsm : ∀ a, writer txs i a = true → smallerDone txs s i a)
    (hs' : s' = { s with snaps := s.snaps.set i (some s.real),
                         sts := s.sts.set i { stOf s i with committed := true } }) :
    Inv txs init s' := by
  have hstq : ∀ j, stOf s' j = if j = i then { stOf s i with committed := true } else stOf s j :=
    fun j => hs' ▸ stOf_set s i _ (h.lenS ▸ hi) j _ _
  have hcomm : ∀ j, (stOf s' j).committed = true → j = i ∨ (stOf s j).committed = true := by
    intro j; rw [hstq]; split
    · exact fun _ => .inl ‹_›
    · exact .inr
  have hunc : ∀ j, (stOf s' j).committed = false → (stOf s j).committed = false := by
    intro j; rw [hstq]; split
    · nofun
    · exact id
  have hmono := committed_mono hc fun j hji => (hstq j).trans (if_neg hji)
  have hpcq : ∀ j, (stOf s' j).pc = (stOf s j).pc := by
    intro j; rw [hstq]; by_cases hji : j = i <;> simp [hji]
  have hlocq : ∀ j, (stOf s' j).loc = (stOf s j).loc := by
    intro j; rw [hstq]; by_cases hji : j = i <;> simp [hji]
  have hown : ∀ a, writer txs i a = true → s.real.getD a 0 = (seqState txs init (i + 1)).getD a 0 := by
    intro a hwa
    rw [h.own a i hi hwa hc (hsm a hwa), P_full _ _ _ _ hpc]
  -- the writers of `a` below `w` that are committed now were so before, unless `i` is one of them: then it
  -- is the last, and its value stays up to `w`
  have hkey : ∀ a w, w ≤ txs.length → (∀ j, j < w → writer txs j a = true → (stOf s' j).committed = true) →
      smallerDone txs s w a ∨
        writer txs i a = true ∧ i < w ∧ s.real.getD a 0 = (seqState txs init w).getD a 0 := by
    intro a w hwn hsw
    by_cases hcase : writer txs i a = true ∧ i < w
    · refine .inr ⟨hcase.1, hcase.2, (hown a hcase.1).trans ?_⟩
      refine seqState_const hs init a (i + 1) w hcase.2 hwn fun j h1 h2 => ?_
      cases hja : writer txs j a
      · rfl
      · have h3 := h.closed a j i (Nat.lt_of_lt_of_le h2 hwn) hja
          ((hcomm j (hsw j h2 hja)).resolve_left (Nat.ne_of_gt h1)) h1 hcase.1
        rw [hc] at h3; cases h3
    · exact .inl fun j hj hja => (hcomm j (hsw j hj hja)).resolve_left fun e => hcase ⟨e ▸ hja, e ▸ hj⟩
  subst hs'
  refine ⟨by simp [h.lenS], by simp [h.lenN], h.lenR, h.initEq, ?_, ?_, ?_, ?_, ?_, ?_, ?_, ?_, ?_⟩
  · intro j hj; rw [hpcq]; exact h.pcLe j hj
  · intro j hj; rw [hpcq, hlocq]; exact h.loc j hj
  · intro j hj hcj; rw [hpcq]
    rcases hcomm j hcj with rfl | hcj
    · exact Nat.le_antisymm (h.pcLe j hj) hpc
    · exact h.commPc j hj hcj
  · intro a w hw hwa hcw hsw
    rw [hpcq]
    rcases hkey a w (Nat.le_of_lt hw) hsw with hsw | ⟨hwia, hiw, e⟩
    · exact h.own a w hw hwa (hunc w hcw) hsw
    · exact e.trans (h.untouched a w i hw hwa hiw hwia hc).symm
  · intro a hall
    rcases hkey a txs.length (Nat.le_refl _) hall with hall | ⟨_, _, e⟩
    · exact h.fin a hall
    · exact e
  · intro j hj hcj a hja
    dsimp only
    rw [getD_set_lt _ _ _ _ _ (h.lenN ▸ hi)]
    split
    · subst j; exact hown a hja
    · exact h.snap j hj ((hcomm j hcj).resolve_left ‹_›) a hja
  · intro a j j' hj hja hcj hlt hja'
    apply hmono
    rcases hcomm j hcj with rfl | hcj
    · exact hsm a hja j' hlt hja'
    · exact h.closed a j j' hj hja hcj hlt hja'
  · intro j hj hw hpos k hk
    rw [hpcq] at hpos
    exact hmono k (h.worldStarted j hj hw hpos k hk)
  · intro a w j hw hwa hjw hja hcj
    rw [hpcq]
    exact h.untouched a w j hw hwa hjw hja (hunc j hcj)

end Goloop.C09.Proofs
