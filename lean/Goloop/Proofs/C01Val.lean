/-
  Proofs/C01Val — the control invariant `Core` of the transcribed single-validator machine (Model/C01),
  and the WAL replay of `start` (Go: Start): an induction principle per replay function, what the replay keeps,
  and that the restored (round, step) dominates the validator's own messages in the round WAL.
-/
import Goloop.Proofs.C01Shape
namespace Goloop.C01

abbrev Key := Nat × Nat × Nat

def voteKey (v : VoteRec) : Key := (v.height, v.round, mstepOf v.typ)

def lexLt (a b : Key) : Prop :=
  a.1 < b.1 ∨ (a.1 = b.1 ∧ (a.2.1 < b.2.1 ∨ (a.2.1 = b.2.1 ∧ a.2.2 < b.2.2)))

def lexLe (a b : Key) : Prop :=
  a.1 < b.1 ∨ (a.1 = b.1 ∧ (a.2.1 < b.2.1 ∨ (a.2.1 = b.2.1 ∧ a.2.2 ≤ b.2.2)))

/-- step-key of a signed message: a proposal is signed in step propose, a prevote in prevote … -/
def msgKey : Msg → Key
  | .proposal _ h r _ _ => (h, r, stPropose)
  | .vote v => voteKey v

def msgHeight : Msg → Nat
  | .proposal _ h _ _ _ => h
  | .vote v => v.height

def msgSigner : Msg → Nat
  | .proposal sg _ _ _ _ => sg
  | .vote v => v.signer

def msgLt (a b : Msg) : Prop := lexLt (msgKey a) (msgKey b)

/-- control projection: the only fields the invariant talks about -/
structure Ctrl where
  height : Nat
  round : Nat
  step : Nat
  pend : Pend
  sent : List Msg
  stuck : Bool

def ctrl (s : S) : Ctrl := ⟨s.height, s.round, s.step, s.pend, sentOf s.eff, s.stuck⟩

/-- an outstanding BlockManager callback that may still sign a message: `(h, r, lo, hi)` — it signs a
    message with step-key `lo` of round (h, r) if it fires while `lo ≤ step ≤ hi`.  ImportBlock is armed in step
    prevote (4) and `asyncImport` signs the prevote while `step ≤ stPrevoteWait` (5); Propose is armed in step
    propose (3) and `asyncPropose` signs the proposal only if `step = stPropose`. -/
def pendWin : Pend → Option (Nat × Nat × Nat × Nat)
  | .import_ h r _ => some (h, r, 4, 5)
  | .propose h r => some (h, r, 3, 3)
  | _ => none

def pendCurrent (c : Ctrl) (lo hi : Nat) : Prop := pendWin c.pend = some (c.height, c.round, lo, hi)

structure CoreC (c : Ctrl) : Prop where
  /-- every message signed so far has a key ≤ (height, round, step) -/
  bnd : ∀ m, m ∈ c.sent → lexLe (msgKey m) (c.height, c.round, c.step)
  inc : c.sent.Pairwise msgLt
  /-- an outstanding callback of the current round that can still sign: nothing with its key was signed -/
  imp : c.stuck = false → ∀ lo hi, pendCurrent c lo hi →
        lo ≤ c.step ∧ (c.step ≤ hi → ∀ m, m ∈ c.sent → lexLt (msgKey m) (c.height, c.round, lo))
  /-- callbacks are never for a future round -/
  pnd : ∀ h r lo hi, pendWin c.pend = some (h, r, lo, hi) → h < c.height ∨ (h = c.height ∧ r ≤ c.round)

def Core (s : S) : Prop := CoreC (ctrl s)

theorem sentOf_append (a b : List Eff) : sentOf (a ++ b) = sentOf a ++ sentOf b := by
  induction a with
  | nil => rfl
  | cons e t ih => cases e <;> simp [sentOf, ih]

theorem sentOf_prefix {a b : List Eff} (h : a <+: b) : sentOf a <+: sentOf b := by
  obtain ⟨t, rfl⟩ := h
  rw [sentOf_append]
  exact List.prefix_append _ _

theorem finalizedOf_append (a b : List Eff) : finalizedOf (a ++ b) = finalizedOf a ++ finalizedOf b := by
  induction a with
  | nil => rfl
  | cons e t ih => cases e <;> simp [finalizedOf, ih]

theorem Eff.write_ne_send (w : Wal) (r : Rec) (m : Msg) : Eff.write w r ≠ .send m := nofun
theorem Eff.sync_ne_send (w : Wal) (m : Msg) : Eff.sync w ≠ .send m := nofun
theorem Eff.finalize_ne_send (h : Nat) (b : Blk) (m : Msg) : Eff.finalize h b ≠ .send m := nofun

theorem sentOf_nonsend (es : List Eff) (e : Eff) (he : ∀ m, e ≠ .send m) : sentOf (es ++ [e]) = sentOf es := by
  rw [sentOf_append]; cases e <;> simp [sentOf] at he ⊢

theorem sentOf_emit_nonsend (s : S) (e : Eff) (he : ∀ m, e ≠ .send m) : sentOf (s.emit e).eff = sentOf s.eff :=
  sentOf_nonsend s.eff e he

@[simp] theorem sentOf_emit_write (s : S) (w : Wal) (r : Rec) : sentOf (s.emit (.write w r)).eff = sentOf s.eff :=
  sentOf_emit_nonsend s _ (Eff.write_ne_send w r)
@[simp] theorem sentOf_emit_sync (s : S) (w : Wal) : sentOf (s.emit (.sync w)).eff = sentOf s.eff :=
  sentOf_emit_nonsend s _ (Eff.sync_ne_send w)
@[simp] theorem sentOf_emit_fin (s : S) (h b : Nat) : sentOf (s.emit (.finalize h b)).eff = sentOf s.eff :=
  sentOf_emit_nonsend s _ (Eff.finalize_ne_send h b)
@[simp] theorem sentOf_emit_send (s : S) (m : Msg) : sentOf (s.emit (.send m)).eff = sentOf s.eff ++ [m] :=
  sentOf_append s.eff [.send m]

theorem mem_sentOf_send {es : List Eff} {m v : Msg} (h : v ∈ sentOf (es ++ [.send m])) : v ∈ sentOf es ∨ v = m :=
  (List.mem_append.mp (sentOf_append es [.send m] ▸ h)).imp id List.eq_of_mem_singleton

def le2 (a b : Nat × Nat) : Prop := a.1 < b.1 ∨ (a.1 = b.1 ∧ a.2 ≤ b.2)

theorem le2_refl (a : Nat × Nat) : le2 a a := Or.inr ⟨rfl, Nat.le_refl _⟩

/-- one level of a lexicographic order: `hR` composes the second components.  The orders on (round, step) and on
    keys (`le2`, `lexLe`, `lexLt`) are this, nested. -/
theorem lex_trans {α : Type} {R R' R'' : α → α → Prop} (hR : ∀ {x y z}, R x y → R' y z → R'' x z)
    {a b c : Nat × α} (h1 : a.1 < b.1 ∨ (a.1 = b.1 ∧ R a.2 b.2)) (h2 : b.1 < c.1 ∨ (b.1 = c.1 ∧ R' b.2 c.2)) :
    a.1 < c.1 ∨ (a.1 = c.1 ∧ R'' a.2 c.2) := by
  rcases h1 with h1 | ⟨e1, h1⟩ <;> rcases h2 with h2 | ⟨e2, h2⟩
  · exact Or.inl (Nat.lt_trans h1 h2)
  · exact Or.inl (e2 ▸ h1)
  · exact Or.inl (e1 ▸ h2)
  · exact Or.inr ⟨e1.trans e2, hR h1 h2⟩

theorem le2_trans {a b c : Nat × Nat} (h1 : le2 a b) (h2 : le2 b c) : le2 a c :=
  lex_trans (R := (· ≤ ·)) (R' := (· ≤ ·)) (R'' := (· ≤ ·)) Nat.le_trans h1 h2

theorem le2_of_not_le2 {a b : Nat × Nat} (h : ¬ le2 a b) : le2 b a := by
  unfold le2 at *; omega

/-- the guard under which the replay of an own message advances (round, step) -/
theorem adv_guard (r st r' st' : Nat) :
    (decide (r' < r) || r' == r && decide (st' ≤ st)) = true ↔ le2 (r', st') (r, st) := by
  simp [le2]

def sameId (s s' : S) : Prop := s'.height = s.height ∧ s'.me = s.me ∧ s'.n = s.n

/-- fields the WAL replay never touches -/
def rproj (s : S) : Nat × Nat × Nat × Nat × List Eff × Bool × Pend :=
  (s.n, s.me, s.height, s.dbHeight, s.eff, s.stuck, s.pend)

theorem sameId_of_rproj {s x : S} (h : rproj x = rproj s) : sameId s x :=
  ⟨congrArg (·.2.2.1) h, congrArg (·.2.1) h, congrArg (·.1) h⟩

/-- what a replay leaves of `s`: the fields of `rproj`, a (round, step) that is not behind, and a step that
    stays at or below precommit (a replay advances to the step of a signed message or of a vote list) -/
def Keeps (s x : S) : Prop :=
  rproj x = rproj s ∧ le2 (s.round, s.step) (x.round, x.step) ∧ (s.step ≤ stPrecommit → x.step ≤ stPrecommit)

theorem Keeps.refl (s : S) : Keeps s s := ⟨rfl, le2_refl _, id⟩

theorem Keeps.eff {s x : S} (h : Keeps s x) : x.eff = s.eff := congrArg (·.2.2.2.2.1) h.1

theorem Keeps.height {s x : S} (h : Keeps s x) : x.height = s.height := congrArg (·.2.2.1) h.1

theorem Keeps.adv {s x : S} (h : Keeps s x) {r st : Nat} (hle : le2 (x.round, x.step) (r, st))
    (hst : st ≤ stPrecommit) : Keeps s { x with round := r, step := st } :=
  ⟨h.1, le2_trans h.2.1 hle, fun _ => hst⟩

theorem Keeps.hvsAdd {s x : S} (h : Keeps s x) (m : VoteRec) : Keeps s (x.hvsAdd m).2 :=
  hvsAdd_cases (Keeps s) x m h h

theorem addVotes_ind (P : S → Prop) (vl : List VoteRec)
    (hadd : ∀ x m, P x → m ∈ vl → m.height = x.height → m.signer < x.n → P (x.hvsAdd m).2)
    (s : S) (h : P s) : P (addVotes s vl) := by
  fun_induction addVotes s vl with
  | case1 => exact h
  | case2 s v t _ ih | case3 s v t _ _ ih => exact ih (fun x m hx hm => hadd x m hx (List.mem_cons_of_mem _ hm)) h
  | case4 s v t hh hn ih =>
    exact ih (fun x m hx hm => hadd x m hx (List.mem_cons_of_mem _ hm))
      (hadd s v h List.mem_cons_self (eq_of_not_bne hh) (Nat.lt_of_not_ge hn))

theorem addVotesC_ind (P : S → Prop) (vl : List VoteRec)
    (hadd : ∀ x m, P x → m ∈ vl → m.signer < x.n → P (x.hvsAdd m).2)
    (s : S) (h : P s) : P (applyCommitWAL.addVotesC s vl) := by
  fun_induction applyCommitWAL.addVotesC s vl with
  | case1 => exact h
  | case2 s v t _ ih => exact ih (fun x m hx hm => hadd x m hx (List.mem_cons_of_mem _ hm)) h
  | case3 s v t hn ih =>
    exact ih (fun x m hx hm => hadd x m hx (List.mem_cons_of_mem _ hm)) (hadd s v h List.mem_cons_self (Nat.lt_of_not_ge hn))

theorem Keeps.addVotes {s x : S} (h : Keeps s x) (vl : List VoteRec) : Keeps s (addVotes x vl) :=
  addVotes_ind (Keeps s) vl (fun _ m hy _ _ _ => hy.hvsAdd m) x h

theorem Keeps.addVotesC {s x : S} (h : Keeps s x) (vl : List VoteRec) :
    Keeps s (applyCommitWAL.addVotesC x vl) :=
  addVotesC_ind (Keeps s) vl (fun _ m hy _ _ => hy.hvsAdd m) x h

theorem mstepOf_le (t : VType) : mstepOf t ≤ stPrecommit := by cases t <;> decide

/-- a vote-list record advances (round, step) to the step of its first vote, if that is ahead -/
theorem advanceByList_cases (P : S → Prop) (s : S) (v : VoteRec) (h : P s)
    (hadv : ∀ x r st, P x → le2 (x.round, x.step) (r, st) → st ≤ stPrecommit →
      P { x with round := r, step := st }) : P (advanceByList s v) := by
  fun_cases advanceByList s v with
  | case1 | case3 | case4 => exact h
  | case2 _ _ hc =>
    have hc : s.round < v.round ∨ (s.round = v.round ∧ s.step < mstepOf v.typ) := by simpa using hc
    exact hadv _ _ _ h (hc.imp id (.imp id Nat.le_of_lt)) (mstepOf_le _)

/-- One record of the round WAL.  `Q` is what is to be shown of the whole replay; `hQ` hands the state
    after the record on. -/
theorem applyRoundWAL_step (P : S → Prop) (r : Rec)
    (hvote : ∀ x m, P x → r = .msg (.vote m) → m.height = x.height → m.signer < x.n → P (x.hvsAdd m).2)
    (hlist : ∀ x vl, P x → r = .voteList vl → P (addVotes x vl))
    (hadv : ∀ x r st, P x → le2 (x.round, x.step) (r, st) → st ≤ stPrecommit →
      P { x with round := r, step := st })
    (s : S) (t : List Rec) (h : P s) (Q : S → Prop) (hQ : ∀ s', P s' → Q (applyRoundWAL s' t)) :
    Q (applyRoundWAL s (r :: t)) := by
  have keep := hQ s h
  rcases r with (⟨sg, hh, r, b, pol⟩ | m) | vl | ⟨hh, b⟩
  · unfold applyRoundWAL
    refine ite_both Q keep ?_
    refine ite_both Q keep ?_
    exact ite_pred Q _ _ _ (fun hc => hQ _ (hadv s r stPropose h ((adv_guard ..).1 hc) (by decide))) (fun _ => keep)
  · unfold applyRoundWAL
    refine ite_pred Q _ _ _ (fun _ => keep) (fun hne => ?_)
    refine ite_both Q keep ?_
    refine ite_pred Q _ _ _ (fun _ => keep) (fun hn => ?_)
    have h1 := hvote s m h rfl (eq_of_not_bne hne) (Nat.lt_of_not_ge hn)
    exact ite_pred Q _ _ _ (fun hc => hQ _ (hadv _ m.round _ h1 ((adv_guard ..).1 hc) (mstepOf_le _)))
      (fun _ => hQ _ h1)
  · have h1 := hlist s vl h rfl
    unfold applyRoundWAL
    rcases vl with _ | ⟨v, vs⟩
    · exact hQ _ h1
    · exact hQ _ (advanceByList_cases P _ v h1 hadv)
  · unfold applyRoundWAL; exact keep

theorem applyRoundWAL_ind (P : S → Prop) (W : List Rec)
    (hvote : ∀ x m, P x → Rec.msg (.vote m) ∈ W → m.height = x.height → m.signer < x.n → P (x.hvsAdd m).2)
    (hlist : ∀ x vl, P x → Rec.voteList vl ∈ W → P (addVotes x vl))
    (hadv : ∀ x r st, P x → le2 (x.round, x.step) (r, st) → st ≤ stPrecommit →
      P { x with round := r, step := st })
    (s : S) (h : P s) : P (applyRoundWAL s W) := by
  induction W generalizing s with
  | nil => exact h
  | cons r t ih =>
    exact applyRoundWAL_step P r (fun x m hx hr => hvote x m hx (hr ▸ List.mem_cons_self))
      (fun x vl hx hr => hlist x vl hx (hr ▸ List.mem_cons_self)) hadv s t h P
      (ih (fun x m hx hm => hvote x m hx (List.mem_cons_of_mem _ hm))
        (fun x vl hx hm => hlist x vl hx (List.mem_cons_of_mem _ hm)))

theorem applyLockWAL_ind (P : S → Prop) (W : List Rec)
    (hlist : ∀ x vl, P x → Rec.voteList vl ∈ W → P (addVotes x vl))
    (hadv : ∀ x r st, P x → le2 (x.round, x.step) (r, st) → st ≤ stPrecommit →
      P { x with round := r, step := st })
    (hlock : ∀ x b (r : Nat), P x →
      P { x with cur := .full b false, locked := some (b, false), lockedRound := (r : Int) })
    (s : S) (bp last : Option (Blk × Nat)) (h : P s) : P (applyLockWAL s bp last W) := by
  fun_induction applyLockWAL s bp last W with
  | case1 s _ b r => exact hlock s b r h
  | case2 => exact h
  | case4 s _ _ v vl _ _ _ ih =>
    exact ih (fun x vl hx hm => hlist x vl hx (List.mem_cons_of_mem _ hm)) (hlist s _ h List.mem_cons_self)
  | case5 s _ _ v vl _ _ _ ih =>
    exact ih (fun x vl hx hm => hlist x vl hx (List.mem_cons_of_mem _ hm))
      (advanceByList_cases P _ v (hlist s _ h List.mem_cons_self) hadv)
  | case3 _ _ _ _ ih | case6 _ _ _ _ _ _ _ ih | case7 _ _ _ _ _ _ ih | case8 _ _ _ _ _ _ _ _ _ ih
  | case9 _ _ _ _ _ _ _ _ _ ih | case10 _ _ _ _ _ _ _ _ ih =>
    exact ih (fun x vl hx hm => hlist x vl hx (List.mem_cons_of_mem _ hm)) h

theorem applyCommitWAL_ind (P : S → Prop) (W : List Rec)
    (hlist : ∀ x v vl, P x → Rec.voteList (v :: vl) ∈ W → v.height = x.height →
      P (applyCommitWAL.addVotesC x (v :: vl)))
    (hadv : ∀ x r st, P x → le2 (x.round, x.step) (r, st) → st ≤ stPrecommit →
      P { x with round := r, step := st })
    (s : S) (h : P s) : P (applyCommitWAL s W) := by
  fun_induction applyCommitWAL s W with
  | case1 => exact h
  | case2 s v vl _ hh _ ih =>
    exact ih (fun x v vl hx hm => hlist x v vl hx (List.mem_cons_of_mem _ hm))
      (advanceByList_cases P _ v (hlist s v vl h List.mem_cons_self (beq_iff_eq.1 hh)) hadv)
  | case3 _ _ _ _ _ ih | case4 _ _ _ _ ih =>
    exact ih (fun x v vl hx hm => hlist x v vl hx (List.mem_cons_of_mem _ hm)) h

theorem applyRoundWAL_keeps {s x : S} (W : List Rec) (h : Keeps s x) : Keeps s (applyRoundWAL x W) :=
  applyRoundWAL_ind (Keeps s) W (fun _ m hy _ _ _ => hy.hvsAdd m)
    (fun _ vl hy _ => hy.addVotes vl) (fun _ _ _ hy => hy.adv) x h

theorem applyLockWAL_keeps {s x : S} (bp last : Option (Blk × Nat)) (W : List Rec) (h : Keeps s x) :
    Keeps s (applyLockWAL x bp last W) :=
  applyLockWAL_ind (Keeps s) W (fun _ vl hy _ => hy.addVotes vl)
    (fun _ _ _ hy => hy.adv) (fun _ _ _ hy => hy) x bp last h

theorem applyCommitWAL_keeps {s x : S} (W : List Rec) (h : Keeps s x) : Keeps s (applyCommitWAL x W) :=
  applyCommitWAL_ind (Keeps s) W (fun _ v vl hy _ _ => hy.addVotesC (v :: vl))
    (fun _ _ _ hy => hy.adv) x h

theorem applyRoundWAL_own (s : S) (m : Msg) (t : List Rec) (hh : msgHeight m = s.height) (hm : msgSigner m = s.me)
    (hn : ∀ v, m = .vote v → s.me < s.n) (Q : S → Prop)
    (hQ : ∀ s', le2 (msgKey m).2 (s'.round, s'.step) → Q (applyRoundWAL s' t)) :
    Q (applyRoundWAL s (.msg m :: t)) := by
  rcases m with ⟨sg, h, r, b, pol⟩ | v
  · unfold applyRoundWAL
    rw [if_neg (by simp [show h = s.height from hh]), if_neg (by simp [show sg = s.me from hm])]
    exact ite_pred Q _ _ _ (fun _ => hQ _ (le2_refl _))
      (fun hc => hQ s (le2_of_not_le2 (mt (adv_guard ..).2 hc)))
  · have hh : v.height = s.height := hh
    have hm : v.signer = s.me := hm
    unfold applyRoundWAL
    rw [if_neg (by simp [hh]), if_neg (by simp [hm]), if_neg (by have := hn v rfl; simp [hm]; omega)]
    exact ite_pred Q _ _ _ (fun _ => hQ _ (le2_refl _))
      (fun hc => hQ _ (le2_of_not_le2 (mt (adv_guard ..).2 hc)))

/-- Whatever the durable round WAL contains, every own message of the current height found in it is
    dominated by the restored `(round, step)`. -/
theorem applyRoundWAL_dominates_msg (s : S) (W : List Rec) (m : Msg) (hv : Rec.msg m ∈ W)
    (hh : msgHeight m = s.height) (hm : msgSigner m = s.me)
    (hn : ∀ v, m = .vote v → s.me < s.n) :
    le2 (msgKey m).2 ((applyRoundWAL s W).round, (applyRoundWAL s W).step) := by
  induction W generalizing s with
  | nil => cases hv
  | cons r t ih =>
    rcases List.mem_cons.mp hv with heq | hin
    · rw [← heq]
      exact applyRoundWAL_own s m t hh hm hn (fun y => le2 (msgKey m).2 (y.round, y.step))
        (fun s' hle => le2_trans hle (applyRoundWAL_keeps t (.refl s')).2.1)
    · refine applyRoundWAL_step (Keeps s) r (fun _ m hy _ _ _ => hy.hvsAdd m)
        (fun _ vl hy _ => hy.addVotes vl) (fun _ _ _ hy => hy.adv) s t (.refl s)
        (fun y => le2 (msgKey m).2 (y.round, y.step)) (fun s' hk => ?_)
      have e := sameId_of_rproj hk.1
      exact ih s' hin (hh.trans e.1.symm) (hm.trans e.2.1.symm) (fun v hv => e.2.1 ▸ e.2.2 ▸ hn v hv)

/-- the state `start` builds before the dispatch -/
def replayed (s : S) : S :=
  let s0 : S := { n := s.n, me := s.me, dbHeight := s.dbHeight, eff := s.eff, bpm := [], stuck := s.stuck }
  let s1 := s0.resetForNewHeight (s0.dbHeight + 1)
  let s2 := applyRoundWAL s1 (walDurable .round s1.eff)
  let s3 := applyLockWAL s2 none none (walDurable .lock s2.eff)
  let s4 := applyCommitWAL s3 (walDurable .commit s3.eff)
  { s4 with started := true }

/-- the WAL lists are read from the trace of `s` -/
theorem replayed_eq (s : S) :
    ∃ s1 : S, rproj s1 = (s.n, s.me, s.dbHeight + 1, s.dbHeight, s.eff, s.stuck, Pend.none) ∧ s1.hvs = [] ∧ s1.step = 0 ∧
      replayed s = { applyCommitWAL (applyLockWAL (applyRoundWAL s1 (walDurable .round s.eff)) none none
        (walDurable .lock s.eff)) (walDurable .commit s.eff) with started := true } := by
  have e2 : ∀ x W, (applyRoundWAL x W).eff = x.eff := fun x W =>
    (applyRoundWAL_keeps W (.refl x)).eff
  have e3 : ∀ x bp last W, (applyLockWAL x bp last W).eff = x.eff := fun x bp last W =>
    (applyLockWAL_keeps bp last W (.refl x)).eff
  refine ⟨({ n := s.n, me := s.me, dbHeight := s.dbHeight, eff := s.eff, bpm := [], stuck := s.stuck } : S).resetForNewHeight
    (s.dbHeight + 1), rfl, rfl, rfl, ?_⟩
  unfold replayed
  simp only []
  rw [e3, e2]
  rfl

/-- What the WAL replay of `start` builds from `s`: the fresh state of the next height on the trace of `s`, at a step
    up to precommit, with a (round, step) that dominates every own message of that height in the durable round WAL. -/
theorem replayed_dominates (s : S) :
    (replayed s).eff = s.eff ∧ (replayed s).pend = .none ∧ (replayed s).step ≤ stPrecommit ∧
    (replayed s).n = s.n ∧ (replayed s).me = s.me ∧ (replayed s).height = s.dbHeight + 1 ∧
    (replayed s).dbHeight = s.dbHeight ∧
    ∀ m, Rec.msg m ∈ walDurable .round s.eff → msgHeight m = s.dbHeight + 1 → msgSigner m = s.me →
      (∀ v, m = .vote v → s.me < s.n) → le2 (msgKey m).2 ((replayed s).round, (replayed s).step) := by
  obtain ⟨s1, e1, _, h0, e⟩ := replayed_eq s
  rw [e]
  have k := applyCommitWAL_keeps (walDurable .commit s.eff) (applyLockWAL_keeps none none (walDurable .lock s.eff)
    (applyRoundWAL_keeps (walDurable .round s.eff) (.refl s1)))
  have g1 : s1.n = s.n := congrArg (·.1) e1
  have g2 : s1.me = s.me := congrArg (·.2.1) e1
  have g3 : s1.height = s.dbHeight + 1 := congrArg (·.2.2.1) e1
  have e' := k.1.trans e1
  simp only [rproj, Prod.mk.injEq] at e'
  obtain ⟨f1, f2, f3, f4, f5, _, f7⟩ := e'
  exact ⟨f5, f7, k.2.2 (h0 ▸ by decide), f1, f2, f3, f4, fun m hin hh hm hn => le2_trans
    (applyRoundWAL_dominates_msg s1 _ m hin (hh.trans g3.symm) (hm.trans g2.symm) (fun v hv => g2 ▸ g1 ▸ hn v hv))
    (applyCommitWAL_keeps _ (applyLockWAL_keeps none none _ (.refl _))).2.1⟩

end Goloop.C01
