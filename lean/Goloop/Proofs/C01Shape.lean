/-
  Proofs/C01Shape — what a helper of the step machine (Model/C01) returns, by cases, stated once with the predicate
  as a variable (`beginStep_cases`, `hvsAdd_cases`, `prevoteDecision_cases`, `markValidated_frame`, …) or as an
  equation (`rfs_eq`, `rfr_eq`); every invariant meets these.  The functions and events themselves are taken apart
  where they are walked, in Proofs/C01Move.
-/
import Goloop.Model.C01
import Goloop.Base.Cases
namespace Goloop.C01

/-- the form in which `fun_cases` and `ite_pred` hand over a failed `!=` test -/
theorem eq_of_not_bne {α : Type} [BEq α] [LawfulBEq α] {a b : α} (h : ¬(a != b) = true) : a = b :=
  bne_eq_false_iff_eq.1 (eq_false_of_ne_true h)

theorem prevoteDecision_cases (P : S → Prop) (s : S) (mr : Nat) (d : Option (Option Blk))
    (h0 : ∀ c, P { s with cur := c })
    (h1 : ∀ psid c, d = some psid → s.lockedRound < (mr : Int) → s.locked.map (·.1) ≠ psid →
      P { s.unlock with cur := c }) :
    P (s.prevoteDecision mr d) := by
  -- the state after the unlock test, which `fun_cases` leaves as a `let`-bound value
  let Q : S → Prop := fun x => P x ∧ ∀ c, P { x with cur := c }
  have h : ∀ psid, d = some psid →
      Q (if s.lockedRound < (mr : Int) && s.locked.isSome && s.locked.map (·.1) != psid then s.unlock else s) :=
    fun psid e => ite_pred Q _ _ _ (fun g => by
      simp only [Bool.and_eq_true, decide_eq_true_eq, bne_iff_ne, ne_eq] at g
      exact ⟨h1 psid _ e g.1.1 g.2, fun c => h1 psid c e g.1.1 g.2⟩) (fun _ => ⟨h0 _, h0⟩)
  fun_cases S.prevoteDecision s mr d with
  | case1 => exact (h _ rfl).2 _
  | case2 | case3 => exact (h _ rfl).1
  | case4 => exact h0 _

theorem prevoteDecision_step (s : S) (mr : Nat) (d : Option (Option Blk)) : (s.prevoteDecision mr d).step = s.step :=
  prevoteDecision_cases (fun x => x.step = s.step) s mr d (fun _ => rfl) fun _ _ _ _ _ => rfl

theorem markValidated_frame (P : S → Prop) (s : S) (ib : Blk) (h : ∀ c, P { s with cur := c }) :
    P (s.markValidated ib) := by
  fun_cases S.markValidated s ib with
  | case1 => exact h _
  | case2 | case3 => exact h s.cur

theorem beginStep_cases (P : S → Prop) (s : S) (to : Nat)
    (h1 : validTransition s.step to = true → P { s with step := to }) (h2 : P { s with stuck := true }) :
    P (s.beginStep to) :=
  ite_pred P _ _ _ h1 (fun _ => h2)

theorem hvsAdd_cases (P : S → Prop) (s : S) (m : VoteRec) (h0 : P s)
    (h1 : P { s with
      hvs := hvsPut s.hvs m.round m.typ ((votesFor s.hvs m.round m.typ).add s.n m.signer m.val).2 }) :
    P (s.hvsAdd m).2 :=
  ite_both P h1 h0

theorem validTransition_lt {a b : Nat} (h : validTransition a b = true) (h0 : b ≠ 0) (h2 : b ≠ 2) : a < b := by
  unfold validTransition stNewHeight stNewRound at h
  simp [h0, h2] at h
  exact h

/-- `h0`, `h2`: the target is not `stNewHeight` (0) or `stNewRound` (2), the two steps `validTransition` (Go:
    isValidTransition) lets be entered from a later one; into any other step the machine only moves up -/
theorem rfs_eq (s : S) (tgt : Nat) (h0 : tgt ≠ 0) (h2 : tgt ≠ 2) :
    (s.step < tgt ∧ s.resetForNewStep tgt = { s with timer := false, step := tgt }) ∨
    s.resetForNewStep tgt = { s with timer := false, stuck := true } :=
  beginStep_cases (fun x => (s.step < tgt ∧ x = { s with timer := false, step := tgt }) ∨
      x = { s with timer := false, stuck := true }) s.endStep tgt
    (fun h => Or.inl ⟨validTransition_lt h h0 h2, rfl⟩) (Or.inr rfl)

/-- entering a new round is always a valid transition -/
theorem rfr_eq (s : S) (r : Nat) :
    s.resetForNewRound r =
      { s with timer := false, polRound := -1, cur := .zero, round := r, step := stNewRound,
               hvs := removeLowerRoundExcept s.hvs ((r : Int) - 1) s.lockedRound } := by
  unfold S.resetForNewRound S.beginStep
  exact if_pos rfl

theorem Cur.setByID_id (c : Cur) (b : Blk) : (c.setByID b).id = some b := by
  unfold Cur.setByID
  exact ite_pred (fun x : Cur => x.id = some b) _ _ _ (fun h => beq_iff_eq.1 h) (fun _ => rfl)

theorem syncAddVotes_ind (P : S → Prop) (vs : List VoteRec)
    (hadd : ∀ x m, P x → m ∈ vs → m.signer < x.n → P (x.hvsAdd m).2) (s : S) (h : P s) :
    P (syncAddVotes s vs).1 := by
  fun_induction syncAddVotes s vs with
  | case1 | case2 => exact h
  | case3 s v t hn ih =>
    exact ih (fun x m hx hm => hadd x m hx (List.mem_cons_of_mem _ hm)) (hadd s v h List.mem_cons_self (Nat.lt_of_not_ge hn))

/-- an invariant of `vstep` is one of `run`: `List.foldlRecOn` -/
theorem run_foldl (s : S) (evs : List Event) : run s evs = evs.foldl vstep s := by
  induction evs generalizing s with
  | nil => rfl
  | cons e t ih => exact ih _

end Goloop.C01
