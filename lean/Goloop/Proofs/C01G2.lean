/-
  Proofs/C01G2 — G2 for the transcribed machine (no crash): a non-nil precommit (h, r, b) is only
  signed when +2/3 prevotes (h, r, b) of distinct validators are known to the machine — each of them
  either delivered to it by a `vote` event or signed by itself.
-/
import Goloop.Proofs.C01Move
import Goloop.Proofs.C01Abs
import Goloop.Base.List
namespace Goloop.C01

def VoteSet.WF (n : Nat) (vs : VoteSet) : Prop :=
  (vs.votes.map (·.1)).Nodup ∧ ∀ e ∈ vs.votes, e.1 < n

theorem VoteSet.add_cases (n : Nat) (vs : VoteSet) (i : Nat) (v : Option Blk) :
    (vs.add n i v).2 = vs ∨
    (vs.add n i v).2.votes = vs.votes.filter (fun e => e.1 != i) ++ [(i, v)] := by
  fun_cases VoteSet.add n vs i v with
  | case1 | case2 => exact Or.inl rfl
  | case3 => exact Or.inr rfl
  | case4 h =>
    refine Or.inr (congrArg (· ++ [(i, v)]) (List.filter_eq_self.mpr fun e he => ?_).symm)
    rw [bne_comm]; exact List.lookup_eq_none_iff.mp h e he

theorem VoteSet.add_wf (n : Nat) (vs : VoteSet) (i : Nat) (v : Option Blk) (hw : vs.WF n) (hi : i < n) :
    (vs.add n i v).2.WF n := by
  rcases VoteSet.add_cases n vs i v with h | h
  · rw [h]; exact hw
  · unfold VoteSet.WF
    rw [h, List.map_append, List.nodup_append]
    refine ⟨⟨hw.1.sublist (List.filter_sublist.map _), List.pairwise_singleton _ _, ?_⟩, ?_⟩
    · intro a ha b hb
      obtain ⟨e, he, rfl⟩ := List.mem_map.mp ha
      rw [List.mem_singleton.mp hb]
      exact bne_iff_ne.mp (List.mem_filter.mp he).2
    · intro e he
      rcases List.mem_append.mp he with h | h
      · exact hw.2 e (List.mem_filter.mp h).1
      · rw [List.mem_singleton.mp h]; exact hi

theorem VoteSet.add_mem (n : Nat) (vs : VoteSet) (i : Nat) (v : Option Blk) (e : Nat × Option Blk)
    (he : e ∈ (vs.add n i v).2.votes) : e ∈ vs.votes ∨ e = (i, v) := by
  rcases VoteSet.add_cases n vs i v with h | h
  · rw [h] at he; exact Or.inl he
  · rw [h] at he
    exact (List.mem_append.mp he).imp (fun h => (List.mem_filter.mp h).1) List.mem_singleton.mp

theorem decision_count (n : Nat) (vs : VoteSet) (b : Option Blk) (h : vs.decision n = some b) :
    vs.countFor b > n * 2 / 3 := by
  obtain ⟨e, _, he⟩ := List.exists_of_findSome?_eq_some h
  obtain ⟨hc, hb⟩ := Option.ite_none_right_eq_some.mp he
  exact Option.some.inj hb ▸ hc

theorem countFor_le (n : Nat) (vs : VoteSet) (b : Option Blk) (p : Nat → Bool) (hw : vs.WF n)
    (hp : ∀ e ∈ vs.votes, e.2 = b → p e.1 = true) : vs.countFor b ≤ (List.range n).countP p := by
  unfold VoteSet.countFor
  rw [List.countP_eq_length_filter, List.countP_eq_length_filter, ← List.length_map (f := (·.1))]
  refine (hw.1.sublist (List.filter_sublist.map _)).length_le_of_subset fun i hi => ?_
  obtain ⟨e, he, rfl⟩ := List.mem_map.mp hi
  obtain ⟨he, hb⟩ := List.mem_filter.mp he
  exact List.mem_filter.mpr ⟨List.mem_range.mpr (hw.2 e he), hp e he (beq_iff_eq.mp hb)⟩

theorem votesFor_nil (r : Nat) (t : VType) : votesFor [] r t = {} := rfl

theorem wf_empty (n : Nat) : VoteSet.WF n {} := ⟨List.nodup_nil, fun _ he => nomatch he⟩

theorem votesFor_hvsPut (h : HVS) (r : Nat) (t : VType) (vs : VoteSet) (r' : Nat) (t' : VType) :
    votesFor (hvsPut h r t vs) r' t' = if (r', t') = (r, t) then vs else votesFor h r' t' := by
  unfold votesFor hvsPut
  by_cases hk : (r', t') = (r, t)
  · rw [if_pos hk, hk, List.lookup_cons_self]; rfl
  · rw [if_neg hk, List.lookup_cons, beq_false_of_ne hk, lookup_filter_key h (fun k => k != (r, t)),
      if_pos (bne_iff_ne.mpr hk)]

theorem votesFor_removeLower (h : HVS) (lo ex : Int) (r : Nat) (t : VType) :
    votesFor (removeLowerRoundExcept h lo ex) r t = votesFor h r t ∨
    votesFor (removeLowerRoundExcept h lo ex) r t = {} := by
  unfold votesFor removeLowerRoundExcept
  rw [lookup_filter_key h (fun k => !(decide ((k.1 : Int) < lo) && decide ((k.1 : Int) ≠ ex))) (r, t)]
  exact ite_both (fun x : Option VoteSet => x.getD {} = _ ∨ x.getD {} = {}) (Or.inl rfl) (Or.inr rfl)

/-- +2/3 distinct validators whose prevote (h, r, b) the machine knows of -/
def polkaKnown (L : List VoteRec) (n : Nat) (sent : List Msg) (h r : Nat) (b : Blk) : Prop :=
  (List.range n).countP (fun i => decide (Known L sent ⟨i, h, .prevote, r, some b⟩)) > n * 2 / 3

/-- +2/3 distinct validators whose vote (h, t, r, y) the machine knows of (`y` may be nil).  `polkaKnown L n sent h r b`
    unfolds to `quorumKnown L n sent h .prevote r (some b)`; the proofs pass one for the other. -/
def quorumKnown (L : List VoteRec) (n : Nat) (sent : List Msg) (h : Nat) (t : VType) (r : Nat)
    (y : Option Blk) : Prop :=
  (List.range n).countP (fun i => decide (Known L sent ⟨i, h, t, r, y⟩)) > n * 2 / 3

theorem quorumKnown_append {L : List VoteRec} {n : Nat} {sent : List Msg} (ms : List Msg) {h : Nat} {t : VType}
    {r : Nat} {y : Option Blk} (hq : quorumKnown L n sent h t r y) : quorumKnown L n (sent ++ ms) h t r y :=
  over23_mono (fun _ hi => hi.imp id (List.mem_append_left _)) hq

structure H2 (L : List VoteRec) (s : S) : Prop where
  /-- a vote set holds known votes of this height, at most one per validator index below `n`: so a count in it is a
      count over `range n` (`countFor_le`), which is how `quorumKnown` counts -/
  hv : ∀ r t, (votesFor s.hvs r t).WF s.n ∧
        ∀ e ∈ (votesFor s.hvs r t).votes, Known L (sentOf s.eff) ⟨e.1, s.height, t, r, e.2⟩
  g2 : ∀ v b, Msg.vote v ∈ sentOf s.eff → v.typ = .precommit → v.val = some b →
        polkaKnown L s.n (sentOf s.eff) v.height v.round b

/-- the fields H2 depends on -/
def gproj (s : S) : Nat × Nat × HVS × List Msg := (s.n, s.height, s.hvs, sentOf s.eff)

theorem h2_of_gproj_eq {L : List VoteRec} {s s' : S} (h : gproj s' = gproj s) (hh : H2 L s) : H2 L s' := by
  unfold gproj at h
  simp only [Prod.mk.injEq] at h
  obtain ⟨h1, h2, h3, h4⟩ := h
  exact ⟨by rw [h1, h2, h3, h4]; exact hh.hv, by rw [h1, h4]; exact hh.g2⟩

section
variable {L : List VoteRec}

theorem gproj_beginStep (s : S) (to : Nat) : gproj (s.beginStep to) = gproj s :=
  beginStep_cases (fun x => gproj x = gproj s) s to (fun _ => rfl) rfl

theorem h2_rfs (s : S) (st : Nat) (hh : H2 L s) : H2 L (s.resetForNewStep st) :=
  h2_of_gproj_eq (s := s) (gproj_beginStep s.endStep st) hh

theorem h2_stuck (s : S) (hh : H2 L s) : H2 L { s with stuck := true } := h2_of_gproj_eq (s := s) rfl hh

theorem h2_drop {s s' : S} (hn : s'.n = s.n) (hs : sentOf s'.eff = sentOf s.eff)
    (hv : ∀ r t, votesFor s'.hvs r t = {} ∨ (s'.height = s.height ∧ votesFor s'.hvs r t = votesFor s.hvs r t))
    (hh : H2 L s) : H2 L s' := by
  refine ⟨fun r t => ?_, by rw [hn, hs]; exact hh.g2⟩
  rcases hv r t with h | ⟨h1, h2⟩
  · rw [h]; exact ⟨wf_empty _, fun _ he => nomatch he⟩
  · rw [h2, h1, hn, hs]; exact hh.hv r t

theorem h2_rfr (s : S) (r : Nat) (hh : H2 L s) : H2 L (s.resetForNewRound r) :=
  h2_of_gproj_eq (gproj_beginStep _ _) (h2_drop (s := s) (s' := s.endStep.resetRound_ r) rfl rfl
    (fun r' t => (votesFor_removeLower s.hvs _ _ r' t).symm.imp id fun h => ⟨rfl, h⟩) hh)

theorem h2_rfh (s : S) (h : Nat) (hh : H2 L s) : H2 L (s.resetForNewHeight h) :=
  h2_of_gproj_eq (gproj_beginStep _ _) (h2_drop (s := s) rfl rfl (fun _ _ => Or.inl rfl) hh)

theorem h2_emit (s : S) (e : Eff) (he : ∀ m, e ≠ .send m) (hh : H2 L s) : H2 L (s.emit e) :=
  h2_of_gproj_eq (by unfold gproj; rw [sentOf_emit_nonsend s e he]; rfl) hh

theorem h2_send (s : S) (m : Msg) (hh : H2 L s)
    (hm : ∀ v b, m = .vote v → v.typ = .precommit → v.val = some b →
      polkaKnown L s.n (sentOf s.eff ++ [m]) v.height v.round b) : H2 L (s.emit (.send m)) := by
  have hs : sentOf (s.emit (.send m)).eff = sentOf s.eff ++ [m] := sentOf_emit_send s m
  refine ⟨fun r t => ?_, fun v b hv ht hval => ?_⟩
  · rw [hs]
    exact ⟨(hh.hv r t).1, fun e he => ((hh.hv r t).2 e he).imp id (List.mem_append_left _)⟩
  · rw [hs]
    rcases mem_sentOf_send hv with h | h
    · exact quorumKnown_append [m] (hh.g2 v b h ht hval)
    · exact hm v b h.symm ht hval

theorem h2_hvsAdd (s : S) (m : VoteRec) (hh : H2 L s) (hlt : m.signer < s.n) (hht : m.height = s.height)
    (hk : Known L (sentOf s.eff) m) : H2 L (s.hvsAdd m).2 := by
  refine hvsAdd_cases (H2 L) s m hh ⟨fun r t => ?_, hh.g2⟩
  show (votesFor (hvsPut s.hvs m.round m.typ _) r t).WF s.n ∧
    ∀ e ∈ (votesFor (hvsPut s.hvs m.round m.typ _) r t).votes, _
  rw [votesFor_hvsPut]
  by_cases heq : (r, t) = (m.round, m.typ)
  · rw [if_pos heq]
    cases heq
    refine ⟨VoteSet.add_wf _ _ _ _ (hh.hv _ _).1 hlt, fun e he => ?_⟩
    rcases VoteSet.add_mem _ _ _ _ e he with h | h
    · exact (hh.hv _ _).2 e h
    · rw [h, ← hht]; exact hk
  · rw [if_neg heq]; exact hh.hv r t

theorem known_of_decision (s : S) (hh : H2 L s) (r : Nat) (t : VType) (y : Option Blk)
    (hd : (votesFor s.hvs r t).decision s.n = some y) :
    quorumKnown L s.n (sentOf s.eff) s.height t r y :=
  Nat.lt_of_lt_of_le (decision_count _ _ _ hd) (countFor_le s.n _ y _ (hh.hv r t).1 fun e he heq =>
    decide_eq_true (heq ▸ (hh.hv r t).2 e he))

theorem h2_send_vote (s : S) (t : VType) (v : Option Blk) (hh : H2 L s) (hpc : PC s t v) :
    H2 L (((s.emit (.write .round (.msg (.vote ⟨s.me, s.height, t, s.round, v⟩)))).emit (.sync .round)).emit
      (.send (.vote ⟨s.me, s.height, t, s.round, v⟩))) := by
  refine h2_send _ _ (h2_emit _ _ (fun _ => nofun) (h2_emit s _ (fun _ => nofun) hh)) fun v' b hm ht hval => ?_
  cases hm
  rw [sentOf_emit_sync, sentOf_emit_write]
  exact quorumKnown_append _ (known_of_decision s hh s.round .prevote (some b) (hpc ht b hval))

structure IH2 (L : List VoteRec) (f : Nat) : Prop where
  recvVote : ∀ s m, H2 L s → Known L (sentOf s.eff) m → H2 L (recvVote f s m)
  sendVote : ∀ s t v, H2 L s → PC s t v → H2 L (sendVote f s t v)
  handlePrevote : ∀ s mr, H2 L s → H2 L (handlePrevote f s mr)
  handlePrecommit : ∀ s mr, H2 L s → H2 L (handlePrecommit f s mr)
  enterPropose : ∀ s, H2 L s → H2 L (enterPropose f s)
  enterPrevote : ∀ s, H2 L s → H2 L (enterPrevote f s)
  enterPrevoteWait : ∀ s, H2 L s → H2 L (enterPrevoteWait f s)
  enterPrecommit : ∀ s, H2 L s → H2 L (enterPrecommit f s)
  enterPrecommitWait : ∀ s, H2 L s → H2 L (enterPrecommitWait f s)
  enterCommit : ∀ s b r, H2 L s → H2 L (enterCommit f s b r)
  commitAndEnterNewHeight : ∀ s, H2 L s → H2 L (commitAndEnterNewHeight f s)
  enterNewHeight : ∀ s, H2 L s → H2 L (enterNewHeight f s)
  enterNewRound : ∀ s, H2 L s → H2 L (enterNewRound f s)

theorem Move.h2 {s s' : S} (h : Move L s s') (hh : H2 L s) : H2 L s' := by
  cases h with
  | stuck | frame | cur | pend | unlock | setlock =>
    exact h2_of_gproj_eq (s := s) rfl hh
  | rfs to => exact h2_rfs s to hh
  | rfr r => exact h2_rfr s r hh
  | hvsAdd m hht hlt hk => exact h2_hvsAdd s m hh hlt hht hk
  | sync | writeBP | writeVL => exact h2_emit s _ (fun _ => nofun) hh
  | vote t v _ _ _ hpc => exact h2_send_vote s t v hh hpc
  | propose b pol =>
    exact h2_send _ (.proposal s.me s.height s.round b pol) (h2_emit _ _ (fun _ => nofun) (h2_emit s _ (fun _ => nofun) hh))
      fun _ _ hm => nomatch hm
  | unlockRound mr => exact h2_rfr s.unlock mr (h2_of_gproj_eq (s := s) rfl hh)
  | rfsCommit s1 b r c _ _ e => exact h2_of_gproj_eq (s := s1) rfl (e ▸ h2_rfs s _ hh)
  | newHeight b =>
    exact h2_rfh _ _ (h2_of_gproj_eq (s := s.emit (.finalize s.height b)) rfl (h2_emit _ _ (fun _ => nofun) hh))
  | finStuck b =>
    exact h2_of_gproj_eq (s := s.emit (.finalize s.height b)) rfl (h2_emit _ _ (fun _ => nofun) hh)
  | importVote ib b =>
    exact h2_send_vote { s with pend := .none } .prevote (some b) (h2_of_gproj_eq (s := s) rfl hh) (pc_prevote _ _)

end
end Goloop.C01
