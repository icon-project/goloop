/-
  Proofs/C09Ser: every enabled event of `Sim` preserves the invariant; the least uncommitted
  transaction is always enabled; the initial state satisfies the invariant; `simulate` only
  follows schedules of enabled events.
-/
import Goloop.Proofs.C09Inv
namespace Goloop.C09.Proofs
open Goloop.C09

variable {txs : List Tx} {init : List Nat} {s : Sim}

theorem allBefore_iff (s : Sim) (i : Nat) :
    s.allBefore i = true ↔ ∀ j, j < i → (stOf s j).committed = true := by
  unfold Sim.allBefore
  rw [List.all_eq_true]
  constructor
  · intro h j hj; exact h j (List.mem_range.mpr hj)
  · intro h j hj; exact h j (List.mem_range.mp hj)

theorem enabledTx_eq (txs : List Tx) (s : Sim) (i : Nat) :
    enabledTx txs (build txs) s i =
      (if (stOf s i).committed then false
       else match (txAt txs i).prog[(stOf s i).pc]? with
        | some step =>
          (match access (lkAt txs i) step.acct with
           | .worldW => s.allBefore i
           | .roBase => s.allBefore i
           | .rw d => depOK s d
           | .ro d => depOK s d
           | .nil => true)
        | none => (lkAt txs i).las.all (fun l => l.lock ≠ .write || depOK s l.depend)) := rfl

/-- the store a read-only copy is taken from: `src` in the `.ro` branch of `fire`, to which it unfolds -/
def roSrc (s : Sim) (d : Option Nat) : List Nat :=
  match d with
  | some j => (s.snaps.getD j none).getD s.init
  | none => s.init

/-- A committed dependency: every earlier writer of the account is committed, and the read-only
    copy taken from the dependency holds the account's sequential value before transaction `i`. -/
theorem dep_done (hs : Supported txs) (h : Inv txs init s) {i : Nat}
    (hi : i < txs.length) (a : Nat) (hd : depOK s (dep txs i a) = true) :
    smallerDone txs s i a ∧ (roSrc s (dep txs i a)).getD a 0 = (seqState txs init i).getD a 0 := by
  have hspec := dep_spec (Nat.le_of_lt hi) a
  cases hdep : dep txs i a with
  | none =>
    refine ⟨fun j hj hja => ?_, ?_⟩
    · rw [hspec.2 hdep j hj] at hja; cases hja
    · show s.init.getD a 0 = _
      rw [h.initEq]
      exact seqState_const hs init a 0 i (Nat.zero_le _) (Nat.le_of_lt hi) fun j _ hj => hspec.2 hdep j hj
  | some k =>
    obtain ⟨hk, hka, hbetween⟩ := hspec.1 k hdep
    rw [hdep] at hd
    have hkc : (stOf s k).committed = true := hd
    refine ⟨fun j hj hja => ?_, ?_⟩
    · rcases Nat.lt_trichotomy j k with h1 | h1 | h1
      · exact h.closed a k j (Nat.lt_trans hk hi) hka hkc h1 hja
      · subst h1; exact hkc
      · rw [hbetween j h1 hj] at hja; cases hja
    · show ((s.snaps.getD k none).getD s.init).getD a 0 = _
      rw [h.snap k (Nat.lt_trans hk hi) hkc a hka]
      exact seqState_const hs init a (k + 1) i hk (Nat.le_of_lt hi) hbetween

theorem inv_fire (hs : Supported txs) (h : Inv txs init s) {i : Nat}
    (hi : i < txs.length) (hen : enabledTx txs (build txs) s i = true) :
    Inv txs init (fire txs (build txs) s i) := by
  rw [enabledTx_eq] at hen
  cases hc : (stOf s i).committed with
  | true => simp [hc] at hen
  | false =>
    simp only [hc, Bool.false_eq_true, if_false] at hen
    -- `fire` in the words of the invariant (`committed` is settled first, so that it is not
    -- rewritten inside the new state); the cases below are the branches of `fire`
    unfold fire
    -- without the `let`s of `fire` its three lookups are `stOf`, `txAt`, `lkAt` unfolded
    simp only []
    rw [← stOf, ← txAt, ← lkAt]
    cases hst : (txAt txs i).prog[(stOf s i).pc]? with
    | none =>
      rw [hst] at hen
      have hpc : (txAt txs i).prog.length ≤ (stOf s i).pc := List.getElem?_eq_none_iff.mp hst
      refine inv_commit hs h hi hc hpc (fun a hwa j hj hja => ?_) rfl
      rcases world_cases hs hi with h0 | h2
      · obtain ⟨l, hl, rfl, hlw⟩ := (writer_iff_entry hi (by rw [h0]; decide) _).mp hwa
        have hthis := List.all_eq_true.mp hen l hl
        simp only [hlw, ne_eq, not_true_eq_false, decide_false, Bool.false_or] at hthis
        rw [las_dep hi hl] at hthis
        exact (dep_done hs h hi _ hthis).1 j hj hja
      · have hpos := Nat.lt_of_lt_of_le (List.length_pos_iff.mpr (hs.worldTouches i hi h2)) hpc
        exact h.worldStarted i hi h2 hpos j hj
    | some step =>
      rw [hst] at hen
      have hlt : (stOf s i).pc < (txAt txs i).prog.length := (List.getElem?_eq_some_iff.mp hst).1
      have eP := P_succ init hst
      have eloc := h.loc i hi
      have hnw2 : access (lkAt txs i) step.acct ≠ .worldW → (lkAt txs i).world ≠ 2 :=
        fun hne h2 => hne (access_world h2 _)
      have hsp := access_spec hi step.acct
      cases hacc : access (lkAt txs i) step.acct with
      | nil =>
        simp only [hacc] at hen ⊢
        have hd : declaredBy (lkAt txs i) step.acct = false := by simp [declaredBy, hacc]
        rw [stepOn_undeclared _ _ _ _ _ hd] at eP
        exact inv_local h hi _ hlt hc (by rw [eP, eloc]) (by rw [eP]) (hnw2 (by simp [hacc]))
      | ro d =>
        simp only [hacc] at hen hsp ⊢
        subst hsp
        have hq : ∀ d, access (lkAt txs i) step.acct ≠ .rw d := by simp [hacc]
        have hval : (roSrc s (dep txs i step.acct)).getD step.acct 0 =
            (P txs init i (stOf s i).pc).1.getD step.acct 0 := by
          rw [(dep_done hs h hi _ hen).2, P_untouched hs init hi hq (by simp [hacc])]
        refine inv_local h hi _ hlt hc ?_
          (by rw [eP, stepOn_quiet hs hi (List.mem_of_getElem? hst) hq (by simp [hacc])]) (hnw2 (by simp [hacc]))
        rw [eP, ← eloc]
        exact (stepOn_agree i _ step _ _ _ (by simp [declaredBy, hacc]) hval).1
      | roBase =>
        rw [hacc] at hsp
        exact absurd (hsp ▸ world_cases hs hi) (by decide)
      | worldW =>
        simp only [hacc] at hen hsp ⊢
        have hall := (allBefore_iff s i).mp hen
        exact inv_store h hi step hst hc (writer_of_world hi hsp _) (by simp [declaredBy, hacc])
          (fun j hj _ => hall j hj) (fun _ => hall)
      | rw d =>
        simp only [hacc] at hen hsp ⊢
        obtain ⟨rfl, hw⟩ := hsp
        exact inv_store h hi step hst hc hw (by simp [declaredBy, hacc])
          (dep_done hs h hi _ hen).1 (fun h2 => absurd h2 (hnw2 (by simp [hacc])))

theorem depOK_of_allBefore {i : Nat} (hi : i < txs.length) (a : Nat)
    (hall : ∀ j, j < i → (stOf s j).committed = true) : depOK s (dep txs i a) = true := by
  have hspec := dep_spec (Nat.le_of_lt hi) a
  cases hdep : dep txs i a with
  | none => rfl
  | some k => exact hall k (hspec.1 k hdep).1

theorem least_enabled {i : Nat} (hi : i < txs.length)
    (hc : (stOf s i).committed = false) (hall : ∀ j, j < i → (stOf s j).committed = true) :
    enabledTx txs (build txs) s i = true := by
  rw [enabledTx_eq]
  simp only [hc, Bool.false_eq_true, if_false]
  cases hst : (txAt txs i).prog[(stOf s i).pc]? with
  | none =>
    simp only
    rw [List.all_eq_true]
    intro l hl
    rw [las_dep hi hl, depOK_of_allBefore hi _ hall]
    simp
  | some step =>
    simp only
    have hsp := access_spec hi step.acct
    cases hacc : access (lkAt txs i) step.acct with
    | nil => rfl
    | worldW | roBase => exact (allBefore_iff s i).mpr hall
    | rw d => rw [hacc] at hsp; rw [hsp.1]; exact depOK_of_allBefore hi _ hall
    | ro d => rw [hacc] at hsp; rw [hsp]; exact depOK_of_allBefore hi _ hall

theorem stOf_simInit (nacc : Nat) (txs : List Tx) (i : Nat) : stOf (simInit nacc txs) i = {} := by
  unfold stOf simInit
  simp only [List.getD_eq_getElem?_getD, List.getElem?_map]
  cases txs[i]? <;> rfl

theorem inv_init (hs : Supported txs) (nacc : Nat) :
    Inv txs (initBal nacc) (simInit nacc txs) := by
  have hst := stOf_simInit nacc txs
  have hnone : ∀ (a w : Nat), w ≤ txs.length →
      (∀ j, j < w → writer txs j a = true → (stOf (simInit nacc txs) j).committed = true) →
      (initBal nacc).getD a 0 = (seqState txs (initBal nacc) w).getD a 0 := by
    intro a w hw hall
    apply seqState_const hs (initBal nacc) a 0 w (Nat.zero_le _) hw
    intro j _ hj
    cases hja : writer txs j a
    · rfl
    · have := hall j hj hja
      rw [hst] at this; cases this
  refine ⟨by simp [simInit], by simp [simInit], rfl, rfl, ?_, ?_, ?_, ?_, ?_, ?_, ?_, ?_, ?_⟩
  · intro i _; rw [hst]; exact Nat.zero_le _
  · intro i _; rw [hst]; rfl
  · intro i _ hc; rw [hst] at hc; cases hc
  · intro a w hw _ _ hall
    rw [hst]
    show (initBal nacc).getD a 0 = _
    exact hnone a w (Nat.le_of_lt hw) hall
  · intro a hall
    show (initBal nacc).getD a 0 = _
    exact hnone a txs.length (Nat.le_refl _) hall
  · intro i _ hc; rw [hst] at hc; cases hc
  · intro a j j' _ _ hc; rw [hst] at hc; cases hc
  · intro i _ _ hpos; rw [hst] at hpos; cases hpos
  · intro a w j _ _ _ _ _
    rw [hst]; rfl

theorem inv_runSched (hs : Supported txs) :
    ∀ (sched : List Nat) (s s' : Sim), Inv txs init s → runSched txs (build txs) sched s = some s' → Inv txs init s' := by
  intro sched s s'
  fun_induction runSched txs (build txs) sched s with
  | case1 s => rintro h ⟨⟩; exact h
  | case2 i rest s hcond ih => exact fun h => ih (inv_fire hs h hcond.1 hcond.2)
  | case3 => exact fun _ => nofun

/-- Token schedules only index into the list of enabled transactions. The `find?` branch of `pick` returns an element of
    a priority list unchecked, and beyond the block `enabledTx` is `true` (default state, empty program, no entries)
    while `runSched` demands `i < txs.length`: so a priority list has to stay inside the block. -/
def SchedOK (n : Nat) : Sched → Prop
  | .toks _ => True
  | .prio l => ∀ i ∈ l, i < n

theorem pick_enabled {lks : List Locks} {sc sc' : Sched} {i : Nat}
    (hok : SchedOK txs.length sc) (h : pick txs lks s (enabledList txs lks s) sc = some (i, sc')) :
    i < txs.length ∧ enabledTx txs lks s i = true ∧ SchedOK txs.length sc' := by
  -- every branch of `pick` but one takes an element of the list of enabled transactions
  have hmem : ∀ {o : Option Nat} {sc0 : Sched}, SchedOK txs.length sc0 → (∀ j, o = some j → j ∈ enabledList txs lks s) →
      o.map (fun i => (i, sc0)) = some (i, sc') → i < txs.length ∧ enabledTx txs lks s i = true ∧ SchedOK txs.length sc' := by
    intro o sc0 hok0 ho hmap
    obtain ⟨j, hj, heq⟩ := Option.map_eq_some_iff.mp hmap
    cases heq
    have := List.mem_filter.mp (ho _ hj)
    exact ⟨List.mem_range.mp this.1, this.2, hok0⟩
  revert h
  fun_cases pick txs lks s (enabledList txs lks s) sc with
  | case1 => exact hmem (sc0 := .toks []) trivial (fun j hj => List.mem_of_head? hj)
  | case2 t r => exact hmem (sc0 := .toks r) trivial (fun j hj => List.mem_of_getElem? hj)
  | case3 l j hf =>
    rintro ⟨⟩
    exact ⟨hok _ (List.mem_of_find?_eq_some hf), by simpa using List.find?_some hf, hok⟩
  | case4 l hf => exact hmem hok (fun j hj => List.mem_of_head? hj)

theorem simulate_is_schedule (txs : List Tx) (lks : List Locks) : ∀ (f : Nat) (s : Sim) (sc : Sched) (s' : Sim),
    SchedOK txs.length sc → simulate txs lks f s sc = some s' →
    ∃ sched, runSched txs lks sched s = some s' := by
  intro f s sc s'
  fun_induction simulate txs lks f s sc with
  | case1 s sc => rintro _ ⟨⟩; exact ⟨[], rfl⟩
  | case2 f s sc hall => rintro _ ⟨⟩; exact ⟨[], rfl⟩
  | case3 f s sc hall en hp => exact fun _ => nofun
  | case4 f s sc hall en i sc' hp ih =>
    intro hok h
    obtain ⟨hi, hen, hok'⟩ := pick_enabled hok hp
    obtain ⟨sched, hs⟩ := ih hok' h
    exact ⟨i :: sched, by simp [runSched, hi, hen, hs]⟩

end Goloop.C09.Proofs
