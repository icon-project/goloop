/-
  Proofs/C35Voters: the aggregated conditions of `InputWF` (running Voted totals never negative,
  Voted ≥ what the voters hold) derived from per-voter facts: well-formed Delegating/Bonding
  records, duplicate-free vote lists, and the success of `VoteEvents.UpdateVoting`
  (`Delegating.ApplyVotes` / `Bonding.ApplyVotes` never report a negative value).
  At the end `DatabaseWF`, these per-voter facts as a predicate on the input, and `calculate_spec`, which reads
  the success of `UpdateVoting` and the credited total off a successful `calculate`.
-/
import Goloop.Proofs.C35Input
namespace Goloop.C35.Proofs
open Goloop.C35

/-- one entry per target, no negative amount -/
def VotesOk (l : Votes) : Prop := (l.map (·.1)).Nodup ∧ ∀ x ∈ l, 0 ≤ x.2

theorem votesTo_not_mem (k : Nat) (l : Votes) (h : k ∉ l.map (·.1)) : votesTo k l = 0 := by
  rw [votesTo, votesFor, List.filter_eq_nil_iff.mpr]; · rfl
  exact fun x hx e => h (List.mem_map.mpr ⟨x, hx, eq_of_beq e⟩)

theorem votesTo_nonneg (k : Nat) (l : Votes) (h : ∀ x ∈ l, 0 ≤ x.2) : 0 ≤ votesTo k l :=
  sum_map_nonneg _ _ fun x hx => h x (List.mem_filter.mp hx).1

/-- one delta of `ApplyVotes` on a duplicate-free record: whichever branch of the Go code runs (the lookup
    finds the last entry with that address, or none), the amount it tests and stores is the old amount for
    that target (0 if there is none) plus the delta -/
theorem applyVotesGo_cons (cur : Votes) (hnd : (cur.map (·.1)).Nodup) (d : Nat × Int) (rest acc : Votes) :
    applyVotesGo cur (d :: rest) acc =
      if votesTo d.1 cur + d.2 < 0 then none
      else if votesTo d.1 cur + d.2 = 0 then applyVotesGo cur rest acc
      else applyVotesGo cur rest (acc ++ [(d.1, votesTo d.1 cur + d.2)]) := by
  have hs : votesTo d.1 cur = _ := sum_key_find?_reverse cur hnd d.1
  rw [applyVotesGo]
  cases hf : cur.reverse.find? (fun e => e.1 == d.1) with
  | some dg =>
    rw [hf] at hs
    simp only [hs, eq_of_beq (List.find?_some (p := fun e : Nat × Int => e.1 == d.1) hf), Option.map_some, Option.getD_some]
  | none =>
    rw [hf] at hs
    simp only [hs, Option.map_none, Option.getD_none, Int.zero_add]

theorem applyVotesGo_spec (cur : Votes) (hnd : (cur.map (·.1)).Nodup) : ∀ (ds acc res : Votes),
    (acc.map (·.1) ++ ds.map (·.1)).Nodup → (∀ x ∈ acc, 0 ≤ x.2) → applyVotesGo cur ds acc = some res →
    VotesOk res ∧ ∀ k, votesTo k res =
      votesTo k acc + if k ∈ ds.map (·.1) then votesTo k cur + votesTo k ds else 0 := by
  intro ds
  induction ds with
  | nil =>
    intro acc res hk hacc h
    cases h
    exact ⟨⟨(List.nodup_append.mp hk).1, hacc⟩, fun k => (Int.add_zero _).symm⟩
  | cons d rest ih =>
    intro acc res hk hacc
    have hd : d.1 ∉ rest.map (·.1) := (List.nodup_cons.mp (List.nodup_append.mp hk).2.1).1
    -- what the delta adds to the right side for `k`: the new amount of its target, if that is `k`
    have key : ∀ k, (if k ∈ (d :: rest).map (·.1) then votesTo k cur + votesTo k (d :: rest) else 0) =
        (if d.1 == k then votesTo d.1 cur + d.2 else 0) +
          if k ∈ rest.map (·.1) then votesTo k cur + votesTo k rest else 0 := by
      intro k
      rw [votesTo_cons, List.map_cons]
      by_cases hk : d.1 = k
      · subst hk
        rw [if_pos (beq_self_eq_true _), if_pos (beq_self_eq_true _), if_pos (List.mem_cons_self ..), if_neg hd,
          votesTo_not_mem _ _ hd]
        omega
      · have hb : ¬(d.1 == k) = true := fun e => hk (eq_of_beq e)
        rw [if_neg hb, if_neg hb, Int.zero_add, Int.zero_add]
        simp only [List.mem_cons, Ne.symm hk, false_or]
    rw [applyVotesGo_cons cur hnd]
    -- the delta either leaves `acc` alone (new amount 0) or appends the entry with the new amount
    refine of_guard nofun fun hn => ite_pred (· = some res → _) _ _ _ (fun hz h => ?_) fun _ h => ?_
    · obtain ⟨hok, hres⟩ := ih acc res (hk.sublist ((List.sublist_cons_self ..).append_left _)) hacc h
      exact ⟨hok, fun k => by rw [hres k, key k, hz, ite_self, Int.zero_add]⟩
    · obtain ⟨hok, hres⟩ := ih _ res (by rw [List.map_append, List.append_assoc]; exact hk)
        (fun x hx => (List.mem_append.mp hx).elim (hacc x) fun hx => by
          rw [List.mem_singleton.mp hx]; exact Int.not_lt.mp hn) h
      exact ⟨hok, fun k => by
        rw [hres k, key k, votesTo_append, votesTo_cons, votesTo_nil, Int.add_zero, Int.add_assoc]⟩

theorem any_key (ds : Votes) (k : Nat) : ds.any (fun d => d.1 == k) = true ↔ k ∈ ds.map (·.1) := by
  rw [List.any_eq_true, List.mem_map]
  constructor
  · exact fun ⟨d, hd, e⟩ => ⟨d, hd, eq_of_beq e⟩
  · exact fun ⟨d, hd, e⟩ => ⟨d, hd, by rw [e]; exact beq_self_eq_true k⟩

/-- the entries of `cur` that `ApplyVotes` keeps as they are: those whose target no delta names -/
theorem votesTo_kept (cur ds : Votes) (k : Nat) :
    votesTo k (cur.filter (fun e => !(ds.any (fun d => d.1 == e.1)))) = if k ∈ ds.map (·.1) then 0 else votesTo k cur := by
  simp only [votesTo, votesFor, List.filter_filter]
  split
  · rename_i hk
    rw [List.filter_eq_nil_iff.mpr]; rfl
    intro x _ hx
    simp only [Bool.and_eq_true, Bool.not_eq_true'] at hx
    rw [← eq_of_beq hx.1] at hk
    rw [(any_key ds x.1).mpr hk] at hx
    cases hx.2
  · rename_i hk
    congr 2
    apply List.filter_congr
    intro x _
    by_cases hxk : (x.1 == k) = true
    · rw [← eq_of_beq hxk] at hk
      cases hany : ds.any (fun d => d.1 == x.1) with
      | true => exact absurd ((any_key ds x.1).mp hany) hk
      | false => simp [hxk]
    · simp [hxk]

theorem applyVotes_spec (cur ds res : Votes) (hc : VotesOk cur) (hds : (ds.map (·.1)).Nodup)
    (h : applyVotes cur ds = some res) :
    VotesOk res ∧ ∀ k, votesTo k res = votesTo k cur + votesTo k ds := by
  have hsub : (cur.filter (fun e => !(ds.any (fun d => d.1 == e.1)))).Sublist cur := List.filter_sublist
  obtain ⟨hok, hres⟩ := applyVotesGo_spec cur hc.1 ds _ res
    (List.nodup_append.mpr ⟨hc.1.sublist (hsub.map _), hds, fun a ha b hb e => by
      obtain ⟨x, hx, rfl⟩ := List.mem_map.mp ha
      have := (List.mem_filter.mp hx).2
      rw [(any_key ds x.1).mpr (e ▸ hb)] at this
      cases this⟩)
    (fun x hx => hc.2 x (hsub.subset hx)) h
  refine ⟨hok, fun k => ?_⟩
  rw [hres k, votesTo_kept]
  split
  · exact Int.zero_add _
  · rename_i hk; rw [votesTo_not_mem k ds hk]

/-- one step of `VoteEvents.UpdateVoting` (the function folded in `updateVotingOk`) -/
def stepV (st : Option (Votes × Votes)) (e : Bool × Nat × Votes) : Option (Votes × Votes) :=
  match st with
  | none => none
  | some (d, b) =>
    if e.1 then (applyVotes b e.2.2).map (fun b' => (d, b'))
    else (applyVotes d e.2.2).map (fun d' => (d', b))

theorem updateVotingOk_eq (i : Input) (who : Nat) :
    updateVotingOk i who =
      ((eventsOf i.events who).foldl stepV (some (lookupVotes i.delegating who, lookupVotes i.bonding who))).isSome := rfl

theorem foldl_stepV_none : ∀ (l : List (Bool × Nat × Votes)), l.foldl stepV none = none := by
  intro l
  induction l with
  | nil => rfl
  | cons e l ih => simp only [List.foldl_cons, stepV, ih]

theorem stepV_spec (d b : Votes) (bb : Bool) (o : Nat) (vs : Votes) (p' : Votes × Votes)
    (hd : VotesOk d) (hb : VotesOk b) (hvs : (vs.map (·.1)).Nodup) (h : stepV (some (d, b)) (bb, o, vs) = some p') :
    (VotesOk p'.1 ∧ VotesOk p'.2) ∧
    ∀ k, votesTo k p'.1 = votesTo k d + (if bb then 0 else votesTo k vs) ∧
      votesTo k p'.2 = votesTo k b + (if bb then votesTo k vs else 0) := by
  cases bb
  · obtain ⟨x, hx, rfl⟩ := Option.map_eq_some_iff.mp h
    obtain ⟨hok, hval⟩ := applyVotes_spec d vs x hd hvs hx
    exact ⟨⟨hok, hb⟩, fun k => ⟨hval k, (Int.add_zero _).symm⟩⟩
  · obtain ⟨x, hx, rfl⟩ := Option.map_eq_some_iff.mp h
    obtain ⟨hok, hval⟩ := applyVotes_spec b vs x hb hvs hx
    exact ⟨⟨hd, hok⟩, fun k => ⟨(Int.add_zero _).symm, hval k⟩⟩

/-- totals that are at least what the voters hold are not negative: no voter holds a negative amount -/
theorem totals_nonneg (k : Nat) (V : List Nat) (st : Nat → Votes × Votes) (d b : Int)
    (hok : ∀ v, VotesOk (st v).1 ∧ VotesOk (st v).2)
    (hd : sumInt (V.map (fun v => votesTo k (st v).1)) ≤ d) (hb : sumInt (V.map (fun v => votesTo k (st v).2)) ≤ b) :
    0 ≤ b ∧ 0 ≤ d + b :=
  have hd0 := Int.le_trans (sum_map_nonneg V _ fun v _ => votesTo_nonneg k _ (hok v).1.2) hd
  have hb0 := Int.le_trans (sum_map_nonneg V _ fun v _ => votesTo_nonneg k _ (hok v).2.2) hb
  ⟨hb0, Int.add_nonneg hd0 hb0⟩

/-- the votes of one event that go to `k` (at most one, when the event names each target once) move
    the running totals of `k` by `votesTo k vs` -/
theorem totalsOk_event (k : Nat) (bb : Bool) (o : Int) (vs : Votes) (hvs : (vs.map (·.1)).Nodup) (d b : Int)
    (rest : List (Bool × Int × Int)) (h0 : 0 ≤ b ∧ 0 ≤ d + b)
    (h : totalsOk (d + if bb then 0 else votesTo k vs) (b + if bb then votesTo k vs else 0) rest = true) :
    totalsOk d b (votesOfEvent k bb o vs ++ rest) = true := by
  rw [votesTo, votesFor] at h
  rw [votesOfEvent]
  rcases filter_key_nodup k vs hvs with hfl | ⟨y, hfl⟩
  · rw [hfl] at h ⊢
    simp only [List.map_nil, sumInt_nil, ite_self, Int.add_zero] at h
    exact h
  · rw [hfl] at h ⊢
    simp only [List.map_cons, List.map_nil, List.cons_append, List.nil_append, totalsOk, Bool.and_eq_true,
      decide_eq_true_eq]
    refine ⟨h0, ?_⟩
    cases bb <;> simpa [sumInt] using h

/-- every vote event names each target at most once -/
def eventVotesOk : List Event → Bool
  | [] => true
  | .enable _ _ _ :: rest => eventVotesOk rest
  | .vote _ _ _ vs :: rest => decide ((vs.map (·.1)).Nodup) && eventVotesOk rest

theorem eventVotesOk_mem : ∀ (evs : List Event), eventVotesOk evs = true →
    ∀ b o f vs, Event.vote b o f vs ∈ evs → (vs.map (·.1)).Nodup := by
  intro evs
  induction evs with
  | nil => intro _ b o f vs h; cases h
  | cons e rest ih =>
    intro h b o f vs hm
    cases e with
    | enable o' t s =>
      rcases List.mem_cons.mp hm with h' | h'
      · cases h'
      · exact ih h b o f vs h'
    | vote b' o' f' vs' =>
      simp only [eventVotesOk, Bool.and_eq_true, decide_eq_true_eq] at h
      rcases List.mem_cons.mp hm with h' | h'
      · cases h'; exact h.1
      · exact ih h.2 b o f vs h'

/-- **the running Voted totals never go negative** when the Voted totals start at or above what the
    voters hold, every vote list is duplicate-free and `UpdateVoting` (the fold of `stepV` over a
    voter's events, starting from the records `st`) succeeds for every sender -/
theorem totals_of_voters (k : Nat) (V : List Nat) (hV : V.Nodup) (evs : List Event)
    (st : Nat → Votes × Votes) (d b : Int) :
    (∀ v, VotesOk (st v).1 ∧ VotesOk (st v).2) → eventVotesOk evs = true →
    (∀ bb o f vs, Event.vote bb o f vs ∈ evs →
      f ∈ V ∧ ((eventsOf evs f).foldl stepV (some (st f))).isSome = true) →
    sumInt (V.map (fun v => votesTo k (st v).1)) ≤ d → sumInt (V.map (fun v => votesTo k (st v).2)) ≤ b →
    totalsOk d b (voteEvents k evs) = true := by
  fun_induction voteEvents k evs generalizing st d b with
  | case1 =>
    intro hok _ _ hd hb
    simp only [totalsOk, Bool.and_eq_true, decide_eq_true_eq]
    exact totals_nonneg k V st d b hok hd hb
  | case2 o t s rest ih =>
    exact fun hok hnd hev => ih st d b hok hnd fun bb o f vs hm => hev bb o f vs (List.mem_cons_of_mem _ hm)
  | case3 bb o f vs rest ih =>
    intro hok hnd hev hd hb
    simp only [eventVotesOk, Bool.and_eq_true, decide_eq_true_eq] at hnd
    obtain ⟨hfV, hf⟩ := hev bb o f vs (List.mem_cons_self ..)
    rw [eventsOf_vote, if_pos (beq_self_eq_true f), List.foldl_cons] at hf
    cases hst : stepV (some (st f)) (bb, o, vs) with
    | none => rw [hst, foldl_stepV_none] at hf; cases hf
    | some p' =>
    rw [hst] at hf
    obtain ⟨hok', hval⟩ := stepV_spec _ _ _ _ _ _ (hok f).1 (hok f).2 hnd.1 hst
    -- the records after the event: those of `f` are replaced by `p'`
    obtain ⟨st2, hst2⟩ : ∃ st2 : Nat → Votes × Votes, ∀ v, st2 v = if f == v then p' else st v := ⟨_, fun _ => rfl⟩
    have hev' : ∀ bb' o' v vs', Event.vote bb' o' v vs' ∈ rest →
        v ∈ V ∧ ((eventsOf rest v).foldl stepV (some (st2 v))).isSome = true := by
      intro bb' o' v vs' hm
      obtain ⟨hvV, hs⟩ := hev bb' o' v vs' (List.mem_cons_of_mem _ hm)
      refine ⟨hvV, ?_⟩
      rw [hst2]
      by_cases hv : (f == v) = true
      · rw [if_pos hv, ← eq_of_beq hv]; exact hf
      · rw [eventsOf_vote, if_neg hv] at hs
        rw [if_neg hv]
        exact hs
    have hok2 : ∀ v, VotesOk (st2 v).1 ∧ VotesOk (st2 v).2 := fun v =>
      hst2 v ▸ ite_both (fun p : Votes × Votes => VotesOk p.1 ∧ VotesOk p.2) hok' (hok v)
    have hsum : ∀ (π : Votes × Votes → Votes) (c : Int), votesTo k (π p') = votesTo k (π (st f)) + c →
        sumInt (V.map (fun v => votesTo k (π (st2 v)))) = sumInt (V.map (fun v => votesTo k (π (st v)))) + c := by
      intro π c h
      apply sum_update V hV f hfV
      intro v
      rw [hst2]
      by_cases hv : (f == v) = true
      · rw [if_pos hv, if_pos hv, ← eq_of_beq hv]
        exact h
      · rw [if_neg hv, if_neg hv]
    refine totalsOk_event k bb o vs hnd.1 d b _ (totals_nonneg k V st d b hok hd hb) (ih st2 _ _ hok2 hnd.2 hev' ?_ ?_)
    · rw [hsum Prod.fst _ (hval k).1]; exact Int.add_le_add_right hd _
    · rw [hsum Prod.snd _ (hval k).2]; exact Int.add_le_add_right hb _

/-- every Delegating / Bonding record has one entry per target and no negative amount -/
def recordsOk (m : List (Nat × Votes)) : Prop := ∀ e ∈ m, (e.2.map (·.1)).Nodup ∧ ∀ x ∈ e.2, 0 ≤ x.2

/-- **well-formed reward database and event list** (decidable, raw input only): non-negative bond
    requirement / fund / rates; one Voted record per owner with commission rate in [0,100%]; one
    Delegating / Bonding record per voter, each with one entry per target and no negative amount;
    every vote event names each target once; vote-event offsets non-decreasing and within the term;
    and the Voted records cover the voters' records: for every address `k`, Σ_voters delegation to
    `k` ≤ `delegated(k)` and Σ_voters bond to `k` ≤ `bonded(k)` (equalities in a consistent database). -/
def DatabaseWF (i : Input) : Prop :=
  0 ≤ i.br ∧ 0 ≤ i.iglobal ∧ 0 ≤ i.iprepRate ∧ 0 ≤ i.iwageRate ∧
  (i.voteds.map (·.owner)).Nodup ∧ (∀ r ∈ i.voteds, 0 ≤ r.rate ∧ r.rate ≤ 10000) ∧
  (i.delegating.map (·.1)).Nodup ∧ (i.bonding.map (·.1)).Nodup ∧
  recordsOk i.delegating ∧ recordsOk i.bonding ∧ eventVotesOk i.events = true ∧
  eventOffsetsOk i.offsetLimit 0 i.events = true ∧
  (∀ k ∈ prepKeys i,
    sumInt ((voterSet i).map (fun v => votesTo k (lookupVotes i.delegating v))) ≤ baseDelegated i k ∧
    sumInt ((voterSet i).map (fun v => votesTo k (lookupVotes i.bonding v))) ≤ baseBonded i k)

instance (i : Input) : Decidable (DatabaseWF i) := by unfold DatabaseWF recordsOk; infer_instance

theorem lookupVotes_ok (m : List (Nat × Votes)) (h : recordsOk m) (v : Nat) : VotesOk (lookupVotes m v) := by
  fun_cases lookupVotes m v with
  | case1 e hf => exact h e (List.mem_of_find?_eq_some hf)
  | case2 => exact ⟨.nil, nofun⟩

/-- a successful `Calculate`: `UpdateVoting` succeeded for every sender, and what is credited is
    commission + wage per P-Rep and `Voter.CalculateReward` per voter (nothing when nobody is elected) -/
theorem calculate_spec (i : Input) (r : Result) : calculate i = some r →
    (eventSenders i.events).all (updateVotingOk i) = true ∧
    r.totalCredited = if i.elected = 0 then 0 else
      sumInt ((finalPRepInfo i).preps.map fun p => p.commission + p.wage) +
        sumInt ((voterSet i).map fun v => voterCalc (finalPRepInfo i) (voterAV i v)) := by
  fun_cases calculate i with
  | case1 => nofun
  | case2 _ hs he =>
    rintro ⟨⟩
    exact ⟨Bool.not_eq_false' _ ▸ Bool.eq_false_iff.mpr hs, (if_pos he).symm⟩
  | case3 hs he =>
    rintro ⟨⟩
    rw [if_neg he]
    simp only [Result.totalCredited, List.map_map]
    exact ⟨Bool.not_eq_false' _ ▸ Bool.eq_false_iff.mpr hs, rfl⟩

end Goloop.C35.Proofs
