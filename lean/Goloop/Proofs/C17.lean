/-
  Proofs/C17: `set` on a leaf or an extension is described by a few equations over the split of the
  two keys at their common prefix `p` (`key_split`: `k = p ++ a`, and `ks` is `p` or goes on with a
  nibble `a` does not start with; `fork`, `wrap`);
  `get` through an extension obeys a small algebra (`get_ext_ext`, `get_ext_leaf`,
  `get_ext_ite`).  Refinement and normal form are both read off these, per operation in one
  statement (`set_spec`; `del_spec` for the dirty/not-dirty answer of `del`, `delete_spec` for `delete`).
  Canonicity (`nf_canonical`) rests on `nfn_branch_spread`: a normal-form branch holds two keys
  that start differently, a leaf or an extension does not.
-/
import Goloop.Proofs.C17Defs
namespace Goloop.C17

theorem cpl_append_append (p a b : List Nibble) : cpl (p ++ a) (p ++ b) = p.length + cpl a b := by
  induction p with
  | nil => simp
  | cons x p ih =>
    rw [List.cons_append, List.cons_append, cpl, if_pos rfl, ih, List.length_cons, Nat.add_right_comm]

theorem cpl_nil_right (k : List Nibble) : cpl k [] = 0 := by cases k <;> rfl

theorem cpl_append (p r : List Nibble) : cpl (p ++ r) p = p.length := by
  simpa [cpl_nil_right] using cpl_append_append p r []

-- `get`, `set`, `del` compare as `cpl k ks`, `getProof` and `walk` (Model/C18) as `cpl ks k`
theorem cpl_comm (a b : List Nibble) : cpl a b = cpl b a := by
  fun_induction cpl a b with
  | case1 as x bs ih => rw [cpl, if_pos rfl, ih]
  | case2 x as y bs h => rw [cpl, if_neg (Ne.symm h)]
  -- `cpl.eq_2`: the last equation of `cpl`, `cpl a b = 0` where not both are a cons
  | case3 a b h => exact (cpl.eq_2 b a fun y s x r hb ha => h x r y s ha hb).symm

theorem cpl_append' (p r : List Nibble) : cpl p (p ++ r) = p.length := by
  rw [cpl_comm, cpl_append]

theorem cpl_self (p : List Nibble) : cpl p p = p.length := by
  simpa using cpl_append p []

/-- `k` against the keys `ks` of a node, split at their common prefix `p`: either `ks` is used up
    (a prefix of `k`), or it goes on with a nibble `y` with which the rest of `k` does not start -/
theorem key_split (k ks : List Nibble) :
    ∃ p a, k = p ++ a ∧ (ks = p ∨ ∃ y s, ks = p ++ y :: s ∧ a.head? ≠ some y) := by
  fun_induction cpl k ks with
  | case1 as x bs ih =>
    obtain ⟨p, a, rfl, h⟩ := ih
    refine ⟨x :: p, a, rfl, h.imp (congrArg _) ?_⟩
    rintro ⟨y, s, rfl, hy⟩
    exact ⟨y, s, rfl, hy⟩
  | case2 x as y bs h => exact ⟨[], _, rfl, Or.inr ⟨y, bs, rfl, by simpa using h⟩⟩
  | case3 k ks h =>
    cases ks with
    | nil => exact ⟨[], k, rfl, Or.inl rfl⟩
    | cons y s =>
      cases k with
      | nil => exact ⟨[], [], rfl, Or.inr ⟨y, s, rfl, nofun⟩⟩
      | cons x r => exact (h x r y s rfl rfl).elim

theorem cpl_of_head_ne (p a : List Nibble) (y : Nibble) (s : List Nibble) (h : a.head? ≠ some y) :
    cpl (p ++ a) (p ++ y :: s) = p.length := by
  rw [cpl_append_append]
  cases a with
  | nil => rfl
  | cons x r => simp [cpl, show x ≠ y by simpa using h]

theorem cpl_lt_of_not_prefix {k ks : List Nibble} (h : ¬ ks <+: k) : cpl k ks < ks.length := by
  obtain ⟨p, a, rfl, rfl | ⟨y, s, rfl, hy⟩⟩ := key_split k ks
  · exact absurd (List.prefix_append _ _) h
  · rw [cpl_of_head_ne p a y s hy]; simp

theorem prefix_of_cpl {k ks : List Nibble} (h : ¬ cpl k ks < ks.length) : ks <+: k :=
  Classical.not_not.1 fun hp => h (cpl_lt_of_not_prefix hp)

theorem hiNib_pack (a b : Nibble) : hiNib (UInt8.ofNat (a.val * 16 + b.val)) = a :=
  Fin.ext (nibbles_of_byte a.isLt b.isLt).1

theorem loNib_pack (a b : Nibble) : loNib (UInt8.ofNat (a.val * 16 + b.val)) = b :=
  Fin.ext (nibbles_of_byte a.isLt b.isLt).2

theorem ofNat_hi_lo (b : UInt8) : UInt8.ofNat ((hiNib b).val * 16 + (loNib b).val) = b :=
  byte_of_nibbles b

@[simp] theorem get_empty (k : List Nibble) : get .empty k = none := by
  cases k <;> rfl

theorem get_leaf (ks : List Nibble) (v : Bytes) (k : List Nibble) :
    get (.leaf ks v) k = if k = ks then some v else none := by
  cases k <;> rfl

@[simp] theorem get_branch_nil (ch : Fin 16 → Node) (v : Option Bytes) : get (.branch ch v) [] = v := rfl
@[simp] theorem get_branch_cons (ch : Fin 16 → Node) (v : Option Bytes) (i : Nibble) (r : List Nibble) :
    get (.branch ch v) (i :: r) = get (ch i) r := rfl

theorem get_ext (p : List Nibble) (n : Node) (k : List Nibble) :
    get (.ext p n) k = if p <+: k then get n (k.drop p.length) else none := by
  rw [get]
  by_cases hp : p <+: k
  · obtain ⟨t, rfl⟩ := hp
    rw [cpl_append, if_neg (Nat.lt_irrefl _), if_pos (List.prefix_append p t)]
  · rw [if_pos (cpl_lt_of_not_prefix hp), if_neg hp]

theorem get_ext_append (p : List Nibble) (n : Node) (t : List Nibble) :
    get (.ext p n) (p ++ t) = get n t := by
  simp [get_ext]

theorem get_ext_of_not_prefix {p k : List Nibble} (n : Node) (h : ¬ p <+: k) :
    get (.ext p n) k = none := by
  rw [get_ext, if_neg h]

theorem eq_append_iff (p k a : List Nibble) : k = p ++ a ↔ (p <+: k ∧ k.drop p.length = a) := by
  constructor
  · rintro rfl; simp
  · rintro ⟨⟨r, rfl⟩, h⟩
    simp at h; rw [h]

theorem get_ext_ite (p a : List Nibble) (x : Option Bytes) (n m : Node)
    (h : ∀ k, get n k = if k = a then x else get m k) (k' : List Nibble) :
    get (.ext p n) k' = if k' = p ++ a then x else get (.ext p m) k' := by
  by_cases hp : p <+: k'
  · obtain ⟨t, rfl⟩ := hp
    simp [get_ext_append, h]
  · have : k' ≠ p ++ a := by rintro rfl; exact hp (List.prefix_append p a)
    rw [if_neg this, get_ext_of_not_prefix n hp, get_ext_of_not_prefix m hp]

theorem get_ext_congr (p : List Nibble) (n m : Node) (h : ∀ k, get n k = get m k) (k' : List Nibble) :
    get (.ext p n) k' = get (.ext p m) k' := by
  rw [get_ext, get_ext, h]

theorem get_ext_ext (p q : List Nibble) (n : Node) (k : List Nibble) :
    get (.ext p (.ext q n)) k = get (.ext (p ++ q) n) k := by
  by_cases hp : p <+: k
  · obtain ⟨t, rfl⟩ := hp
    rw [get_ext_append, get_ext, get_ext]
    simp [List.prefix_append_right_inj]
  · rw [get_ext_of_not_prefix _ hp,
      get_ext_of_not_prefix _ (fun h => hp ((List.prefix_append p q).trans h))]

theorem get_ext_leaf (p s : List Nibble) (v : Bytes) (k : List Nibble) :
    get (.ext p (.leaf s v)) k = get (.leaf (p ++ s) v) k := by
  by_cases hp : p <+: k
  · obtain ⟨t, rfl⟩ := hp
    simp [get_ext_append, get_leaf]
  · have : k ≠ p ++ s := by rintro rfl; exact hp (List.prefix_append p s)
    rw [get_ext_of_not_prefix _ hp, get_leaf, if_neg this]

theorem get_ext_one (y : Nibble) (c : Node) (i : Nibble) (t : List Nibble) :
    get (.ext [y] c) (i :: t) = if i = y then get c t else none := by
  by_cases h : i = y
  · subst h; simpa using get_ext_append [i] c t
  · rw [if_neg h, get_ext_of_not_prefix]; simpa [eq_comm] using h

@[simp] theorem upd_same (ch : Fin 16 → Node) (i : Fin 16) (c : Node) : upd ch i c i = c := by simp [upd]
theorem upd_ne {ch : Fin 16 → Node} {i j : Fin 16} {c : Node} (h : j ≠ i) : upd ch i c j = ch j := by
  simp [upd, h]
@[simp] theorem noCh_apply (i : Fin 16) : noCh i = .empty := rfl

theorem upd_comm (ch : Fin 16 → Node) (i j : Fin 16) (a b : Node) (h : i ≠ j) :
    upd (upd ch i a) j b = upd (upd ch j b) i a := by
  funext k
  unfold upd
  by_cases h1 : k = j
  · rw [if_pos h1, if_neg (h1 ▸ Ne.symm h), if_pos h1]
  · rw [if_neg h1, if_neg h1]

theorem get_branch_ite (ch : Fin 16 → Node) (v : Option Bytes) (i : Fin 16) (r : List Nibble)
    (x : Option Bytes) (c : Node) (h : ∀ k, get c k = if k = r then x else get (ch i) k)
    (k' : List Nibble) :
    get (.branch (upd ch i c) v) k' = if k' = i :: r then x else get (.branch ch v) k' := by
  cases k' with
  | nil => simp
  | cons j r' =>
    by_cases hj : j = i
    · subst hj; simp [h]
    · simp [upd_ne hj, hj]

theorem Node.size_pos (t : Node) : 0 < t.size := by
  cases t <;> exact Nat.succ_pos _

/-- a fresh branch holding `o` under the key `a` and the node `c` under the nibble `y` -/
def fork (a : List Nibble) (o : Bytes) (y : Nibble) (c : Node) : Node :=
  .branch (upd (putNew (noCh, none) a o).1 y c) (putNew (noCh, none) a o).2

/-- an extension whose keys may be empty, in which case it is the next node itself -/
def wrap (p : List Nibble) (n : Node) : Node := if p = [] then n else .ext p n

theorem putNew_upd (a : List Nibble) (o : Bytes) (y : Nibble) (c : Node) (h : a.head? ≠ some y) :
    Node.branch (putNew (upd noCh y c, none) a o).1 (putNew (upd noCh y c, none) a o).2 =
      fork a o y c := by
  cases a with
  | nil => rfl
  | cons x r => simp only [putNew, fork, upd_comm _ _ _ _ _ (show x ≠ y by simpa using h)]

theorem set_leaf_same (p : List Nibble) (v o : Bytes) : set (.leaf p v) p o = .leaf p o := by
  simp [set, cpl_self]

theorem set_leaf_longer (p : List Nibble) (x : Nibble) (r : List Nibble) (v o : Bytes) :
    set (.leaf p v) (p ++ x :: r) o = wrap p (fork [] v x (.leaf r o)) := by
  simp only [set, cpl_append]
  cases p <;> simp [wrap, fork, putNew]

theorem set_leaf_fork {p a : List Nibble} {y : Nibble} {s : List Nibble} {v o : Bytes}
    (h : a.head? ≠ some y) :
    set (.leaf (p ++ y :: s) v) (p ++ a) o = wrap p (fork a o y (.leaf s v)) := by
  have ha : a ≠ y :: s := by rintro rfl; exact h rfl
  simp only [set, cpl_of_head_ne p a y s h]
  cases p <;> simp [ha, wrap, fork]

theorem set_ext_descend (p a : List Nibble) (nx : Node) (o : Bytes) (hp : p ≠ []) :
    set (.ext p nx) (p ++ a) o = .ext p (set nx a o) := by
  simp [set, cpl_append, hp]

theorem set_ext_fork {p a : List Nibble} {y : Nibble} {s : List Nibble} {nx : Node} {o : Bytes}
    (h : a.head? ≠ some y) :
    set (.ext (p ++ y :: s) nx) (p ++ a) o = wrap p (fork a o y (wrap s nx)) := by
  simp only [set, cpl_of_head_ne p a y s h]
  cases p with
  | nil => cases s <;> rfl
  | cons q p =>
    simp [show wrap (q :: p) = Node.ext (q :: p) from rfl, ← putNew_upd _ _ _ _ h]
    -- left: the two components of `putNew`, where the model's `if s = [] then nx else .ext s nx` is `wrap s nx`
    exact ⟨rfl, rfl⟩

theorem get_wrap (p : List Nibble) (n : Node) (k : List Nibble) :
    get (wrap p n) k = get (.ext p n) k := by
  fun_cases wrap p n with
  | case1 h => simp [h, get_ext]
  | case2 => rfl

theorem get_fork (a : List Nibble) (o : Bytes) (y : Nibble) (c : Node) (h : a.head? ≠ some y)
    (k : List Nibble) :
    get (fork a o y c) k = if k = a then some o else get (.ext [y] c) k := by
  cases k with
  | nil => cases a <;> simp [fork, putNew, get_ext]
  | cons i t =>
    rw [fork, get_branch_cons, get_ext_one]
    by_cases hi : i = y
    · subst hi
      have : i :: t ≠ a := by rintro rfl; exact h rfl
      rw [upd_same, if_neg this, if_pos rfl]
    · rw [upd_ne hi, if_neg hi]
      cases a with
      | nil => simp [putNew]
      | cons x r =>
        by_cases hx : i = x
        · subst hx; simp [putNew, get_leaf]
        · simp [putNew, upd_ne hx, hx]

theorem isEmpty_iff (n : Node) : n.isEmpty = true ↔ n = .empty := by
  cases n <;> simp [Node.isEmpty]

theorem mem_live (ch : Fin 16 → Node) (i : Fin 16) : i ∈ live ch ↔ ch i ≠ .empty := by
  simp [live, List.mem_filter, List.mem_finRange, ← isEmpty_iff]

theorem not_live (ch : Fin 16 → Node) (i : Fin 16) (h : i ∉ live ch) : ch i = .empty :=
  Classical.byContradiction fun hne => h ((mem_live ch i).2 hne)

theorem get_branch_single (ch : Fin 16 → Node) (i : Fin 16) (hl : live ch = [i])
    (k : List Nibble) : get (.branch ch none) k = get (.ext [i] (ch i)) k := by
  cases k with
  | nil => simp [get_ext]
  | cons j r =>
    rw [get_branch_cons, get_ext_one]
    by_cases hj : j = i
    · rw [if_pos hj, hj]
    · rw [if_neg hj, not_live ch j (by simp [hl, hj]), get_empty]

theorem get_collapse (ch : Fin 16 → Node) (v : Option Bytes) (k' : List Nibble) :
    get (collapse ch v) k' = get (.branch ch v) k' := by
  -- by what is live: no child (1 a value, 2 nothing); one child (3 beside a value; alone: 4 an extension,
  -- 5 a branch, 6 a leaf, 7 nil); 8 more
  fun_cases collapse ch v with
  | case2 | case3 | case7 | case8 => rfl
  | case1 hl x =>
    cases k' with
    | nil => simp [get_leaf]
    | cons j r => simp [get_leaf, not_live ch j (by simp [hl])]
  | case4 i hl ks n he => rw [get_branch_single ch i hl, he, get_ext_ext]; rfl
  | case5 i hl c w he => rw [get_branch_single ch i hl, he]
  | case6 i hl ks x he => rw [get_branch_single ch i hl, he, get_ext_leaf]; rfl

/-- what `extension.delete` makes of its keys and the node its next node has become -/
def graft (ks : List Nibble) : Node → Node
  | .empty => .empty
  | .ext ks2 n2 => .ext (ks ++ ks2) n2
  | .leaf ks2 v2 => .leaf (ks ++ ks2) v2
  | .branch c w => .ext ks (.branch c w)

theorem del_ext (ks : List Nibble) (nx : Node) (k : List Nibble) :
    del (.ext ks nx) k =
      if cpl k ks < ks.length then none else (del nx (k.drop (cpl k ks))).map (graft ks) := by
  rw [del]
  rcases del nx (k.drop (cpl k ks)) with _ | _ | _ | _ | _ <;> rfl

theorem get_graft (ks : List Nibble) (c : Node) (k : List Nibble) :
    get (graft ks c) k = get (.ext ks c) k := by
  cases c with
  | empty => simp [graft, get_ext]
  | leaf ks2 v2 => exact (get_ext_leaf ks ks2 v2 k).symm
  | ext ks2 n2 => exact (get_ext_ext ks ks2 n2 k).symm
  | branch c w => rfl

theorem upd_self (ch : Fin 16 → Node) (i : Fin 16) : upd ch i (ch i) = ch := by
  funext j
  unfold upd
  split
  · next h => rw [h]
  · rfl

theorem NFn_ne_empty (t : Node) (h : NFn t) : t ≠ .empty := by
  rintro rfl; exact h

theorem NFn_branch_of (ch : Fin 16 → Node) (v : Option Bytes)
    (hch : ∀ i, ch i = .empty ∨ NFn (ch i)) (har : 2 ≤ branchArity ch v) : NFn (.branch ch v) :=
  ⟨hch, har⟩

theorem arity_two_children (ch : Fin 16 → Node) (v : Option Bytes) (x y : Fin 16) (hxy : x ≠ y)
    (hx : ch x ≠ .empty) (hy : ch y ≠ .empty) : 2 ≤ branchArity ch v := by
  exact Nat.le_trans (List.Nodup.length_le_of_subset (l₁ := [x, y]) (by simpa using hxy)
    (by simp [mem_live, hx, hy])) (Nat.le_add_right _ _)

theorem arity_child_value (ch : Fin 16 → Node) (o : Bytes) (x : Fin 16)
    (hx : ch x ≠ .empty) : 2 ≤ branchArity ch (some o) := by
  exact Nat.succ_le_succ (List.length_pos_of_mem ((mem_live ch x).2 hx))

theorem nf_upd {ch : Fin 16 → Node} {i : Fin 16} {c : Node} (hch : ∀ j, ch j = .empty ∨ NFn (ch j))
    (hc : c = .empty ∨ NFn c) : ∀ j, upd ch i c j = .empty ∨ NFn (upd ch i c j) := by
  intro j
  by_cases h : j = i
  · subst h; simpa using hc
  · rw [upd_ne h]; exact hch j

theorem nf_noCh : ∀ j, noCh j = .empty ∨ NFn (noCh j) := fun _ => Or.inl rfl

theorem nfn_fork (a : List Nibble) (o : Bytes) (y : Nibble) (c : Node) (h : a.head? ≠ some y)
    (hc : NFn c) : NFn (fork a o y c) := by
  have hy : upd (putNew (noCh, none) a o).1 y c y ≠ .empty := by simpa using NFn_ne_empty c hc
  cases a with
  | nil => exact ⟨nf_upd nf_noCh (Or.inr hc), arity_child_value _ _ y hy⟩
  | cons x r =>
    have hxy : x ≠ y := by simpa using h
    exact ⟨nf_upd (nf_upd nf_noCh (Or.inr trivial)) (Or.inr hc),
      arity_two_children _ _ x y hxy (by simp [putNew, upd_ne hxy]) hy⟩

theorem nfn_wrap (p : List Nibble) (n : Node) (hb : ∃ c w, n = .branch c w) (hn : NFn n) :
    NFn (wrap p n) := by
  fun_cases wrap p n with
  | case1 => exact hn
  | case2 h => exact ⟨h, hb, hn⟩

theorem set_branch_is_branch (ch : Fin 16 → Node) (v : Option Bytes) (k : List Nibble) (o : Bytes) :
    ∃ c w, set (.branch ch v) k o = .branch c w := by
  cases k <;> exact ⟨_, _, rfl⟩

theorem live_nodup (ch : Fin 16 → Node) : (live ch).Nodup :=
  List.Pairwise.filter _ (List.nodup_finRange 16)

theorem live_upd_ge (ch : Fin 16 → Node) (i : Fin 16) (c : Node) (hc : c ≠ .empty) :
    (live ch).length ≤ (live (upd ch i c)).length :=
  (live_nodup ch).length_le_of_subset fun j hj => (mem_live _ j).2 (by
    by_cases h : j = i
    · subst h; simpa using hc
    · rw [upd_ne h]; exact (mem_live ch j).1 hj)

theorem set_spec (t : Node) (h : NF t) (k : List Nibble) (o : Bytes) :
    NFn (set t k o) ∧ ∀ k', get (set t k o) k' = if k' = k then some o else get t k' := by
  induction t generalizing k with
  | empty => exact ⟨trivial, fun k' => by rw [get_empty]; exact get_leaf k o k'⟩
  | leaf ks v =>
    obtain ⟨p, a, rfl, rfl | ⟨y, s, rfl, hy⟩⟩ := key_split k ks
    · cases a with
      | nil =>
        rw [List.append_nil, set_leaf_same]
        exact ⟨trivial, fun k' => by by_cases hk : k' = ks <;> simp [get_leaf, hk]⟩
      | cons x r =>
        rw [set_leaf_longer]
        refine ⟨nfn_wrap ks _ ⟨_, _, rfl⟩ (nfn_fork [] v x _ (by simp) trivial), fun k' => ?_⟩
        rw [get_wrap, get_ext_ite ks [] (some v) _ _ (get_fork [] v x _ (by simp)), get_ext_ext,
          get_ext_leaf]
        simp only [get_leaf, List.append_nil, List.append_assoc, List.singleton_append]
        by_cases hk : k' = ks
        · simp [hk]
        · simp [hk]
    · rw [set_leaf_fork hy]
      refine ⟨nfn_wrap p _ ⟨_, _, rfl⟩ (nfn_fork a o y _ hy trivial), fun k' => ?_⟩
      rw [get_wrap, get_ext_ite p a (some o) _ _ (get_fork a o y _ hy), get_ext_ext, get_ext_leaf]
      simp
  | ext ks nx ih =>
    obtain ⟨hks, hb, hnx⟩ := h.resolve_left nofun
    obtain ⟨p, a, rfl, rfl | ⟨y, s, rfl, hy⟩⟩ := key_split k ks
    · rw [set_ext_descend ks a nx o hks]
      obtain ⟨hn, hg⟩ := ih (Or.inr hnx) a
      obtain ⟨c, w, rfl⟩ := hb
      exact ⟨⟨hks, set_branch_is_branch c w a o, hn⟩, get_ext_ite ks a (some o) _ _ hg⟩
    · rw [set_ext_fork hy]
      refine ⟨nfn_wrap p _ ⟨_, _, rfl⟩ (nfn_fork a o y _ hy (nfn_wrap s nx hb hnx)), fun k' => ?_⟩
      rw [get_wrap, get_ext_ite p a (some o) _ _ (get_fork a o y _ hy),
        get_ext_congr p _ _ (get_ext_congr [y] _ _ (get_wrap s nx)), get_ext_ext, get_ext_ext]
      simp
  | branch ch v ih =>
    obtain ⟨hch, har⟩ := h.resolve_left nofun
    cases k with
    | nil =>
      refine ⟨⟨hch, ?_⟩, fun k' => by cases k' <;> rfl⟩
      cases v with
      | some x => exact har
      | none => exact Nat.le_succ_of_le har
    | cons i r =>
      obtain ⟨hc, hg⟩ := ih i (hch i) r
      exact ⟨⟨nf_upd hch (Or.inr hc),
        Nat.le_trans har (Nat.add_le_add_right (live_upd_ge ch i _ (NFn_ne_empty _ hc)) _)⟩,
        get_branch_ite ch v i r (some o) _ hg⟩

theorem two_live (ch : Fin 16 → Node) (h : 2 ≤ (live ch).length) :
    ∃ a b, a ≠ b ∧ ch a ≠ .empty ∧ ch b ≠ .empty := by
  have hnd := live_nodup ch
  match hl : live ch with
  | [] | [_] => simp [hl] at h
  | a :: b :: l =>
    rw [hl] at hnd
    exact ⟨a, b, fun e => by simp [e] at hnd, (mem_live ch a).1 (by simp [hl]),
      (mem_live ch b).1 (by simp [hl])⟩

theorem arity_upd (ch : Fin 16 → Node) (v : Option Bytes) (i : Fin 16) (c : Node)
    (har : 2 ≤ branchArity ch v) : 1 ≤ branchArity (upd ch i c) v := by
  cases v with
  | some x => exact Nat.le_add_left 1 _
  | none =>
    obtain ⟨a, b, hab, ha, hb⟩ := two_live ch har
    obtain ⟨j, hj, hji⟩ : ∃ j, ch j ≠ .empty ∧ j ≠ i := by
      by_cases e : a = i
      · exact ⟨b, hb, fun e' => hab (e.trans e'.symm)⟩
      · exact ⟨a, ha, e⟩
    exact List.length_pos_of_mem ((mem_live (upd ch i c) j).2 (by rwa [upd_ne hji]))

/-- a branch that still holds something does not reach the "Value is nil" panic of `branch.delete` -/
theorem holds_of_arity (ch : Fin 16 → Node) (v : Option Bytes) (har : 1 ≤ branchArity ch v) :
    ((live ch).isEmpty && v.isNone) = false := by
  cases v with
  | some x => exact Bool.and_false _
  | none =>
    cases hl : live ch with
    | nil => simp [branchArity, hl] at har
    | cons i l => rfl

theorem nfn_collapse (ch : Fin 16 → Node) (v : Option Bytes)
    (hch : ∀ j, ch j = .empty ∨ NFn (ch j)) (har : 1 ≤ branchArity ch v) : NFn (collapse ch v) := by
  -- by what is live: no child (a value / nothing); one child (beside a value / alone, by its kind); more
  fun_cases collapse ch v with
  | case1 | case6 => trivial
  | case2 hl => simp [branchArity, hl] at har
  | case3 i hl x => exact ⟨hch, by simp [branchArity, hl]⟩
  | case4 i hl ks n he => exact ⟨by simp, ((he ▸ hch i).resolve_left nofun).2⟩
  | case5 i hl c w he => exact ⟨by simp, ⟨_, _, rfl⟩, (he ▸ hch i).resolve_left nofun⟩
  | case7 i hl he => exact absurd he ((mem_live ch i).1 (by simp [hl]))
  | case8 v h0 h1 =>
    match hl : live ch with
    | [] => exact absurd hl h0
    | [i] => exact absurd hl (h1 i)
    | _ :: _ :: _ => exact ⟨hch, by simp [branchArity, hl]; omega⟩

theorem nf_graft (ks : List Nibble) (c : Node) (hks : ks ≠ []) (h : NF c) : NF (graft ks c) := by
  rcases h with rfl | h
  · exact Or.inl rfl
  · cases c with
    | empty => exact Or.inl rfl
    | leaf ks2 v2 => exact Or.inr trivial
    | ext ks2 n2 => exact Or.inr ⟨by simp [hks], h.2.1, h.2.2⟩
    | branch c w => exact Or.inr ⟨hks, ⟨_, _, rfl⟩, h⟩

theorem del_spec (t : Node) (k : List Nibble) :
    match del t k with
    | none => get t k = none
    | some c => (NF t → NF c) ∧ ∀ k', get c k' = if k' = k then none else get t k' := by
  induction t generalizing k with
  | empty => exact get_empty k
  | leaf ks v =>
    rw [del]
    by_cases h : k = ks
    · rw [if_pos h]; exact ⟨fun _ => Or.inl rfl, fun k' => by simp [h, get_leaf]⟩
    · rw [if_neg h]; exact (get_leaf ks v k).trans (if_neg h)
  | ext ks nx ih =>
    rw [del_ext]
    by_cases hp : ks <+: k
    · obtain ⟨r, rfl⟩ := hp
      rw [cpl_append, if_neg (Nat.lt_irrefl _), List.drop_left]
      have h := ih r
      revert h
      cases del nx r with
      | none => exact (get_ext_append ks nx r).trans
      | some c =>
        refine fun ⟨hn, hg⟩ => ⟨fun h => ?_, fun k' =>
          (get_graft ks c k').trans (get_ext_ite ks r none c nx hg k')⟩
        obtain ⟨hks, _, hnx⟩ := h.resolve_left nofun
        exact nf_graft ks c hks (hn (Or.inr hnx))
    · rw [if_pos (cpl_lt_of_not_prefix hp)]; exact get_ext_of_not_prefix nx hp
  | branch ch v ih =>
    cases k with
    | nil =>
      cases v with
      | none => exact rfl
      | some x =>
        refine ⟨fun h => ?_, fun k' => (get_collapse ch none k').trans (by cases k' <;> rfl)⟩
        obtain ⟨hch, har⟩ := h.resolve_left nofun
        exact Or.inr (nfn_collapse ch none hch (Nat.le_of_succ_le_succ har))
    | cons i r =>
      rw [del]
      by_cases he : (ch i).isEmpty = true
      · rw [if_pos he, get_branch_cons, (isEmpty_iff _).1 he]; exact get_empty r
      · rw [if_neg he]
        have h := ih i r
        revert h
        cases del (ch i) r with
        | none => exact id
        | some c =>
          refine fun ⟨hn, hg⟩ => ⟨fun h => ?_, fun k' =>
            (get_collapse _ v k').trans (get_branch_ite ch v i r none c hg k')⟩
          obtain ⟨hch, har⟩ := h.resolve_left nofun
          exact Or.inr (nfn_collapse _ v (nf_upd hch (hn (hch i))) (arity_upd ch v i c har))

theorem delete_spec (t : Node) (k : List Nibble) :
    (NF t → NF (delete t k)) ∧ ∀ k', get (delete t k) k' = if k' = k then none else get t k' := by
  have h := del_spec t k
  unfold delete
  revert h
  cases del t k with
  | none =>
    refine fun h => ⟨id, fun k' => ?_⟩
    by_cases e : k' = k
    · rw [if_pos e, e]; exact h
    · rw [if_neg e]; rfl
  | some c => exact id

theorem nf_del_no_panic (t : Node) (h : NF t) (k : List Nibble) : delPanics t k = false := by
  -- paths on which no branch loses anything; through an extension; a branch loses its value; a child
  fun_induction delPanics t k with
  | case1 | case2 | case3 | case5 | case7 => rfl
  | case4 ks nx k _ ih => exact ih (Or.inr (h.resolve_left nofun).2.2)
  | case6 ch x => simpa using holds_of_arity ch none (Nat.le_of_succ_le_succ (h.resolve_left nofun).2)
  | case8 ch v i r _ ih =>
    obtain ⟨hch, har⟩ := h.resolve_left nofun
    rw [ih (hch i), Bool.false_or]
    cases del (ch i) r with
    | none => rfl
    | some c => exact holds_of_arity _ v (arity_upd ch v i c har)

theorem nfn_has_key (t : Node) (h : NFn t) : ∃ k v, get t k = some v := by
  induction t with
  | empty => exact h.elim
  | leaf ks v => exact ⟨ks, v, (get_leaf ks v ks).trans (if_pos rfl)⟩
  | ext ks nx ih =>
    obtain ⟨k, v, hk⟩ := ih h.2.2
    exact ⟨ks ++ k, v, (get_ext_append ks nx k).trans hk⟩
  | branch ch v ih =>
    obtain ⟨hch, har⟩ := h
    cases hl : live ch with
    | nil =>
      unfold branchArity at har; rw [hl] at har
      cases v <;> simp at har
    | cons i l =>
      have hi : i ∈ live ch := by simp [hl]
      obtain ⟨k, w, hk⟩ := ih i ((hch i).resolve_left ((mem_live ch i).1 hi))
      exact ⟨i :: k, w, by simpa using hk⟩

/-- a normal-form branch has no common first nibble: it holds two keys that start differently
    (one of them may be the empty key) -/
theorem nfn_branch_spread (ch : Fin 16 → Node) (v : Option Bytes) (h : NFn (.branch ch v)) :
    ∃ k₁ k₂ v₁ v₂, k₁.head? ≠ k₂.head? ∧
      get (.branch ch v) k₁ = some v₁ ∧ get (.branch ch v) k₂ = some v₂ := by
  obtain ⟨hch, har⟩ := h
  have key : ∀ i, ch i ≠ .empty → ∃ k w, get (.branch ch v) (i :: k) = some w := fun i hi =>
    nfn_has_key _ ((hch i).resolve_left hi)
  cases v with
  | some x =>
    cases hl : live ch with
    | nil => unfold branchArity at har; rw [hl] at har; simp at har
    | cons i l =>
      obtain ⟨k, w, hk⟩ := key i ((mem_live ch i).1 (by simp [hl]))
      exact ⟨[], i :: k, x, w, nofun, rfl, hk⟩
  | none =>
    obtain ⟨i, j, hij, hi, hj⟩ := two_live ch (by simpa [branchArity] using har)
    obtain ⟨k, w, hk⟩ := key i hi
    obtain ⟨k', w', hk'⟩ := key j hj
    exact ⟨i :: k, j :: k', w, w', by simpa using hij, hk, hk'⟩

theorem prefix_of_both (ks ks' a b : List Nibble) (hab : a.head? ≠ b.head?)
    (h1 : ks' <+: ks ++ a) (h2 : ks' <+: ks ++ b) : ks' <+: ks := by
  rcases List.prefix_or_prefix_of_prefix h1 (List.prefix_append ks a) with h | ⟨c, rfl⟩
  · exact h
  · rw [List.prefix_append_right_inj] at h1 h2
    cases c with
    | nil => simp
    | cons d c =>
      obtain ⟨_, rfl⟩ := h1
      obtain ⟨_, rfl⟩ := h2
      exact absurd rfl hab

theorem ext_key_prefix (ks : List Nibble) (nx : Node) (k : List Nibble) (v : Bytes)
    (h : get (.ext ks nx) k = some v) : ks <+: k := by
  rw [get_ext] at h
  by_cases hp : ks <+: k
  · exact hp
  · simp [hp] at h

/-- an extension that agrees, below `ks`, with a normal-form branch has its keys inside `ks`: the two
    keys of the branch that start differently both pass through it -/
theorem ext_keys_prefix_of_branch (c : Fin 16 → Node) (w : Option Bytes) (hn : NFn (.branch c w))
    (ks ks' : List Nibble) (nx' : Node)
    (he : ∀ k, get (.branch c w) k = get (.ext ks' nx') (ks ++ k)) : ks' <+: ks := by
  obtain ⟨k₁, k₂, v₁, v₂, hne, h₁, h₂⟩ := nfn_branch_spread c w hn
  exact prefix_of_both ks ks' k₁ k₂ hne (ext_key_prefix ks' nx' _ v₁ ((he k₁).symm.trans h₁))
    (ext_key_prefix ks' nx' _ v₂ ((he k₂).symm.trans h₂))

theorem ext_keys_prefix_of_ext (ks : List Nibble) (nx : Node) (h : NFn (.ext ks nx)) (ks' : List Nibble)
    (nx' : Node) (he : ∀ k, get (.ext ks nx) k = get (.ext ks' nx') k) : ks' <+: ks := by
  obtain ⟨_, ⟨c, w, rfl⟩, hn⟩ := h
  exact ext_keys_prefix_of_branch c w hn ks ks' nx' fun k => (get_ext_append ks _ k).symm.trans (he _)

/-- a leaf holds one key, a normal-form branch two that start differently -/
theorem leaf_ne_branch (ks : List Nibble) (v : Bytes) (c : Fin 16 → Node) (w : Option Bytes)
    (hn : NFn (.branch c w)) (p : List Nibble)
    (he : ∀ k, get (.branch c w) k = get (.leaf ks v) (p ++ k)) : False := by
  obtain ⟨k₁, k₂, v₁, v₂, hne, h₁, h₂⟩ := nfn_branch_spread c w hn
  rw [he, get_leaf] at h₁ h₂
  exact hne (congrArg _ (List.append_cancel_left
    ((Option.ite_none_right_eq_some.1 h₁).1.trans (Option.ite_none_right_eq_some.1 h₂).1.symm)))

theorem ext_ne_branch (ks : List Nibble) (nx : Node) (ch : Fin 16 → Node) (v : Option Bytes)
    (hks : ks ≠ []) (hb : NFn (.branch ch v))
    (he : ∀ k, get (.ext ks nx) k = get (.branch ch v) k) : False :=
  hks (List.prefix_nil.1 (ext_keys_prefix_of_branch ch v hb [] ks nx fun k => (he k).symm))

theorem nf_empty_of_get (t : Node) (h : NF t) (he : ∀ k, get t k = get .empty k) : t = .empty :=
  h.resolve_right fun hn => by
    obtain ⟨k, w, hk⟩ := nfn_has_key t hn
    rw [he, get_empty] at hk
    cases hk

theorem nf_canonical (t1 t2 : Node) (h1 : NF t1) (h2 : NF t2)
    (he : ∀ k, get t1 k = get t2 k) : t1 = t2 := by
  induction t1 generalizing t2 with
  | empty => exact (nf_empty_of_get t2 h2 fun k => (he k).symm).symm
  | leaf ks v =>
    rcases h2 with rfl | n2
    · exact nf_empty_of_get _ h1 he
    cases t2 with
    | empty => exact n2.elim
    | leaf ks' v' =>
      have := he ks
      simp [get_leaf] at this
      by_cases e : ks = ks'
      · subst e; simp at this; rw [this]
      · simp [e] at this
    | ext ks' nx' =>
      obtain ⟨_, ⟨c, w, rfl⟩, hn⟩ := n2
      exact (leaf_ne_branch ks v c w hn ks' fun k => (get_ext_append ks' _ k).symm.trans (he _).symm).elim
    | branch ch' v' => exact (leaf_ne_branch ks v ch' v' n2 [] fun k => (he k).symm).elim
  | ext ks nx ih =>
    have n1 := h1.resolve_left nofun
    rcases h2 with rfl | n2
    · exact nf_empty_of_get _ h1 he
    cases t2 with
    | empty => exact n2.elim
    | leaf ks' v' =>
      obtain ⟨_, ⟨c, w, rfl⟩, hn⟩ := n1
      exact (leaf_ne_branch ks' v' c w hn ks fun k => (get_ext_append ks _ k).symm.trans (he _)).elim
    | ext ks' nx' =>
      have p1 : ks' <+: ks := ext_keys_prefix_of_ext ks nx n1 ks' nx' he
      have p2 : ks <+: ks' := ext_keys_prefix_of_ext ks' nx' n2 ks nx fun k => (he k).symm
      cases p2.eq_of_length_le p1.length_le
      rw [ih nx' (Or.inr n1.2.2) (Or.inr n2.2.2) (fun r => by simpa [get_ext] using he (ks ++ r))]
    | branch ch' v' => exact (ext_ne_branch ks nx ch' v' n1.1 n2 he).elim
  | branch ch v ih =>
    have n1 := h1.resolve_left nofun
    rcases h2 with rfl | n2
    · exact nf_empty_of_get _ h1 he
    cases t2 with
    | empty => exact n2.elim
    | leaf ks' v' => exact (leaf_ne_branch ks' v' ch v n1 [] he).elim
    | ext ks' nx' => exact (ext_ne_branch ks' nx' ch v n2.1 n1 (fun k => (he k).symm)).elim
    | branch ch' v' =>
      have hv : v = v' := by simpa using he []
      have hc : ch = ch' := funext fun i =>
        ih i (ch' i) (n1.1 i) (n2.1 i) fun r => by simpa using he (i :: r)
      rw [hv, hc]

end Goloop.C17
