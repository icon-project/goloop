/-
  Proofs/Intconv: the byte codecs of common/intconv as modelled in Model/C24, core Lean only, so that every
  property whose model repeats these functions can rest on it (C22 and C12 directly, C21 through Props/C24).
  The encoders are shown to produce the minimal two's-complement string (`MinSigned`); round trip, minimality
  and uniqueness follow.
-/
import Goloop.Model.C24
import Goloop.Base.Rlp
namespace Goloop.C24.Proofs
open Goloop Goloop.C24

/-- `v` fits in `k+1` bytes of two's complement. Powers are written as casts of `Nat` powers so that
    `omega` sees one atom `256 ^ k` on both sides of a cast. -/
def fitsS (k : Nat) (v : Int) : Prop :=
  -((128 * 256 ^ k : Nat) : Int) ≤ v ∧ v < ((128 * 256 ^ k : Nat) : Int)

theorem fitsS_mono {k k' : Nat} {v : Int} (hk : k ≤ k') (h : fitsS k v) : fitsS k' v := by
  induction hk with
  | refl => exact h
  | step _ ih => unfold fitsS at *; omega

theorem fitsS7_iff (v : Int) : fitsS 7 v ↔ -(2:Int)^63 ≤ v ∧ v < (2:Int)^63 := by
  unfold fitsS; omega

/-- dropping the last byte: the loops' step `v / 256` -/
theorem fitsS_div {k : Nat} {v : Int} (h : fitsS (k + 1) v) : fitsS k (v / 256) := by
  unfold fitsS at h ⊢; omega

/-- the test on the first byte becomes a test on the value: from here on the proofs are linear arithmetic
    over `beNat` and the one atom `256 ^ r.length` -/
theorem beInt_eq (b : UInt8) (r : Bytes) :
    beInt (b :: r) = if 128 * 256 ^ r.length ≤ beNat (b :: r)
      then (beNat (b :: r) : Int) - ((256 ^ (r.length + 1) : Nat) : Int) else (beNat (b :: r) : Int) := by
  unfold beInt
  simp only [ge_iff_le, head_ge_iff 128 b r, List.length_cons, Int.natCast_pow]; rfl

theorem beInt_fits (b : UInt8) (r : Bytes) : fitsS r.length (beInt (b :: r)) := by
  have : _ < 256 ^ (r.length + 1) := beNat_lt (b :: r)
  rw [beInt_eq]; unfold fitsS
  split <;> omega

theorem head_lt_128_of_beInt_nonneg {b : UInt8} {r : Bytes} (h : 0 ≤ beInt (b :: r)) : b.toNat < 128 := by
  have hlt := beNat_lt (b :: r)
  rw [beInt_eq] at h
  rw [List.length_cons] at hlt
  refine Nat.lt_of_not_le (mt (head_ge_iff 128 b r).mp ?_)
  split at h <;> omega

theorem beInt_eq_beNat_of_head {b : UInt8} {r : Bytes} (hb : b.toNat < 128) :
    beInt (b :: r) = (beNat (b :: r) : Int) :=
  if_neg (Nat.not_le_of_lt hb)

/-- the two's-complement string of `v` that cannot lose a byte: `fitsS k` is about `k + 1` bytes, `out` has
    `k + 2` -/
structure MinSigned (out : Bytes) (v : Int) : Prop where
  ne : out ≠ []
  val : beInt out = v
  min : ∀ k, out.length = k + 2 → ¬ fitsS k v

/-- the minimal string is at most as long as any width `v` fits in -/
theorem MinSigned.length_le {out : Bytes} {v : Int} {k : Nat} (h : MinSigned out v) (hf : fitsS k v) :
    out.length ≤ k + 1 :=
  Nat.le_of_not_lt fun hlt => h.min (out.length - 2) (by omega) (fitsS_mono (by omega) hf)

theorem minSigned_shortest {out bs : Bytes} {v : Int} (h : MinSigned out v)
    (hne : bs ≠ []) (hv : beInt bs = v) : out.length ≤ bs.length :=
  match bs, hne, hv with
  | [], hne, _ => absurd rfl hne
  | b :: r, _, hv => h.length_le (hv ▸ beInt_fits b r)

theorem beInt_inj {a b : Bytes} (hl : a.length = b.length) (hv : beInt a = beInt b) : a = b := by
  cases a with
  | nil => exact (List.eq_nil_of_length_eq_zero hl.symm).symm
  | cons x xs =>
    obtain ⟨y, ys, rfl⟩ := List.exists_cons_of_length_eq_add_one hl.symm
    have ha := beNat_lt (x :: xs)
    have hb := beNat_lt (y :: ys)
    rw [← hl] at hb
    simp only [List.length_cons] at ha hb
    rw [beInt_eq, beInt_eq, ← Nat.succ.inj hl] at hv
    apply beNat_inj hl
    -- with different signs the two values would differ by `256 ^ (n + 1)`, more than `ha`, `hb` leave room for
    split at hv <;> split at hv <;> omega

theorem minSigned_unique {a b : Bytes} {v : Int} (ha : MinSigned a v) (hb : MinSigned b v) : a = b :=
  beInt_inj (Nat.le_antisymm (minSigned_shortest ha hb.ne hb.val) (minSigned_shortest hb ha.ne ha.val))
    (ha.val.trans hb.val.symm)

theorem byteOfNat_toNat (v : Nat) : (byteOfNat v).toNat = v % 256 := byte_toNat v

theorem byteOfInt_toNat (v : Int) : ((byteOfInt v).toNat : Int) = v % 256 := by
  have h : (byteOfInt v).toNat = (v % 256).toNat % 256 := UInt8.toNat_ofNat'
  have h0 := Int.emod_nonneg v (by decide : (256 : Int) ≠ 0)
  rw [h, Nat.mod_eq_of_lt ((Int.toNat_lt h0).mpr (Int.emod_lt_of_pos v (by decide))), Int.toNat_of_nonneg h0]

theorem minSigned_single {b : UInt8} {v : Int} (hf : fitsS 0 v) (hb : (b.toNat : Int) = v % 256) :
    MinSigned [b] v := by
  refine ⟨List.cons_ne_nil _ _, ?_, fun k hk => Nat.noConfusion (Nat.succ.inj hk)⟩
  have := b.toNat_lt
  rw [beInt_eq, List.length_nil, show beNat [b] = b.toNat from Nat.zero_add _]; unfold fitsS at hf
  split <;> omega

theorem minSigned_zero : MinSigned [0] 0 := minSigned_single (by unfold fitsS; omega) rfl

/-- one more byte at the end: Horner step, the sign stays with the first byte -/
theorem beInt_snoc {pre : Bytes} (hne : pre ≠ []) (b : UInt8) :
    beInt (pre ++ [b]) = beInt pre * 256 + b.toNat := by
  match pre, hne with
  | x :: xs, _ =>
    show (if x.toNat ≥ 128 then _ else _) = (if x.toNat ≥ 128 then _ else _) * 256 + _
    rw [beNat_append_singleton]
    simp only [List.length_append, List.length_cons, List.length_nil, Nat.zero_add, Int.pow_succ]
    split <;> omega

theorem minSigned_snoc {pre : Bytes} {v : Int} {b : UInt8} (h : MinSigned pre (v / 256))
    (hb : (b.toNat : Int) = v % 256) (hbig : ¬ fitsS 0 v) : MinSigned (pre ++ [b]) v := by
  refine ⟨by simp, ?_, ?_⟩
  · rw [beInt_snoc h.ne, h.val, hb]; omega
  · intro j hj
    have hl : pre.length = j + 1 := by simpa using hj
    cases j with
    | zero => exact hbig
    | succ j' => exact mt fitsS_div (h.min j' hl)

theorem int64_stop_iff (v : Int) : v - v.emod 128 = (if v < 0 then -128 else 0) ↔ fitsS 0 v := by
  unfold fitsS
  show v - v % 128 = _ ↔ _
  split <;> omega

theorem int64Loop_spec : ∀ (f : Nat) (v : Int) (acc : Bytes), fitsS f v →
    ∃ pre, int64Loop (if v < 0 then -128 else 0) (f + 1) v acc = pre ++ acc ∧ MinSigned pre v
  | f, v, acc, hf => by
    unfold int64Loop
    by_cases ht : fitsS 0 v
    · rw [if_pos ((int64_stop_iff v).mpr ht)]
      exact ⟨[byteOfInt v], rfl, minSigned_single ht (byteOfInt_toNat v)⟩
    · rw [if_neg (mt (int64_stop_iff v).mp ht)]
      -- `match`, not `cases`: the recursive call stays structural
      match f, hf with
      | 0, hf => exact absurd hf ht
      | f' + 1, hf =>
        obtain ⟨pre, he, hm⟩ := int64Loop_spec f' (v / 256) (byteOfInt v :: acc) (fitsS_div hf)
        simp only [show v / 256 < 0 ↔ v < 0 by omega] at he
        exact ⟨pre ++ [byteOfInt v], by rw [he, List.append_assoc]; rfl, minSigned_snoc hm (byteOfInt_toNat v) ht⟩

theorem int64ToBytes_spec (v : Int) (h : -(2:Int)^63 ≤ v ∧ v < (2:Int)^63) :
    MinSigned (int64ToBytes v) v ∧ (int64ToBytes v).length ≤ 8 := by
  unfold int64ToBytes
  by_cases h0 : v = 0
  · subst h0; exact ⟨minSigned_zero, Nat.le_add_left _ _⟩
  · rw [if_neg h0]
    have hf := (fitsS7_iff v).mpr h
    obtain ⟨pre, he, hm⟩ := int64Loop_spec 7 v [] hf
    rw [he, List.append_nil]; exact ⟨hm, hm.length_le hf⟩

theorem toNat_xor_ff (b : UInt8) : (b ^^^ 0xff).toNat = 255 - b.toNat := by
  rw [show (0xff : UInt8) = -1 from rfl, UInt8.xor_neg_one, UInt8.toNat_not]; rfl

theorem beNat_compl (bs : Bytes) :
    beNat (bs.map (fun x => x ^^^ 0xff)) + beNat bs + 1 = 256 ^ bs.length := by
  induction bs with
  | nil => rfl
  | cons b r ih =>
    rw [List.map_cons, beNat_cons, beNat_cons, List.length_map, toNat_xor_ff, List.length_cons]
    have hb := b.toNat_lt
    have : (255 - b.toNat) * 256 ^ r.length + b.toNat * 256 ^ r.length = 255 * 256 ^ r.length := by
      rw [← Nat.add_mul]; congr 1; omega
    omega

/-- the complement-and-negate of the Go code is plain two's-complement reading -/
theorem safeBytesToInt64_eq (bs : Bytes) :
    safeBytesToInt64 bs = if bs.length > 8 then none else some (beInt bs) := by
  cases bs with
  | nil => rfl
  | cons b r =>
    unfold safeBytesToInt64
    have := beNat_compl (b :: r)
    rw [List.length_cons] at this
    rw [beInt_eq]
    simp only [ge_iff_le, head_ge_iff 128 b r]
    split
    · rfl
    · split
      · exact congrArg some (by omega)
      · rfl

theorem safeBytesToInt64_some {bs : Bytes} {v : Int} (h : safeBytesToInt64 bs = some v) :
    beInt bs = v ∧ bs.length ≤ 8 := by
  rw [safeBytesToInt64_eq] at h
  split at h
  · cases h
  · exact ⟨Option.some.inj h, Nat.le_of_not_lt ‹_›⟩

theorem uint64Loop_eq : ∀ (f v : Nat) (acc : Bytes), uint64Loop f v acc = int64Loop 0 f (v : Int) acc
  | 0, _, _ => rfl
  | f + 1, v, acc => by
    have hb : byteOfNat v = byteOfInt v :=
      congrArg UInt8.ofNat ((Int.toNat_natCast _).symm.trans (congrArg Int.toNat (Int.natCast_emod v 256)))
    have hc : (v / 256 = 0 ∧ v % 256 < 128) ↔ (v : Int) - (v : Int).emod 128 = 0 := by
      show _ ↔ (v : Int) - (v : Int) % 128 = 0; omega
    unfold uint64Loop int64Loop
    simp only [hb, hc, uint64Loop_eq f, Int.natCast_ediv]; rfl

theorem uint64ToBytes_spec (v : Nat) (h : v < 2 ^ 64) :
    MinSigned (uint64ToBytes v) (v : Int) ∧ (uint64ToBytes v).length ≤ 9 := by
  unfold uint64ToBytes
  by_cases h0 : v = 0
  · subst h0; exact ⟨minSigned_zero, Nat.le_add_left _ _⟩
  · rw [if_neg h0, uint64Loop_eq]
    have hf : fitsS 8 v := by unfold fitsS; omega
    obtain ⟨pre, he, hm⟩ := int64Loop_spec 8 v [] hf
    rw [if_neg (Int.not_lt.mpr (Int.natCast_nonneg v))] at he
    rw [he, List.append_nil]; exact ⟨hm, hm.length_le hf⟩

/-- of a natural number: the sign bit is clear … -/
theorem MinSigned.head_lt {b : UInt8} {r : Bytes} {v : Nat} (h : MinSigned (b :: r) (v : Int)) : b.toNat < 128 :=
  head_lt_128_of_beInt_nonneg (by rw [h.val]; exact Int.natCast_nonneg _)

/-- … and the string reads as the number -/
theorem MinSigned.beNat_eq {p : Bytes} {v : Nat} (h : MinSigned p (v : Int)) : beNat p = v :=
  match p, h with
  | [], h => absurd rfl h.ne
  | _ :: _, h => Int.ofNat.inj ((beInt_eq_beNat_of_head h.head_lt).symm.trans h.val)

theorem minSigned_length_mono {p q : Bytes} {v w : Nat} (hp : MinSigned p (v : Int)) (hq : MinSigned q (w : Int))
    (h : v ≤ w) : p.length ≤ q.length :=
  match q, hq with
  | [], hq => absurd rfl hq.ne
  | b :: r, hq => by
    have hf := hq.val ▸ beInt_fits b r
    exact hp.length_le (by unfold fitsS at hf ⊢; omega)

theorem uint64ToBytes_cons (v : Nat) (h : v < 2 ^ 64) :
    ∃ b r, uint64ToBytes v = b :: r ∧ b.toNat < 128 ∧ beNat (b :: r) = v ∧ (b :: r).length ≤ 9 := by
  obtain ⟨hm, hl⟩ := uint64ToBytes_spec v h
  match uint64ToBytes v, hm, hl with
  | [], hm, _ => exact absurd rfl hm.ne
  | b :: r, hm, hl => exact ⟨b, r, rfl, hm.head_lt, hm.beNat_eq, hl⟩

/-- `SizeToBytes` is the size encoder of the RLP layer (`Base/Rlp`), whose lemma applies as it stands -/
theorem sizeToBytes_spec (v : Nat) (h : v < 2 ^ 64) :
    beNat (sizeToBytes v) = v ∧ 1 ≤ (sizeToBytes v).length ∧ (sizeToBytes v).length ≤ 8 ∧
      (v ≠ 0 → (sizeToBytes v).head? ≠ some 0) := Rlp.sizeToBytes_spec v h

theorem safeBytesToSize64_some {bs : Bytes} {v : Nat} (h : safeBytesToSize64 bs = some v) :
    beNat bs = v ∧ v < 2 ^ 64 := by
  unfold safeBytesToSize64 at h
  split at h
  · cases h
  · cases h
    exact ⟨rfl, Nat.lt_of_lt_of_le (beNat_lt bs)
      (Nat.pow_le_pow_right (by decide) (Nat.le_of_not_lt ‹_›) : 256 ^ bs.length ≤ 256 ^ 8)⟩

/-- a leading zero byte is dropped, a set sign bit refused; the rest is the decoder of sizes -/
theorem safeBytesToUint64_cons (b : UInt8) (r : Bytes) : safeBytesToUint64 (b :: r) =
    if b = 0 then safeBytesToSize64 r else if b.toNat ≥ 128 then none else safeBytesToSize64 (b :: r) := rfl

theorem safeBytesToUint64_some {bs : Bytes} {v : Nat} (h : safeBytesToUint64 bs = some v) :
    beInt bs = (v : Int) ∧ v < 2 ^ 64 := by
  cases bs with
  | nil => cases h; exact ⟨rfl, by decide⟩
  | cons b r =>
    rw [safeBytesToUint64_cons] at h
    by_cases hb0 : b = 0
    · subst hb0
      obtain ⟨rfl, hv⟩ := safeBytesToSize64_some h
      exact ⟨(beInt_eq_beNat_of_head (by decide)).trans (by rw [beNat_cons]; simp), hv⟩
    · rw [if_neg hb0] at h
      split at h
      · cases h
      · obtain ⟨rfl, hv⟩ := safeBytesToSize64_some h
        exact ⟨beInt_eq_beNat_of_head (Nat.lt_of_not_le ‹_›), hv⟩

theorem safeBytesToUint64_of_head (b : UInt8) (r : Bytes) (hb : b.toNat < 128)
    (hl : (b :: r).length ≤ 9) (hv : beNat (b :: r) < 2 ^ 64) :
    safeBytesToUint64 (b :: r) = some (beNat (b :: r)) := by
  rw [safeBytesToUint64_cons]
  rw [List.length_cons] at hl
  by_cases hb0 : b = 0
  · subst hb0
    rw [if_pos rfl, safeBytesToSize64, if_neg (Nat.not_lt.mpr (Nat.le_of_succ_le_succ hl)), beNat_cons]; simp
  · -- a non-zero first byte leaves room for 7 more
    have := lt_of_pow256 ((head_ne_zero_iff b r).mp hb0) (show _ < 256 ^ 8 from hv)
    rw [if_neg hb0, if_neg (Nat.not_le.mpr hb), safeBytesToSize64, if_neg (by rw [List.length_cons]; omega)]

theorem safeBytesToUint64_uint64ToBytes (v : Nat) (h : v < 2 ^ 64) :
    safeBytesToUint64 (uint64ToBytes v) = some v := by
  obtain ⟨b, r, he, hb, hv, hl⟩ := uint64ToBytes_cons v h
  rw [he, safeBytesToUint64_of_head b r hb hl (hv ▸ h), hv]

theorem natBytesAux_spec (fuel v : Nat) (acc : Bytes) (h : v < fuel) :
    ∃ pre, natBytesAux fuel v acc = pre ++ acc ∧ beNat pre = v ∧ pre.head? ≠ some 0 := by
  fun_induction natBytesAux fuel v acc with
  | case1 => exact absurd h (Nat.not_lt_zero _)
  | case2 => exact ⟨[], rfl, rfl, nofun⟩
  | case3 fuel v acc h0 ih =>
    obtain ⟨pre, he, hv, hh⟩ := ih
      (Nat.lt_of_lt_of_le (Nat.div_lt_self (Nat.pos_of_ne_zero h0) (by decide)) (Nat.le_of_lt_succ h))
    exact ⟨pre ++ [byteOfNat v], by rw [he, List.append_assoc]; rfl, beNat_snoc_digit hv,
      head?_snoc_digit hv hh h0⟩

theorem natBytes_spec (v : Nat) :
    beNat (natBytes v) = v ∧ (natBytes v).head? ≠ some 0 := by
  obtain ⟨pre, he, hv, hh⟩ := natBytesAux_spec (v + 1) v [] (Nat.lt_succ_self v)
  unfold natBytes; rw [he, List.append_nil]
  exact ⟨hv, hh⟩

theorem natBytes_cons {n : Nat} (hn : n ≠ 0) : ∃ b r, natBytes n = b :: r ∧ b ≠ 0 ∧ beNat (b :: r) = n ∧
    256 ^ r.length ≤ n ∧ n < 256 ^ (r.length + 1) := by
  obtain ⟨hv, hh⟩ := natBytes_spec n
  cases he : natBytes n with
  | nil => rw [he] at hv; exact absurd hv.symm hn
  | cons b r =>
    rw [he] at hv hh
    have hb : b ≠ 0 := fun h => hh (h ▸ rfl)
    exact ⟨b, r, rfl, hb, hv, hv ▸ (head_ne_zero_iff b r).mp hb, hv ▸ beNat_lt (b :: r)⟩

theorem bitLen_le_iff (v k : Nat) : bitLen v ≤ k ↔ v < 2 ^ k := by
  unfold bitLen
  by_cases h : v = 0
  · subst h; simp [Nat.two_pow_pos]
  · rw [if_neg h, ← Nat.log2_lt h]; omega

theorem pow256_eq (L : Nat) : 256 ^ L = 2 ^ (8 * L) := by
  rw [Nat.pow_mul]

theorem bitLen_le_bytes (v k : Nat) : bitLen v ≤ 8 * k ↔ v < 256 ^ k := by
  rw [bitLen_le_iff, pow256_eq]

theorem bitLen_le_bytes7 (v k : Nat) : bitLen v ≤ 8 * k + 7 ↔ v < 128 * 256 ^ k := by
  rw [bitLen_le_iff, Nat.pow_add, ← pow256_eq, Nat.mul_comm]

theorem two_pow_cast' (k : Nat) : (((2:Nat) ^ k : Nat) : Int) = (2:Int) ^ k := Int.natCast_pow 2 k

theorem bigIntSetBytes_eq_beInt (bs : Bytes) : bigIntSetBytes bs = beInt bs := by
  cases bs with
  | nil => rfl
  | cons b r =>
    show (if b.toNat ≥ 128 then _ else _) = if b.toNat ≥ 128 then _ else _
    by_cases hb : b.toNat ≥ 128
    · rw [if_pos hb, if_pos hb]
      -- BitLen of the magnitude is exactly 8*len when the top bit is set
      have h1 := (bitLen_le_bytes _ _).mpr (beNat_lt (b :: r))
      have h2 := mt (bitLen_le_bytes7 _ r.length).mp (Nat.not_lt.mpr ((head_ge_iff 128 b r).mp hb))
      rw [List.length_cons] at h1
      rw [show bitLen (beNat (b :: r)) = 8 * (b :: r).length by rw [List.length_cons]; omega, Int.pow_mul]
      rfl
    · rw [if_neg hb, if_neg hb]

/-- `BigIntToBytes` reads the top bit of the first byte of `Bytes()` off `BitLen % 8` -/
theorem bitLen_mod8 {n L : Nat} (hlo : 256 ^ L ≤ n) (hhi : n < 256 ^ (L + 1)) :
    bitLen n % 8 = 0 ↔ 128 * 256 ^ L ≤ n := by
  have h8 := bitLen_le_bytes n L
  have h8' := bitLen_le_bytes n (L + 1)
  have h7 := bitLen_le_bytes7 n L
  omega

/-- the byte count `(BitLen + 8) / 8` leaves room for a sign bit, and not a byte more -/
theorem bitLen_bytes (m : Nat) : ∃ W, (bitLen m + 8) / 8 = W + 1 ∧
    m < 128 * 256 ^ W ∧ ∀ k, W = k + 1 → 128 * 256 ^ k ≤ m :=
  ⟨bitLen m / 8, Nat.add_div_right _ (by decide), (bitLen_le_bytes7 m _).mp (by omega),
   fun k hk => Nat.le_of_not_lt (mt (bitLen_le_bytes7 m k).mpr (by omega))⟩

theorem bigIntToBytes_spec (i : Int) : MinSigned (bigIntToBytes i) i := by
  unfold bigIntToBytes
  by_cases h0 : i = 0
  · subst h0; exact minSigned_zero
  rw [if_neg h0]
  by_cases hpos : i > 0
  · obtain ⟨n, rfl⟩ : ∃ n : Nat, i = n := ⟨i.toNat, (Int.toNat_of_nonneg (Int.le_of_lt hpos)).symm⟩
    simp only [hpos, if_true, Int.toNat_natCast]
    obtain ⟨b, r, he, -, hv, hlo, hhi⟩ := natBytes_cons (n := n) (by omega)
    simp only [bitLen_mod8 hlo hhi, he]
    by_cases htop : 128 * 256 ^ r.length ≤ n
    · -- the top bit is set: a zero byte goes in front
      rw [if_pos htop]
      refine ⟨List.cons_ne_nil _ _, ?_, ?_⟩
      · rw [beInt_eq_beNat_of_head (by decide), beNat_cons, hv]; simp
      · intro k hk
        obtain rfl : r.length = k := Nat.succ.inj (Nat.succ.inj hk)
        unfold fitsS; omega
    · rw [if_neg htop]
      refine ⟨List.cons_ne_nil _ _, ?_, ?_⟩
      · rw [beInt_eq, if_neg (hv ▸ htop), hv]
      · intro k hk
        rw [show r.length = k + 1 from Nat.succ.inj hk] at hlo
        unfold fitsS; omega
  · obtain ⟨m, rfl⟩ : ∃ m : Nat, i = -(m : Int) - 1 := ⟨(i + 1).natAbs, by omega⟩
    have hm : (-(m : Int) - 1 + 1).natAbs = m := by omega
    simp only [hpos, if_false, hm]
    obtain ⟨W, hW, hmlt, hmge⟩ := bitLen_bytes m
    rw [hW, ← two_pow_cast', Nat.mul_comm, ← pow256_eq]
    clear hW hm hpos h0
    -- `nb = 256 ^ (W + 1) - m - 1` lies in `[128 * 256 ^ W, 256 ^ (W + 1))`: `natBytes nb` has exactly `W + 1`
    -- bytes, the first with its top bit set
    obtain ⟨nb, hnb⟩ : ∃ nb : Nat, ((256 ^ (W + 1) : Nat) : Int) + (-(m : Int) - 1) = nb :=
      ⟨_, (Int.toNat_of_nonneg (by omega)).symm⟩
    rw [hnb, Int.toNat_natCast]
    obtain ⟨b, r, he, -, hv, hlo, hhi⟩ := natBytes_cons (n := nb) (by omega)
    obtain rfl : r.length = W := Nat.le_antisymm (Nat.le_of_lt_succ (lt_of_pow256 hlo (by omega)))
      (Nat.le_of_lt_succ (lt_of_pow256 (by omega) hhi))
    rw [he]
    refine ⟨List.cons_ne_nil _ _, ?_, ?_⟩
    · rw [beInt_eq, if_pos (by omega), hv]; omega
    · intro k hk
      have := hmge k (Nat.succ.inj hk)
      unfold fitsS; omega

theorem big_roundtrip (i : Int) : bigIntSetBytes (bigIntToBytes i) = i := by
  rw [bigIntSetBytes_eq_beInt]; exact (bigIntToBytes_spec i).val

end Goloop.C24.Proofs
