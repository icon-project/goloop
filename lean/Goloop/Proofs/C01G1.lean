/-
  Proofs/C01G1 — `Core`: the running step machine (Model/C01, no crash) sends its votes with strictly
  increasing (height, round, step) keys: G0 + G1 of DESIGN §6 C01, heart of C02.  Here: what keeps `Core`
  (step reset, new round / height, arming a callback, signing at a `Fresh` point); that every move of the
  machine is one of these is `Move.core` (Proofs/C01Move).
-/
import Goloop.Proofs.C01Val
namespace Goloop.C01

theorem lexLe_trans {a b c : Key} (h1 : lexLe a b) (h2 : lexLe b c) : lexLe a c :=
  lex_trans (R := le2) (R' := le2) (R'' := le2) le2_trans h1 h2

theorem lexLt_of_le_lt {a b c : Key} (h1 : lexLe a b) (h2 : lexLt b c) : lexLt a c :=
  lex_trans (R := le2) (R' := fun x y => x.1 < y.1 ∨ (x.1 = y.1 ∧ x.2 < y.2))
    (R'' := fun x y => x.1 < y.1 ∨ (x.1 = y.1 ∧ x.2 < y.2))
    (lex_trans (R := (· ≤ ·)) (R' := (· < ·)) (R'' := (· < ·)) Nat.lt_of_le_of_lt) h1 h2

theorem core_of_ctrl_eq {s s' : S} (h : ctrl s' = ctrl s) (hc : Core s) : Core s' := by
  unfold Core; rw [h]; exact hc

/-- the step does not fall (and a stuck machine stays stuck) -/
theorem coreC_step {c : Ctrl} (hc : CoreC c) (st : Nat) (b : Bool) (hle : c.step ≤ st)
    (hst : b = false → c.stuck = false) : CoreC { c with step := st, stuck := b } := by
  refine ⟨fun v hv => lexLe_trans (hc.bnd v hv) (Or.inr ⟨rfl, Or.inr ⟨rfl, hle⟩⟩), hc.inc, fun hst' lo hi hb => ?_, hc.pnd⟩
  have himp := hc.imp (hst hst') lo hi hb
  exact ⟨Nat.le_trans himp.1 hle, fun h5 => himp.2 (Nat.le_trans hle h5)⟩

/-- a later (height, round): every outstanding callback is for a past round -/
theorem coreC_later {c : Ctrl} (hc : CoreC c) (h r st : Nat) (b : Bool)
    (hlt : c.height < h ∨ (c.height = h ∧ c.round < r)) : CoreC { c with height := h, round := r, step := st, stuck := b } := by
  have past : ∀ h' r' lo hi, pendWin c.pend = some (h', r', lo, hi) → h' < h ∨ (h' = h ∧ r' < r) :=
    fun h' r' lo hi hb => lex_trans (R := (· ≤ ·)) (R' := (· < ·)) (R'' := (· < ·)) Nat.lt_of_le_of_lt
      (a := (h', r')) (b := (c.height, c.round)) (c := (h, r)) (hc.pnd _ _ _ _ hb) hlt
  refine ⟨fun v hv => lexLe_trans (hc.bnd v hv) ?_, hc.inc, fun _ lo hi hb => ?_,
    fun h' r' lo hi hb => (past h' r' lo hi hb).imp id (.imp id Nat.le_of_lt)⟩
  · rcases hlt with h | ⟨e, h⟩
    · exact Or.inl h
    · exact Or.inr ⟨e, Or.inl h⟩
  · rcases past _ _ _ _ hb with h | ⟨_, h⟩ <;> exact absurd h (Nat.lt_irrefl _)

/-- "fresh for step-key `to`": nothing with a key ≥ (height, round, to) has been signed, the machine is
    at or past `to`, and no outstanding callback of this round could still sign that key -/
def Fresh (s : S) (to : Nat) : Prop :=
  s.stuck = true ∨
  (to ≤ s.step ∧ (∀ m, m ∈ sentOf s.eff → lexLt (msgKey m) (s.height, s.round, to)) ∧
   (∀ lo hi, pendCurrent (ctrl s) lo hi → s.step ≤ hi → to < lo))

theorem pendWin_cases (p : Pend) (h r lo hi : Nat) (hw : pendWin p = some (h, r, lo, hi)) :
    (lo = 4 ∧ hi = 5) ∨ (lo = 3 ∧ hi = 3) := by
  cases p with
  | none => cases hw
  | commit => cases hw
  | propose => cases hw; exact Or.inr ⟨rfl, rfl⟩
  | import_ => cases hw; exact Or.inl ⟨rfl, rfl⟩

theorem core_stuck (s : S) (hc : Core s) : Core { s with stuck := true } :=
  coreC_step hc s.step true (Nat.le_refl _) nofun

theorem core_rfs (s : S) (to : Nat) (h0 : to ≠ 0) (h2 : to ≠ 2) (hc : Core s) :
    Core (s.resetForNewStep to) := by
  rcases rfs_eq s to h0 h2 with ⟨hlt, e⟩ | e <;> rw [e]
  · exact coreC_step hc to s.stuck (Nat.le_of_lt hlt) id
  · exact core_stuck { s with timer := false } hc

theorem fresh_rfs (s : S) (to : Nat) (h4 : to = 3 ∨ to = 4 ∨ to = 6) (hc : Core s) (hs : s.stuck = false) :
    Fresh (s.resetForNewStep to) to := by
  rcases rfs_eq s to (by omega) (by omega) with ⟨hlt, e⟩ | e <;> rw [e]
  · refine Or.inr ⟨Nat.le_refl _, fun m hm => lexLt_of_le_lt (hc.bnd m hm) (Or.inr ⟨rfl, Or.inr ⟨rfl, hlt⟩⟩),
      fun lo hi hb hle => ?_⟩
    -- a callback of this round was armed at a step `lo ≤ s.step < to`, so its window is over
    have := pendWin_cases _ _ _ _ _ hb
    have := (hc.imp hs lo hi hb).1
    have hle : to ≤ hi := hle
    change lo ≤ s.step at this
    omega
  · exact Or.inl rfl

theorem core_rfr (s : S) (r : Nat) (hr : s.round < r) (hc : Core s) : Core (s.resetForNewRound r) := by
  rw [rfr_eq]
  exact coreC_later hc s.height r stNewRound s.stuck (Or.inr ⟨rfl, hr⟩)

theorem core_rfh (s : S) (hc : Core s) : Core (s.resetForNewHeight (s.height + 1)) :=
  beginStep_cases Core _ _ (fun _ => coreC_later hc _ 0 stNewHeight s.stuck (Or.inl (Nat.lt_succ_self _)))
    (coreC_later hc _ 0 s.step true (Or.inl (Nat.lt_succ_self _)))

/-- `pend := p` is allowed when `p`, if it can still sign (step-key `lo`; import: 4, propose: 3), is a callback of
    the current round armed at a point fresh for that key -/
def PendOk (s : S) (p : Pend) : Prop :=
  ∀ h r lo hi, pendWin p = some (h, r, lo, hi) → h = s.height ∧ r = s.round ∧ Fresh s lo

theorem pendOk_off {s : S} {p : Pend} (hp : pendWin p = none) : PendOk s p :=
  fun _ _ _ _ hb => absurd (hp.symm.trans hb) nofun

theorem pendOk_arm {s : S} {p : Pend} {lo hi : Nat} (hw : pendWin p = some (s.height, s.round, lo, hi))
    (hf : Fresh s lo) : PendOk s p :=
  fun _ _ _ _ hb => by cases hw.symm.trans hb; exact ⟨rfl, rfl, hf⟩

theorem core_set_pend (s : S) (p : Pend) (hp : PendOk s p) (hc : Core s) : Core { s with pend := p } := by
  refine ⟨hc.bnd, hc.inc, fun hst lo hi hb => ?_, fun h r lo hi hb => ?_⟩
  · obtain ⟨h1, h2, _⟩ := (hp _ _ _ _ hb).2.2.resolve_left
      (fun h => nomatch (show s.stuck = false from hst).symm.trans h)
    exact ⟨h1, fun _ => h2⟩
  · exact Or.inr ⟨(hp _ _ _ _ hb).1, Nat.le_of_eq (hp _ _ _ _ hb).2.1⟩

theorem ctrl_emit_nonsend (s : S) (e : Eff) (he : ∀ m, e ≠ .send m) : ctrl (s.emit e) = ctrl s :=
  congrArg (fun l => (⟨s.height, s.round, s.step, s.pend, l, s.stuck⟩ : Ctrl)) (sentOf_emit_nonsend s e he)

theorem core_emit_nonsend (s : S) (e : Eff) (he : ∀ m, e ≠ .send m) (hc : Core s) : Core (s.emit e) :=
  core_of_ctrl_eq (ctrl_emit_nonsend s e he) hc

theorem fresh_of_ctrl {s s' : S} (h : ctrl s' = ctrl s) (to : Nat) (hf : Fresh s to) : Fresh s' to := by
  have e1 : s'.stuck = s.stuck := congrArg Ctrl.stuck h
  have e2 : s'.step = s.step := congrArg Ctrl.step h
  have e3 : sentOf s'.eff = sentOf s.eff := congrArg Ctrl.sent h
  have e4 : s'.height = s.height := congrArg Ctrl.height h
  have e5 : s'.round = s.round := congrArg Ctrl.round h
  unfold Fresh at *
  rw [e1, e2, e3, e4, e5, h]
  exact hf

theorem fresh_emit_nonsend (s : S) (e : Eff) (he : ∀ m, e ≠ .send m) (to : Nat) (hf : Fresh s to) :
    Fresh (s.emit e) to :=
  fresh_of_ctrl (ctrl_emit_nonsend s e he) to hf

/-- signing a message with step-key `to` of the current round at a fresh point -/
theorem core_emit_send (s : S) (m : Msg) (to : Nat) (hc : Core s) (hst : s.stuck = false)
    (hf : Fresh s to) (hm : msgKey m = (s.height, s.round, to)) : Core (s.emit (.send m)) := by
  obtain ⟨h1, h2, h3⟩ := hf.resolve_left (fun h => nomatch hst.symm.trans h)
  refine ⟨fun v hv => ?_, ?_, fun hst' lo hi hb => ?_, hc.pnd⟩
  · rcases mem_sentOf_send hv with h | rfl
    · exact hc.bnd v h
    · rw [hm]; exact Or.inr ⟨rfl, Or.inr ⟨rfl, h1⟩⟩
  · show (sentOf (s.emit (.send m)).eff).Pairwise msgLt
    rw [sentOf_emit_send, List.pairwise_append]
    refine ⟨hc.inc, List.pairwise_singleton _ _, fun x hx y hy => ?_⟩
    rw [List.eq_of_mem_singleton hy]
    unfold msgLt; rw [hm]; exact h2 x hx
  · have h0 := hc.imp hst' lo hi hb
    refine ⟨h0.1, fun h5 v hv => ?_⟩
    rcases mem_sentOf_send hv with h | rfl
    · exact h0.2 h5 v h
    · rw [hm]; exact Or.inr ⟨rfl, Or.inr ⟨rfl, h3 lo hi hb h5⟩⟩

theorem core_signed (s : S) (m : Msg) (to : Nat) (hc : Core s) (hst : s.stuck = false) (hf : Fresh s to)
    (hm : msgKey m = (s.height, s.round, to)) :
    Core (((s.emit (.write .round (.msg m))).emit (.sync .round)).emit (.send m)) :=
  core_emit_send _ m to
    (core_emit_nonsend _ _ (Eff.sync_ne_send _) (core_emit_nonsend _ _ (Eff.write_ne_send _ _) hc)) hst
    (fresh_emit_nonsend _ _ (Eff.sync_ne_send _) _ (fresh_emit_nonsend _ _ (Eff.write_ne_send _ _) _ hf)) hm

theorem ctrl_hvsAdd (s : S) (m : VoteRec) : ctrl (s.hvsAdd m).2 = ctrl s :=
  hvsAdd_cases (fun x => ctrl x = ctrl s) s m rfl rfl

theorem stuck_emit (s : S) (e : Eff) : (s.emit e).stuck = s.stuck := rfl

theorem core_finalize (s : S) (b : Blk) (hc : Core s) :
    Core { s.emit (.finalize s.height b) with dbHeight := s.height } :=
  core_emit_nonsend s _ (Eff.finalize_ne_send _ _) hc

-- `IH`, `IH2`, `IH3`, `IHA`: "the invariant is kept by each function, called with fuel `f` on ANY argument".
-- That is more than the machine needs (it calls its functions only as `IHM` of C01Move lists); nothing
-- establishes or uses these four.
structure IH (f : Nat) : Prop where
  recvVote : ∀ s m, Core s → Core (recvVote f s m)
  sendVote : ∀ s t v, Core s → Fresh s (mstepOf t) → Core (sendVote f s t v)
  handlePrevote : ∀ s mr, Core s → Core (handlePrevote f s mr)
  handlePrecommit : ∀ s mr, Core s → Core (handlePrecommit f s mr)
  enterPropose : ∀ s, Core s → Core (enterPropose f s)
  enterPrevote : ∀ s, Core s → Core (enterPrevote f s)
  enterPrevoteWait : ∀ s, Core s → Core (enterPrevoteWait f s)
  enterPrecommit : ∀ s, Core s → Core (enterPrecommit f s)
  enterPrecommitWait : ∀ s, Core s → Core (enterPrecommitWait f s)
  enterCommit : ∀ s b r, Core s → Core (enterCommit f s b r)
  commitAndEnterNewHeight : ∀ s, Core s → Core (commitAndEnterNewHeight f s)
  enterNewHeight : ∀ s, Core s → Core (enterNewHeight f s)
  enterNewRound : ∀ s, Core s → Core (enterNewRound f s)

/-- what the invariant gives for an armed callback once `pend` is cleared -/
theorem fresh_of_pend (s : S) (lo hi : Nat) (hc : Core s)
    (hw : pendWin s.pend = some (s.height, s.round, lo, hi)) (hle : s.step ≤ hi) :
    Fresh { s with pend := .none } lo := by
  cases hst : s.stuck
  · have hi' := hc.imp hst lo hi hw
    exact Or.inr ⟨hi'.1, hi'.2 hle, fun _ _ hb => nomatch hb⟩
  · exact Or.inl rfl

-- the replay of empty WALs; `simp` uses the four in `start_fresh_eff` (Proofs/C01Sys)
@[simp] theorem walDurable_nil (w : Wal) : walDurable w [] = [] := rfl
@[simp] theorem applyRoundWAL_nil (s : S) : applyRoundWAL s [] = s := by unfold applyRoundWAL; rfl
@[simp] theorem applyLockWAL_nil (s : S) : applyLockWAL s none none [] = s := by unfold applyLockWAL; rfl
@[simp] theorem applyCommitWAL_nil (s : S) : applyCommitWAL s [] = s := by unfold applyCommitWAL; rfl

def Event.noCrash : Event → Prop
  | .crash _ _ => False
  | .start => False          -- a second `start` only follows a crash
  | _ => True

theorem lexLt_irrefl (a : Key) : ¬ lexLt a a := by unfold lexLt; omega

/-- two votes of one height with increasing keys: the round does not fall, and rises between votes of one type -/
theorem round_of_key_lt {a b : VoteRec} (h : lexLt (voteKey a) (voteKey b)) (hh : a.height = b.height) :
    a.round ≤ b.round ∧ (a.typ = b.typ → a.round < b.round) := by
  rcases h with (hl : a.height < b.height) | ⟨_, (hl : a.round < b.round) |
    ⟨(e : a.round = b.round), (hl : mstepOf a.typ < mstepOf b.typ)⟩⟩
  · exact absurd (hh ▸ hl) (Nat.lt_irrefl _)
  · exact ⟨Nat.le_of_lt hl, fun _ => hl⟩
  · exact ⟨Nat.le_of_eq e, fun ht => absurd (ht ▸ hl) (Nat.lt_irrefl _)⟩

theorem pairwise_msgLt_unique_msg {l : List Msg} (hp : l.Pairwise msgLt) {a b : Msg}
    (ha : a ∈ l) (hb : b ∈ l) (hk : msgKey a = msgKey b) : a = b := by
  induction l with
  | nil => cases ha
  | cons x t ih =>
    rw [List.pairwise_cons] at hp
    rcases List.mem_cons.mp ha with h1 | h1 <;> rcases List.mem_cons.mp hb with h2 | h2
    · rw [h1, h2]
    · have := hp.1 _ h2; rw [← h1] at this; unfold msgLt at this; rw [hk] at this
      exact absurd this (lexLt_irrefl _)
    · have := hp.1 _ h1; rw [← h2] at this; unfold msgLt at this; rw [hk] at this
      exact absurd this (lexLt_irrefl _)
    · exact ih hp.2 h1 h2

theorem pairwise_msgLt_unique {l : List Msg} (hp : l.Pairwise msgLt) {v w : VoteRec}
    (hv : Msg.vote v ∈ l) (hw : Msg.vote w ∈ l) (hh : v.height = w.height) (hr : v.round = w.round)
    (ht : v.typ = w.typ) : v = w :=
  Msg.vote.inj (pairwise_msgLt_unique_msg hp hv hw (show voteKey v = voteKey w by unfold voteKey; rw [hh, hr, ht]))

end Goloop.C01
