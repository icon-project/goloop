import Goloop.Model.C37
import Goloop.Base.Cases
namespace Goloop.C37.Proofs
open Goloop Goloop.C37

/-- what a run of `candLoop` that returns `r` appended to `acc`: it validates from the state the
    loop started in, is inside the window, was not included before, and is a sublist of the pool -/
def CandOK (e : Env) (has : Nat → Int → Bool) (pool : List Tx) (b : Bal) (acc : List Tx)
    (r : List Tx × Nat × Bal) : Prop :=
  ∃ sel, r.1 = acc ++ sel ∧ (validateTxs e sel b).isSome = true ∧
    (∀ tx ∈ sel, inWindow e tx = true ∧ has tx.id tx.ts = false) ∧ sel.Sublist pool

theorem candOK_stop (e : Env) (has : Nat → Int → Bool) (pool : List Tx) (b : Bal) (acc : List Tx)
    (sz : Nat) (b' : Bal) : CandOK e has pool b acc (acc, sz, b') :=
  ⟨[], (List.append_nil _).symm, rfl, fun _ h => (List.not_mem_nil h).elim, List.nil_sublist _⟩

theorem candLoop_spec (e : Env) (has : Nat → Int → Bool) (mb mc : Nat) (pool : List Tx) (b : Bal)
    (acc : List Tx) (sz : Nat) : CandOK e has pool b acc (candLoop e has mb mc pool b acc sz) := by
  -- `caseN`: the N-th path through `candLoop` in Model/C37; 3, 4, 5 skip `tx`, 7 takes it
  fun_induction candLoop e has mb mc pool b acc sz with
  | case1 | case2 | case6 => exact candOK_stop ..
  | case3 | case4 | case5 =>
    rename_i ih
    exact ih.imp fun _ h => ⟨h.1, h.2.1, h.2.2.1, h.2.2.2.cons _⟩
  | case7 tx rest b acc sz _ hw hh b' hp _ ih =>
    obtain ⟨sel, h1, h2, h3, h4⟩ := ih
    refine ⟨tx :: sel, by rw [h1, List.append_assoc]; rfl, ?_, ?_, h4.cons_cons tx⟩
    · rw [validateTxs, if_neg hw, hp]; exact h2
    · intro x hx
      rcases List.mem_cons.mp hx with rfl | hx
      · exact ⟨eq_true_of_ne_false fun h => hw (congrArg not h), eq_false_of_ne_true hh⟩
      · exact h3 x hx

theorem candidate_spec (e : Env) (has : Nat → Int → Bool) (maxBytes maxCount : Int)
    (pool : List Tx) (b : Bal) : CandOK e has pool b [] (candidate e has maxBytes maxCount pool b) :=
  ite_pred (CandOK e has pool b []) _ _ _
    (fun _ => candOK_stop e has pool b [] 0 b) (fun _ => candLoop_spec ..)

theorem idsFresh_of (has : Nat → Int → Bool) : ∀ (l : List Tx) (seen : List Nat),
    (∀ tx ∈ l, has tx.id tx.ts = false) → (seen ++ l.map (·.id)).Nodup → idsFresh has l seen = true
  | [], _, _, _ => rfl
  | tx :: rest, seen, h1, h2 => by
    have hs : tx.id ∉ seen := fun hin => (List.nodup_append.mp h2).2.2 _ hin _ List.mem_cons_self rfl
    have ih := idsFresh_of has rest (seen ++ [tx.id]) (fun x hx => h1 x (List.mem_cons_of_mem _ hx))
      (by rw [List.append_assoc]; exact h2)
    simp [idsFresh, hs, h1 tx (List.mem_cons_self), ih]

theorem poolAdd_nodup (l : List Tx) (tx : Tx) (h : (l.map (·.id)).Nodup) :
    ((poolAdd l tx).map (·.id)).Nodup := by
  -- wherever `tx` is inserted, the result is a permutation of `tx :: l`
  have hmid : ¬ l.any (fun x => x.id == tx.id) = true → ∀ l₁ l₂, l₁ ++ l₂ = l →
      ((l₁ ++ [tx] ++ l₂).map (·.id)).Nodup := by
    intro hany l₁ l₂ hl
    have hnot : tx.id ∉ l.map (·.id) := by
      intro hin
      obtain ⟨x, hx, hxe⟩ := List.mem_map.mp hin
      exact hany (List.any_eq_true.mpr ⟨x, hx, beq_iff_eq.mpr hxe⟩)
    have hp : (l₁ ++ [tx] ++ l₂).Perm (tx :: l) := by
      rw [← hl, List.append_assoc]; exact List.perm_middle
    exact (hp.map _).nodup_iff.mpr (List.nodup_cons.mpr ⟨hnot, h⟩)
  fun_cases poolAdd l tx with
  | case1 => exact h
  | case2 hany => exact List.append_nil (l ++ [tx]) ▸ hmid hany l [] (List.append_nil l)
  | case3 hany => exact hmid hany _ _ (List.take_append_drop ..)

theorem poolOf_nodup : ∀ (txs acc : List Tx), (acc.map (·.id)).Nodup → ((poolOf txs acc).map (·.id)).Nodup
  | [], _, h => h
  | tx :: rest, acc, h => poolOf_nodup rest (poolAdd acc tx) (poolAdd_nodup acc tx h)

end Goloop.C37.Proofs
