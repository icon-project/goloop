/-
  Proofs/C35Input: the facts `TermWF` assumes about the state after `processEvents`, derived from
  the model's own event processing and a decidable well-formedness predicate on the RAW input.
-/
import Goloop.Proofs.C35
namespace Goloop.C35.Proofs
open Goloop.C35

theorem getPRep_setPRep (ps : List PRep) (q : PRep) (k : Nat) :
    getPRep (setPRep ps q) k = if q.owner = k then some q else getPRep ps k := by
  fun_induction setPRep ps q with
  | case1 q => exact getPRep_cons q [] k
  | case2 p ps q hpq =>
    rw [getPRep_cons, getPRep_cons, eq_of_beq hpq]
    split <;> rfl
  | case3 p ps q hpq ih =>
    rw [getPRep_cons, getPRep_cons, ih]
    by_cases hp : p.owner = k
    · rw [if_pos hp, if_neg (fun h => hpq (beq_iff_eq.mpr (hp.trans h.symm))), if_pos hp]
    · rw [if_neg hp, if_neg hp]

theorem getPRep_owner {ps : List PRep} {k : Nat} {p : PRep} (h : getPRep ps k = some p) : p.owner = k := by
  have := List.find?_some h
  simpa using this

theorem getPRep_mem {ps : List PRep} {k : Nat} {p : PRep} (h : getPRep ps k = some p) : p ∈ ps :=
  List.mem_of_find?_eq_some h

theorem mem_setPRep {ps : List PRep} {q x : PRep} (h : x ∈ setPRep ps q) : x = q ∨ x ∈ ps := by
  revert h
  fun_induction setPRep ps q with
  | case1 => simp
  | case2 p ps q => exact fun h => (List.mem_cons.mp h).imp_right (List.mem_cons_of_mem _)
  | case3 p ps q _ ih =>
    intro h
    rcases List.mem_cons.mp h with h | h
    · exact Or.inr (by simp [h])
    · exact (ih h).imp_right (List.mem_cons_of_mem _)

theorem nodup_setPRep (ps : List PRep) (q : PRep) (h : (ps.map (·.owner)).Nodup) :
    ((setPRep ps q).map (·.owner)).Nodup := by
  fun_induction setPRep ps q with
  | case1 => exact List.nodup_cons.mpr ⟨nofun, .nil⟩
  | case2 p ps q hpq => rwa [List.map_cons, ← eq_of_beq hpq]
  | case3 p ps q hpq ih =>
    rw [List.map_cons, List.nodup_cons] at h ⊢
    refine ⟨fun hm => ?_, ih h.2⟩
    obtain ⟨x, hx, e⟩ := List.mem_map.mp hm
    rcases mem_setPRep hx with rfl | hx
    · exact hpq (beq_iff_eq.mpr e.symm)
    · exact h.1 (List.mem_map.mpr ⟨x, hx, e⟩)

theorem setPRep_append_of_not_mem (ps : List PRep) (q : PRep) (h : q.owner ∉ ps.map (·.owner)) :
    setPRep ps q = ps ++ [q] := by
  fun_induction setPRep ps q with
  | case1 => rfl
  | case2 p ps q hpq => exact absurd (List.mem_cons.mpr (Or.inl (eq_of_beq hpq).symm)) h
  | case3 p ps q _ ih => rw [ih fun hm => h (List.mem_cons_of_mem _ hm)]; rfl

theorem setPRep_setPRep (ps : List PRep) (z q : PRep) (h : z.owner = q.owner) :
    setPRep (setPRep ps z) q = setPRep ps q := by
  fun_induction setPRep ps q with
  | case1 q => simp only [setPRep, h, beq_self_eq_true, if_true]
  | case2 p ps q hp => simp only [setPRep, h, hp, if_true, beq_self_eq_true]
  | case3 p ps q hp ih => simp only [setPRep, h, hp, Bool.false_eq_true, if_false, ih h]

/-- the entry `PRepInfo.ApplyVote` creates for an unknown target -/
def zeroPRep (br : Int) (k : Nat) : PRep := newPRep br k esDisablePermanent 0 0 0 false

/-- the entry of `k`, or the entry that would be created for it -/
def entryOf (pi : PRepInfo) (k : Nat) : PRep := (getPRep pi.preps k).getD (zeroPRep pi.br k)

theorem entryOf_some {pi : PRepInfo} {k : Nat} {p : PRep} (h : getPRep pi.preps k = some p) : entryOf pi k = p := by
  rw [entryOf, h]
  rfl

theorem entryOf_none {pi : PRepInfo} {k : Nat} (h : getPRep pi.preps k = none) : entryOf pi k = zeroPRep pi.br k := by
  rw [entryOf, h]
  rfl

def setSt (s : Nat) (p : PRep) : PRep := { p with status := s }

theorem calcPower_zero (br : Int) : calcPower br 0 0 = 0 := by
  fun_cases calcPower br 0 0 <;> simp

theorem applyVote_setSt (s : Nat) (p : PRep) (b : Bool) (a per br : Int) :
    (setSt s p).applyVote b a per br = setSt s (p.applyVote b a per br) := by
  rw [applyVote_eq, applyVote_eq]; rfl

theorem applyVote_owner (p : PRep) (b : Bool) (a per br : Int) : (p.applyVote b a per br).owner = p.owner := by
  rw [applyVote_eq]

theorem applyVote_votes (p : PRep) (b : Bool) (a per br : Int) :
    let q := p.applyVote b a per br
    q.delegated = (if b then p.delegated else p.delegated + a) ∧
    q.bonded = (if b then p.bonded + a else p.bonded) ∧ q.votedValue = p.votedValue + a ∧
    q.power = calcPower br q.bonded q.votedValue := by
  have hv : (p.applyVote b a per br).votedValue = p.votedValue + a := by
    rw [applyVote_eq]
    cases b
    · exact Int.add_right_comm ..
    · exact (Int.add_assoc ..).symm
  refine ⟨?_, ?_, hv, ?_⟩
  · rw [applyVote_eq]
  · rw [applyVote_eq]
  · rw [hv, applyVote_eq]

theorem runVotes_setSt (L br : Int) (s : Nat) (evs : List (Bool × Int × Int)) (p : PRep) :
    runVotes L br (setSt s p) evs = setSt s (runVotes L br p evs) := by
  fun_induction runVotes L br p evs with
  | case1 => rfl
  | case2 p b a o rest ih => simp only [runVotes, applyVote_setSt, ih]

theorem runVotes_append (L br : Int) (e1 e2 : List (Bool × Int × Int)) (p : PRep) :
    runVotes L br p (e1 ++ e2) = runVotes L br (runVotes L br p e1) e2 := by
  fun_induction runVotes L br p e1 with
  | case1 => rfl
  | case2 p b a o rest ih => exact ih

theorem entryOf_owner (pi : PRepInfo) (k : Nat) : (entryOf pi k).owner = k := by
  unfold entryOf
  cases hg : getPRep pi.preps k with
  | some p => exact getPRep_owner hg
  | none => rfl

theorem applyVote1_eq (pi : PRepInfo) (b : Bool) (o : Int) (v : Nat × Int) :
    pi.applyVote1 b o v =
      { pi with preps := setPRep pi.preps ((entryOf pi v.1).applyVote b v.2 ((pi.offsetLimit : Int) - o) pi.br) } := by
  unfold PRepInfo.applyVote1 entryOf
  cases hg : getPRep pi.preps v.1 with
  | some p => simp only [hg]; rfl
  | none =>
    have h1 : getPRep (pi.add v.1 esDisablePermanent 0 0 0 false).preps v.1 = some (zeroPRep pi.br v.1) := by
      simp only [PRepInfo.add, getPRep_setPRep]; exact if_pos rfl
    simp only [h1]
    exact congrArg (fun ps => { pi with preps := ps }) (setPRep_setPRep _ _ _ (applyVote_owner ..).symm)

theorem setStatus_eq (pi : PRepInfo) (t s : Nat) :
    pi.setStatus t s = { pi with preps := setPRep pi.preps (setSt s (entryOf pi t)) } := by
  unfold PRepInfo.setStatus entryOf
  cases hg : getPRep pi.preps t <;> rfl

/-- both writers of the table (`applyVote1_eq`, `setStatus_eq`) put `f (entryOf pi t)` for an owner-preserving `f` -/
theorem entryOf_upd (pi : PRepInfo) (f : PRep → PRep) (hf : ∀ p, (f p).owner = p.owner) (t k : Nat) :
    entryOf { pi with preps := setPRep pi.preps (f (entryOf pi t)) } k = if t = k then f (entryOf pi k) else entryOf pi k := by
  show (getPRep (setPRep pi.preps _) k).getD _ = _
  rw [getPRep_setPRep, hf, entryOf_owner]
  split
  · rename_i hk; rw [hk]; rfl
  · rfl

theorem entryOf_applyVote1 (pi : PRepInfo) (b : Bool) (o : Int) (v : Nat × Int) (k : Nat) :
    entryOf (pi.applyVote1 b o v) k =
      if v.1 = k then (entryOf pi k).applyVote b v.2 ((pi.offsetLimit : Int) - o) pi.br else entryOf pi k := by
  rw [applyVote1_eq]
  exact entryOf_upd pi (·.applyVote b v.2 _ pi.br) (fun _ => applyVote_owner ..) v.1 k

/-- the votes of one event that go to `k`, as `(isBond, amount, offset)` -/
def votesOfEvent (k : Nat) (b : Bool) (o : Int) (vs : Votes) : List (Bool × Int × Int) :=
  (vs.filter (fun v => v.1 == k)).map (fun v => (b, v.2, o))

theorem entryOf_applyVote (b : Bool) (o : Int) (k : Nat) : ∀ (vs : Votes) (pi : PRepInfo),
    entryOf (pi.applyVote b vs o) k =
      runVotes (pi.offsetLimit : Int) pi.br (entryOf pi k) (votesOfEvent k b o vs) := by
  intro vs
  induction vs with
  | nil => intro pi; rfl
  | cons v rest ih =>
    intro pi
    have hc := cfg_fields (cfg_applyVote1 pi b o v)
    show entryOf ((pi.applyVote1 b o v).applyVote b rest o) k = _
    rw [ih, entryOf_applyVote1, hc.2.2, hc.2.1]
    by_cases hk : v.1 = k
    · have hb : (v.1 == k) = true := by simpa using hk
      rw [if_pos hk]
      simp only [votesOfEvent, List.filter_cons, hb, if_true, List.map_cons, runVotes]
    · have hb : (v.1 == k) = false := by simpa using hk
      rw [if_neg hk]
      simp only [votesOfEvent, List.filter_cons, hb, Bool.false_eq_true, if_false]

theorem entryOf_setStatus (pi : PRepInfo) (t s k : Nat) :
    entryOf (pi.setStatus t s) k = if t = k then setSt s (entryOf pi k) else entryOf pi k := by
  rw [setStatus_eq]
  exact entryOf_upd pi (setSt s) (fun _ => rfl) t k

/-- all votes for `k` in the event list, in order, as `(isBond, amount, offset)` -/
def voteEvents (k : Nat) : List Event → List (Bool × Int × Int)
  | [] => []
  | .enable _ _ _ :: rest => voteEvents k rest
  | .vote b o _ vs :: rest => votesOfEvent k b (o : Int) vs ++ voteEvents k rest

theorem entryOf_events (k : Nat) (evs : List Event) (pi : PRepInfo) :
    ∃ s, entryOf (evs.foldl applyEvent pi) k =
      setSt s (runVotes (pi.offsetLimit : Int) pi.br (entryOf pi k) (voteEvents k evs)) := by
  fun_induction voteEvents k evs generalizing pi with
  | case1 => exact ⟨(entryOf pi k).status, rfl⟩
  | case2 o t st rest ih =>
    obtain ⟨s, hs⟩ := ih (applyEvent pi (.enable o t st))
    have hc := cfg_fields (cfg_applyEvent pi (.enable o t st))
    rw [hc.2.2, hc.2.1, applyEvent, entryOf_setStatus] at hs
    refine ⟨s, hs.trans ?_⟩
    split
    · rw [runVotes_setSt]; rfl
    · rfl
  | case3 b o f vs rest ih =>
    obtain ⟨s, hs⟩ := ih (applyEvent pi (.vote b o f vs))
    have hc := cfg_fields (cfg_applyEvent pi (.vote b o f vs))
    rw [hc.2.2, hc.2.1, applyEvent, entryOf_applyVote, ← runVotes_append] at hs
    exact ⟨s, hs⟩

theorem entryOf_after (i : Input) (k : Nat) : ∃ s, entryOf (prepInfoAfterEvents i) k =
    setSt s (runVotes (i.offsetLimit : Int) i.br (entryOf (loadPRepInfo i) k) (voteEvents k i.events)) := by
  have hc := cfg_fields (cfg_load i)
  rw [← hc.2.1, ← hc.2.2]
  exact entryOf_events k i.events (loadPRepInfo i)

/-- the running Voted totals of one P-Rep never go negative: `bonded ≥ 0` and
    `delegated + bonded ≥ 0` initially and after every vote `(isBond, amount, offset)` -/
def totalsOk : Int → Int → List (Bool × Int × Int) → Bool
  | d, b, [] => decide (0 ≤ b) && decide (0 ≤ d + b)
  | d, b, (isB, a, _) :: rest =>
    decide (0 ≤ b) && decide (0 ≤ d + b) && (if isB then totalsOk d (b + a) rest else totalsOk (d + a) b rest)

/-- offsets non-decreasing from `o` on and at most `L` -/
def offsetsOk (L : Int) : Int → List (Bool × Int × Int) → Prop
  | _, [] => True
  | o, (_, _, o') :: rest => o ≤ o' ∧ o' ≤ L ∧ offsetsOk L o' rest

theorem totalsOk_head (d b : Int) (evs : List (Bool × Int × Int)) : totalsOk d b evs = true → 0 ≤ b ∧ 0 ≤ d + b := by
  fun_cases totalsOk d b evs <;> simp only [Bool.and_eq_true, decide_eq_true_eq]
  · exact id
  · exact fun h => h.1

theorem calcPower_bounds (br b v : Int) (hbr : 0 ≤ br) (hb : 0 ≤ b) (hv : 0 ≤ v) :
    0 ≤ calcPower br b v ∧ calcPower br b v ≤ v := by
  fun_cases calcPower br b v with
  | case1 => exact ⟨hv, Int.le_refl v⟩
  | case2 =>
    have : 0 ≤ b * denom / br := Int.ediv_nonneg (Int.mul_nonneg hb (by decide)) hbr
    exact ⟨Int.le_min.mpr ⟨this, hv⟩, Int.min_le_right ..⟩

theorem accSlack_step (p : PRep) (b : Bool) (a br L o o' : Int)
    (hw : p.power ≤ p.votedValue) (ho : o ≤ o')
    (hinv : (p.votedValue - p.power) * (L - o) ≤ p.accVoted - p.accPower) :
    ((p.applyVote b a (L - o') br).votedValue - (p.applyVote b a (L - o') br).power) * (L - o') ≤
      (p.applyVote b a (L - o') br).accVoted - (p.applyVote b a (L - o') br).accPower := by
  rw [applyVote_accVoted, applyVote_accPower, (applyVote_votes p b a (L - o') br).2.2.1]
  generalize (p.applyVote b a (L - o') br).power = pw'
  have hm : (p.votedValue - p.power) * (L - o') ≤ (p.votedValue - p.power) * (L - o) :=
    Int.mul_le_mul_of_nonneg_left (Int.sub_le_sub_left ho L) (Int.sub_nonneg_of_le hw)
  simp only [Int.sub_mul, Int.add_mul] at hm hinv ⊢
  omega

/-- the last three hypotheses are the invariant of an entry at offset `o`: power in sync with the totals,
    `power·(L−o) ≤ accumulatedPower`, `(voted−power)·(L−o) ≤ accumulatedVoted − accumulatedPower`; the last is
    carried only for `accumulatedPower ≤ accumulatedVoted` at the end, whence
    `0 < accumulatedVoted` of a rewardable entry -/
theorem runVotes_facts (L br : Int) (hbr : 0 ≤ br) (evs : List (Bool × Int × Int)) (p : PRep) (o : Int) :
    o ≤ L → offsetsOk L o evs → totalsOk p.delegated p.bonded evs = true →
    p.power = calcPower br p.bonded p.votedValue → p.power * (L - o) ≤ p.accPower →
    (p.votedValue - p.power) * (L - o) ≤ p.accVoted - p.accPower →
    0 ≤ (runVotes L br p evs).accPower ∧ (runVotes L br p evs).accPower ≤ (runVotes L br p evs).accVoted := by
  fun_induction runVotes L br p evs generalizing o with
  | case1 p =>
    intro hoL _ ht hs h1 h2
    have ⟨tb, tv⟩ := totalsOk_head _ _ _ ht
    have ⟨c1, c2⟩ := calcPower_bounds br p.bonded p.votedValue hbr tb tv
    rw [← hs] at c1 c2
    have n1 : 0 ≤ p.power * (L - o) := Int.mul_nonneg c1 (Int.sub_nonneg_of_le hoL)
    have n2 : 0 ≤ (p.votedValue - p.power) * (L - o) :=
      Int.mul_nonneg (Int.sub_nonneg_of_le c2) (Int.sub_nonneg_of_le hoL)
    exact ⟨Int.le_trans n1 h1, Int.le_of_sub_nonneg (Int.le_trans n2 h2)⟩
  | case2 p b a o' rest ih =>
    intro hoL ⟨ho1, ho2, ho3⟩ ht hs h1 h2
    have ⟨tb, tv⟩ := totalsOk_head _ _ _ ht
    have ⟨c1, c2⟩ := calcPower_bounds br p.bonded p.votedValue hbr tb tv
    rw [← hs] at c1 c2
    simp only [totalsOk, Bool.and_eq_true, decide_eq_true_eq] at ht
    have hv := applyVote_votes p b a (L - o') br
    have ht' : totalsOk (p.applyVote b a (L - o') br).delegated (p.applyVote b a (L - o') br).bonded rest = true := by
      rw [hv.1, hv.2.1]
      cases b <;> exact ht.2
    exact ih o' ho2 ho3 ht' hv.2.2.2 (accPower_step p b a br L o o' c1 ho1 h1)
      (accSlack_step p b a br L o o' c2 ho1 h2)

theorem runVotes_static (L br : Int) (evs : List (Bool × Int × Int)) (p : PRep) : ∃ d b pw av ap,
    runVotes L br p evs = { p with delegated := d, bonded := b, power := pw, accVoted := av, accPower := ap } := by
  fun_induction runVotes L br p evs with
  | case1 => exact ⟨_, _, _, _, _, rfl⟩
  | case2 p b a o rest ih =>
    obtain ⟨_, _, _, _, _, h⟩ := ih
    rw [h, applyVote_eq]
    exact ⟨_, _, _, _, _, rfl⟩

/-- the vote events' offsets are non-decreasing (from `o` on) and at most `L` -/
def eventOffsetsOk (L : Nat) : Nat → List Event → Bool
  | _, [] => true
  | o, .enable _ _ _ :: rest => eventOffsetsOk L o rest
  | o, .vote _ o' _ _ :: rest => decide (o ≤ o') && decide (o' ≤ L) && eventOffsetsOk L o' rest

theorem offsetsOk_mono (L : Int) (evs : List (Bool × Int × Int)) (o o' : Int) (h : o ≤ o')
    (hv : offsetsOk L o' evs) : offsetsOk L o evs := by
  cases evs with
  | nil => trivial
  | cons e rest => exact ⟨Int.le_trans h hv.1, hv.2⟩

theorem offsetsOk_const_append (L o' : Int) (b : Bool) (hle : o' ≤ L) (rest : List (Bool × Int × Int))
    (hr : offsetsOk L o' rest) : ∀ (vs : Votes) (o : Int), o ≤ o' →
    offsetsOk L o (vs.map (fun v => (b, v.2, o')) ++ rest)
  | [], o, ho => offsetsOk_mono L rest o o' ho hr
  | _ :: vs, _, ho => ⟨ho, hle, offsetsOk_const_append L o' b hle rest hr vs o' (Int.le_refl _)⟩

theorem voteEvents_offsetsOk (k L : Nat) (evs : List Event) (o : Nat) : eventOffsetsOk L o evs = true →
    offsetsOk (L : Int) (o : Int) (voteEvents k evs) := by
  fun_induction eventOffsetsOk L o evs with
  | case1 => exact fun _ => trivial
  | case2 o _ _ _ rest ih => exact ih
  | case3 o b o' f vs rest ih =>
    intro h
    simp only [Bool.and_eq_true, decide_eq_true_eq] at h
    exact offsetsOk_const_append (L : Int) (o' : Int) b (Int.ofNat_le.mpr h.1.2) _ (ih h.2) _ (o : Int)
      (Int.ofNat_le.mpr h.1.1)

theorem votesTo_flatten {α} (k : Nat) (F : α → Votes) (V : List α) :
    votesTo k (V.map F).flatten = sumInt (V.map fun v => votesTo k (F v)) := by
  rw [votesTo, votesFor, List.filter_flatten, List.map_map, sumInt_flatten_map]
  rfl

theorem sumInt_map_mul_const {α} (l : List α) (f : α → Int) (c : Int) :
    sumInt (l.map (fun x => f x * c)) = sumInt (l.map f) * c :=
  sum_map_mul_const l f c

theorem evSum_cons (k : Nat) (L : Int) (e : Bool × Nat × Votes) (rest : List (Bool × Nat × Votes)) :
    evSum k L (e :: rest) = votesTo k e.2.2 * (L - (e.2.1 : Int)) + evSum k L rest := rfl

theorem sum_votesOfEvent (k : Nat) (b : Bool) (o L : Int) (vs : Votes) :
    sumInt ((votesOfEvent k b o vs).map (fun e => e.2.1 * (L - e.2.2))) = votesTo k vs * (L - o) := by
  simp only [votesOfEvent, List.map_map, votesTo, votesFor]
  rw [← sumInt_map_mul_const]
  rfl

theorem eventsOf_vote (b : Bool) (o f : Nat) (vs : Votes) (rest : List Event) (v : Nat) :
    eventsOf (Event.vote b o f vs :: rest) v =
      if f == v then (b, o, vs) :: eventsOf rest v else eventsOf rest v := by
  by_cases h : (f == v) = true
  · simp only [eventsOf, List.filterMap_cons, h, if_true]
  · have h' : (f == v) = false := by simpa using h
    simp only [eventsOf, List.filterMap_cons, h', Bool.false_eq_true, if_false]

theorem eventsOf_enable (o t s : Nat) (rest : List Event) (v : Nat) :
    eventsOf (Event.enable o t s :: rest) v = eventsOf rest v := rfl

theorem sum_evSum_eq (k : Nat) (L : Int) (V : List Nat) (hnd : V.Nodup) (evs : List Event) :
    (∀ b o f vs, Event.vote b o f vs ∈ evs → f ∈ V) →
    sumInt (V.map (fun v => evSum k L (eventsOf evs v))) =
      sumInt ((voteEvents k evs).map (fun e => e.2.1 * (L - e.2.2))) := by
  fun_induction voteEvents k evs with
  | case1 => exact fun _ => sum_map_zero V
  | case2 o t s rest ih =>
    simp only [eventsOf_enable]
    exact fun hs => ih fun b o f vs hm => hs b o f vs (List.mem_cons_of_mem _ hm)
  | case3 b o f vs rest ih =>
    intro hs
    have hg : ∀ v, evSum k L (eventsOf (Event.vote b o f vs :: rest) v) =
        if f == v then evSum k L (eventsOf rest v) + votesTo k vs * (L - (o : Int))
        else evSum k L (eventsOf rest v) := by
      intro v
      rw [eventsOf_vote]
      split
      · exact Int.add_comm ..
      · rfl
    rw [sum_update V hnd f (hs b o f vs (List.mem_cons_self ..)) _ _ _ hg,
      ih fun b o f vs hm => hs b o f vs (List.mem_cons_of_mem _ hm)]
    simp only [List.map_append, sumInt_append, sum_votesOfEvent]
    exact Int.add_comm ..

theorem nodup_eraseDups : ∀ (l : List Nat), l.eraseDups.Nodup
  | [] => List.nodup_nil
  | a :: as => by
    rw [List.eraseDups_cons, List.nodup_cons]
    refine ⟨fun hm => ?_, nodup_eraseDups _⟩
    simp at hm
termination_by l => l.length
decreasing_by exact Nat.lt_succ_of_le (List.length_filter_le ..)

/-- P-Reps' view of the voters: Σ over the voter set of the base delegation+bond to `k` -/
def baseVotes (i : Input) (k : Nat) : Int :=
  sumInt ((voterSet i).map (fun v => votesTo k (lookupVotes i.delegating v) + votesTo k (lookupVotes i.bonding v)))

theorem nodup_append_filter {l1 l2 : List Nat} (c : Nat → Bool) (h1 : l1.Nodup) (h2 : l2.Nodup)
    (hc : ∀ k ∈ l1, c k = false) : (l1 ++ l2.filter c).Nodup :=
  List.nodup_append.mpr ⟨h1, h2.sublist List.filter_sublist, fun a ha b hb e => by
    rw [← e, List.mem_filter, hc a ha] at hb; cases hb.2⟩

theorem mem_append_filter {l1 l2 : List Nat} (c : Nat → Bool) (k : Nat) (hk : k ∈ l2) (hc : c k = false → k ∈ l1) :
    k ∈ l1 ++ l2.filter c := by
  cases h : c k with
  | false => exact List.mem_append_left _ (hc h)
  | true => exact List.mem_append_right _ (List.mem_filter.mpr ⟨hk, h⟩)

theorem voterSet_nodup (i : Input) (hd : (i.delegating.map (·.1)).Nodup) (hb : (i.bonding.map (·.1)).Nodup) :
    (voterSet i).Nodup := by
  have h1 : ((i.delegating.filter (fun e => !e.2.isEmpty)).map (·.1)).Nodup :=
    List.Nodup.sublist (List.Sublist.map _ List.filter_sublist) hd
  have h2 : ((i.bonding.filter (fun e => !e.2.isEmpty)).map (·.1)).Nodup :=
    List.Nodup.sublist (List.Sublist.map _ List.filter_sublist) hb
  refine nodup_append_filter _ (nodup_append_filter _ h1 h2 fun k hk => ?_) (nodup_eraseDups _)
    fun k hk => ?_
  · rw [List.contains_iff_mem.mpr hk]; rfl
  · rcases List.mem_append.mp hk with h | h
    · rw [List.contains_iff_mem.mpr h]; rfl
    · rw [List.contains_iff_mem.mpr h, Bool.not_true, Bool.and_false]

theorem mem_eventSenders {evs : List Event} {b : Bool} {o f : Nat} {vs : Votes} (h : Event.vote b o f vs ∈ evs) :
    f ∈ eventSenders evs := by
  unfold eventSenders
  rw [List.mem_eraseDups, List.mem_filterMap]
  exact ⟨_, h, rfl⟩

theorem sender_mem_voterSet (i : Input) (b : Bool) (o f : Nat) (vs : Votes) (h : Event.vote b o f vs ∈ i.events) :
    f ∈ voterSet i := by
  refine mem_append_filter _ f (mem_eventSenders h) fun hc => ?_
  simp only [Bool.and_eq_false_iff, Bool.not_eq_false', List.contains_iff_mem] at hc
  exact List.mem_append.mpr hc

theorem votesTo_allVotes (i : Input) (k : Nat) (hd : (i.delegating.map (·.1)).Nodup)
    (hb : (i.bonding.map (·.1)).Nodup) :
    votesTo k (allVotes i) = baseVotes i k * ((i.offsetLimit : Int) + 1) +
      sumInt ((voteEvents k i.events).map (fun e => e.2.1 * ((i.offsetLimit : Int) - e.2.2))) := by
  unfold allVotes
  rw [votesTo_flatten, List.map_congr_left fun v _ => voterAV_votesTo i v k, sumInt_map_add, sumInt_map_mul_const,
    sum_evSum_eq k _ _ (voterSet_nodup i hd hb) i.events (fun b o f vs h => sender_mem_voterSet i b o f vs h)]
  rfl

-- `mkLoaded`: the entry the `foldl` of `loadPRepInfo` adds (`PRepInfo.add`) for the Voted record `r`;
-- `initAcc`: what `PRepInfo.initAccumulated` maps over the entries
def mkLoaded (br : Int) (r : PRep) : PRep := newPRep br r.owner r.status r.delegated r.bonded r.rate r.pubkey

def initAcc (e : Nat) (T : Int) (p : PRep) : PRep :=
  if p.inElected e then { p with accVoted := p.votedValue * T, accPower := p.power * T } else p

theorem foldl_add_preps : ∀ (l : List PRep) (pi : PRepInfo),
    ((pi.preps.map (·.owner)) ++ l.map (·.owner)).Nodup →
    l.foldl (fun pi p => pi.add p.owner p.status p.delegated p.bonded p.rate p.pubkey) pi =
      { pi with preps := pi.preps ++ l.map (mkLoaded pi.br) } := by
  intro l
  induction l with
  | nil => intro pi _; simp
  | cons r l ih =>
    intro pi hnd
    have hnot : r.owner ∉ pi.preps.map (·.owner) := by
      rw [List.nodup_append] at hnd
      intro hm
      exact hnd.2.2 _ hm _ (by simp) rfl
    have hp : pi.add r.owner r.status r.delegated r.bonded r.rate r.pubkey =
        { pi with preps := pi.preps ++ [mkLoaded pi.br r] } := by
      rw [PRepInfo.add, setPRep_append_of_not_mem _ (newPRep pi.br r.owner r.status r.delegated r.bonded r.rate r.pubkey) hnot]
      rfl
    rw [List.foldl_cons, hp, ih _ (by simpa [mkLoaded, newPRep] using hnd)]
    simp

theorem insertSorted_perm (p : PRep) (l : List PRep) : (insertSorted p l).Perm (p :: l) := by
  fun_induction insertSorted p l with
  | case1 | case2 => exact .refl _
  | case3 q qs _ ih => exact (ih.cons q).trans (.swap p q qs)

theorem sortPReps_perm : ∀ (l : List PRep), (sortPReps l).Perm l := by
  intro l
  induction l with
  | nil => exact List.Perm.refl _
  | cons p ps ih =>
    simp only [sortPReps, List.foldr_cons]
    exact (insertSorted_perm p _).trans (List.Perm.cons p ih)

theorem assignRanks_owners (l : List PRep) (s : Nat) : (assignRanks s l).map (·.owner) = l.map (·.owner) := by
  fun_induction assignRanks s l with
  | case1 => rfl
  | case2 s p ps ih => rw [List.map_cons, ih]; rfl

theorem assignRanks_mem (l : List PRep) (s : Nat) (q : PRep) : q ∈ assignRanks s l →
    ∃ p ∈ l, ∃ r, q = { p with rank := r, ranked := true } := by
  fun_induction assignRanks s l with
  | case1 => nofun
  | case2 s p ps ih =>
    intro h
    rcases List.mem_cons.mp h with h | h
    · exact ⟨p, by simp, s, h⟩
    · obtain ⟨p', hp', r, hr⟩ := ih h
      exact ⟨p', by simp [hp'], r, hr⟩

theorem assignRanks_count (e : Nat) (l : List PRep) (s : Nat) :
    ((assignRanks s l).filter (fun p => p.inElected e)).length ≤ e - s := by
  fun_induction assignRanks s l with
  | case1 => simp
  | case2 s p ps ih =>
    rw [List.filter_cons]
    by_cases h : s < e
    · simp only [PRep.inElected, h, decide_true, Bool.and_self, if_true, List.length_cons]
      simp only [PRep.inElected] at ih
      omega
    · simp only [PRep.inElected, h, decide_false, Bool.and_false, Bool.false_eq_true, if_false]
      simp only [PRep.inElected] at ih
      omega

theorem initAcc_inElected (e e' : Nat) (T : Int) (p : PRep) : (initAcc e T p).inElected e' = p.inElected e' := by
  fun_cases initAcc e T p <;> rfl

theorem initAcc_owner (e : Nat) (T : Int) (p : PRep) : (initAcc e T p).owner = p.owner := by
  fun_cases initAcc e T p <;> rfl

theorem load_preps (i : Input) (hnd : (i.voteds.map (·.owner)).Nodup) :
    (loadPRepInfo i).preps =
      (assignRanks 0 (sortPReps ((i.voteds.filter (fun p => !votedIsEmpty p)).map (mkLoaded i.br)))).map
        (initAcc i.elected ((i.offsetLimit : Int) + 1)) := by
  have hnd' : ((i.voteds.filter (fun p => !votedIsEmpty p)).map (·.owner)).Nodup :=
    List.Nodup.sublist (List.Sublist.map _ List.filter_sublist) hnd
  have hp := foldl_add_preps (i.voteds.filter (fun p => !votedIsEmpty p))
    ({ elected := i.elected, br := i.br, offsetLimit := i.offsetLimit } : PRepInfo) (by simpa using hnd')
  simp only [loadPRepInfo, PRepInfo.initAccumulated, PRepInfo.sort, PRepInfo.termPeriod, hp, List.nil_append]
  rfl

theorem load_owners (i : Input) (hnd : (i.voteds.map (·.owner)).Nodup) :
    ((loadPRepInfo i).preps.map (·.owner)).Perm ((i.voteds.filter (fun p => !votedIsEmpty p)).map (·.owner)) := by
  rw [load_preps i hnd, List.map_map]
  have : ((fun (p : PRep) => p.owner) ∘ initAcc i.elected ((i.offsetLimit : Int) + 1)) = fun p => p.owner :=
    funext (initAcc_owner _ _)
  rw [this, assignRanks_owners]
  have hperm := (sortPReps_perm ((i.voteds.filter (fun p => !votedIsEmpty p)).map (mkLoaded i.br))).map (·.owner)
  rw [List.map_map] at hperm
  exact hperm

theorem load_mem (i : Input) (hnd : (i.voteds.map (·.owner)).Nodup) (p : PRep) (hp : p ∈ (loadPRepInfo i).preps) :
    ∃ r ∈ i.voteds, ∃ rk,
      p = initAcc i.elected ((i.offsetLimit : Int) + 1) { mkLoaded i.br r with rank := rk, ranked := true } := by
  rw [load_preps i hnd, List.mem_map] at hp
  obtain ⟨p1, hp1, rfl⟩ := hp
  obtain ⟨p2, hp2, rk, rfl⟩ := assignRanks_mem _ _ _ hp1
  rw [(sortPReps_perm _).mem_iff, List.mem_map] at hp2
  obtain ⟨r, hr, rfl⟩ := hp2
  exact ⟨r, (List.mem_filter.mp hr).1, rk, rfl⟩

def eventTargets : List Event → List Nat
  | [] => []
  | .enable _ t _ :: rest => t :: eventTargets rest
  | .vote _ _ _ vs :: rest => vs.map (·.1) ++ eventTargets rest

/-- Every event replaces, for some of its targets `k`, the entry of `k` (present or fresh) by one
    with the same rank, so elected or not as before: a property of the entry list that survives this
    is kept by the events. -/
theorem events_preserve (P : List PRep → Prop) : ∀ (evs : List Event),
    (∀ (pi : PRepInfo) (k : Nat) (q : PRep), k ∈ eventTargets evs → q.owner = k →
      (∀ e, q.inElected e = (entryOf pi k).inElected e) → P pi.preps → P (setPRep pi.preps q)) →
    ∀ (pi : PRepInfo), P pi.preps → P (evs.foldl applyEvent pi).preps
  | [], _, _, hp => hp
  | .enable o t s :: rest, h, pi, hp => by
    refine events_preserve P rest (fun pi k q hk => h pi k q (List.mem_cons_of_mem _ hk)) (pi.setStatus t s) ?_
    rw [setStatus_eq]
    exact h pi t _ (List.mem_cons_self ..) (entryOf_owner ..) (fun _ => rfl) hp
  | .vote b o f vs :: rest, h, pi, hp => by
    refine events_preserve P rest (fun pi k q hk => h pi k q (List.mem_append_right _ hk)) _ ?_
    refine List.foldlRecOn (motive := fun pi : PRepInfo => P pi.preps) vs _ hp fun pi hp v hv => ?_
    rw [applyVote1_eq]
    exact h pi v.1 _ (List.mem_append_left _ (List.mem_map_of_mem hv))
      ((applyVote_owner ..).trans (entryOf_owner ..)) (fun _ => by rw [applyVote_eq]; rfl) hp

theorem nodup_after (i : Input) (hnd : (i.voteds.map (·.owner)).Nodup) :
    ((prepInfoAfterEvents i).preps.map (·.owner)).Nodup := by
  refine events_preserve (fun ps => (ps.map (·.owner)).Nodup) i.events (fun _ _ q _ _ _ => nodup_setPRep _ q) (loadPRepInfo i) ?_
  exact (load_owners i hnd).nodup_iff.mpr (hnd.sublist (List.filter_sublist.map _))

/-- number of entries ranked below `e` -/
def cnt (e : Nat) (ps : List PRep) : Nat := (ps.filter (fun p => p.inElected e)).length

theorem cnt_setPRep (e : Nat) (q z : PRep) (hz : z.inElected e = false) (ps : List PRep) :
    q.inElected e = ((getPRep ps q.owner).getD z).inElected e → cnt e (setPRep ps q) = cnt e ps := by
  fun_induction setPRep ps q with
  | case1 q => exact fun h => by simp [cnt, h.trans hz]
  | case2 p ps q hpq =>
    intro h
    rw [getPRep_cons, if_pos (eq_of_beq hpq)] at h
    simp only [cnt, List.filter_cons, h, Option.getD_some]
    split <;> rfl
  | case3 p ps q hpq ih =>
    intro h
    rw [getPRep_cons, if_neg fun e => hpq (beq_iff_eq.mpr e)] at h
    have := ih h
    simp only [cnt, List.filter_cons] at this ⊢
    split <;> simp [this]

/-- the ranks the loader assigns are 0, 1, 2, …, and no event changes the rank of an entry -/
theorem count_after (i : Input) (hnd : (i.voteds.map (·.owner)).Nodup) :
    cnt i.elected (prepInfoAfterEvents i).preps ≤ i.elected := by
  refine events_preserve (fun ps => cnt i.elected ps ≤ i.elected) i.events (fun pi k q _ hk hin hc => ?_) (loadPRepInfo i) ?_
  · rw [← hk] at hin
    exact le_of_eq_of_le (cnt_setPRep _ q _ rfl pi.preps (hin _)) hc
  · rw [cnt, load_preps i hnd, List.filter_map, List.length_map]
    have : ((fun (p : PRep) => p.inElected i.elected) ∘ initAcc i.elected ((i.offsetLimit : Int) + 1)) =
        fun p => p.inElected i.elected := by
      funext p; exact initAcc_inElected _ _ _ p
    rw [this]
    exact assignRanks_count i.elected (sortPReps ((i.voteds.filter (fun p => !votedIsEmpty p)).map (mkLoaded i.br))) 0

/-- delegated / bonded amount of the Voted record of `k` in the base reward state (0 if none) -/
def baseDelegated (i : Input) (k : Nat) : Int := match getPRep i.voteds k with | some r => r.delegated | none => 0
def baseBonded (i : Input) (k : Nat) : Int := match getPRep i.voteds k with | some r => r.bonded | none => 0

/-- an address without entry after loading has no Voted record, or an empty one (those are not loaded) -/
theorem load_none (i : Input) (hnd : (i.voteds.map (·.owner)).Nodup) (k : Nat)
    (h : getPRep (loadPRepInfo i).preps k = none) : baseDelegated i k = 0 ∧ baseBonded i k = 0 := by
  rw [getPRep_none, (load_owners i hnd).mem_iff, List.mem_map] at h
  unfold baseDelegated baseBonded
  cases hv : getPRep i.voteds k with
  | none => exact ⟨rfl, rfl⟩
  | some r =>
    cases he : votedIsEmpty r with
    | false => exact absurd ⟨r, List.mem_filter.mpr ⟨getPRep_mem hv, by simp [he]⟩, getPRep_owner hv⟩ h
    | true =>
      simp only [votedIsEmpty, Bool.and_eq_true, beq_iff_eq] at he
      exact ⟨he.1.1.2, he.1.2⟩

/-- every address that can own a P-Rep entry: Voted records and event targets -/
def prepKeys (i : Input) : List Nat := i.voteds.map (·.owner) ++ eventTargets i.events

/-- **well-formedness of the raw input** (reward database + event list of the term), decidable:
    non-negative bond requirement / fund / rates; one Voted record per owner with commission rate
    in [0,100%]; one Delegating / Bonding record per voter; vote-event offsets non-decreasing and
    within the term; for every possible P-Rep address the running Voted totals (base record plus
    the votes of the event list, in order) never go negative; and the Voted records are consistent
    with the voters' records: what the voters hold for `k` is at most `delegated+bonded` of `k`. -/
def InputWF (i : Input) : Prop :=
  0 ≤ i.br ∧ 0 ≤ i.iglobal ∧ 0 ≤ i.iprepRate ∧ 0 ≤ i.iwageRate ∧
  (i.voteds.map (·.owner)).Nodup ∧ (∀ r ∈ i.voteds, 0 ≤ r.rate ∧ r.rate ≤ 10000) ∧
  (i.delegating.map (·.1)).Nodup ∧ (i.bonding.map (·.1)).Nodup ∧
  eventOffsetsOk i.offsetLimit 0 i.events = true ∧
  (∀ k ∈ prepKeys i, totalsOk (baseDelegated i k) (baseBonded i k) (voteEvents k i.events) = true) ∧
  (∀ k ∈ prepKeys i, baseVotes i k ≤ baseDelegated i k + baseBonded i k)

instance (i : Input) : Decidable (InputWF i) := by unfold InputWF; infer_instance

/-- what the proof needs of the entry of `k` right after `loadPRepInfo`; `init` is what
    `InitAccumulated` leaves in an elected entry, and holds of the all-zero fresh entry too -/
structure StartOk (i : Input) (k : Nat) (p0 : PRep) : Prop where
  clean : p0.commission = 0 ∧ p0.voterReward = 0 ∧ p0.wage = 0
  rate : 0 ≤ p0.rate ∧ p0.rate ≤ 10000
  deleg : p0.delegated = baseDelegated i k
  bond : p0.bonded = baseBonded i k
  init : p0.rank < i.elected → p0.power = calcPower i.br p0.bonded p0.votedValue ∧
    p0.accPower = p0.power * ((i.offsetLimit : Int) + 1) ∧ p0.accVoted = p0.votedValue * ((i.offsetLimit : Int) + 1)

theorem startOk (i : Input) (wf : InputWF i) (k : Nat) : StartOk i k (entryOf (loadPRepInfo i) k) := by
  obtain ⟨_, _, _, _, hnd, hrates, _⟩ := wf
  cases hg : getPRep (loadPRepInfo i).preps k with
  | some p0 =>
    obtain ⟨r, hr, rk, hp0⟩ := load_mem i hnd p0 (getPRep_mem hg)
    have hown : r.owner = k := by
      have := getPRep_owner hg
      rwa [hp0, initAcc_owner] at this
    have hv : getPRep i.voteds k = some r := by rw [← hown]; exact getPRep_of_mem_nodup _ hnd r hr
    have hbd : baseDelegated i k = r.delegated := by simp [baseDelegated, hv]
    have hbb : baseBonded i k = r.bonded := by simp [baseBonded, hv]
    rw [entryOf_some hg, hp0]
    unfold initAcc
    refine ite_pred (StartOk i k) _ _ _ (fun _ => ?_) fun hin => ?_
    · exact ⟨⟨rfl, rfl, rfl⟩, hrates r hr, hbd.symm, hbb.symm, fun _ => ⟨rfl, rfl, rfl⟩⟩
    · refine ⟨⟨rfl, rfl, rfl⟩, hrates r hr, hbd.symm, hbb.symm, fun hlt => absurd ?_ hin⟩
      simp only [PRep.inElected, Bool.true_and, decide_eq_true_eq]
      exact hlt
  | none =>
    have hz := load_none i hnd k hg
    rw [entryOf_none hg, (cfg_fields (cfg_load i)).2.2]
    refine ⟨⟨rfl, rfl, rfl⟩, ⟨Int.le_refl 0, (by decide : (0:Int) ≤ 10000)⟩, hz.1.symm, hz.2.symm, fun _ => ⟨rfl, ?_, ?_⟩⟩
    · show (0:Int) = calcPower i.br 0 (0 + 0) * _
      rw [Int.add_zero, calcPower_zero, Int.zero_mul]
    · show (0:Int) = (0 + 0) * _
      rw [Int.add_zero, Int.zero_mul]

theorem owner_mem_prepKeys (i : Input) (hnd : (i.voteds.map (·.owner)).Nodup) :
    ∀ p ∈ (prepInfoAfterEvents i).preps, p.owner ∈ prepKeys i := by
  refine events_preserve (fun ps => ∀ p ∈ ps, p.owner ∈ prepKeys i) i.events
    (fun _ k q hk hq _ hP x hx => (mem_setPRep hx).elim (fun e => by rw [e, hq]; exact List.mem_append_right _ hk) (hP x))
    (loadPRepInfo i) fun q hq => ?_
  have h := List.mem_map_of_mem (f := (·.owner)) hq
  rw [(load_owners i hnd).mem_iff, List.mem_map] at h
  obtain ⟨r, hr, hk⟩ := h
  exact List.mem_append_left _ (List.mem_map.mpr ⟨r, (List.mem_filter.mp hr).1, hk⟩)

theorem final_facts (i : Input) (wf : InputWF i) (p : PRep) (hp : p ∈ (prepInfoAfterEvents i).preps) :
    (p.commission = 0 ∧ p.voterReward = 0 ∧ p.wage = 0) ∧ (0 ≤ p.rate ∧ p.rate ≤ 10000) ∧
    (p.rank < i.elected → 0 ≤ p.accPower ∧ p.accPower ≤ p.accVoted ∧ votesTo p.owner (allVotes i) ≤ p.accVoted) := by
  have st := startOk i wf p.owner
  obtain ⟨hbr, _, _, _, hnd, _, hdn, hbn, hoff, htot, hcons⟩ := wf
  have hk := owner_mem_prepKeys i hnd p hp
  obtain ⟨s, hpe⟩ := entryOf_after i p.owner
  have he : entryOf (prepInfoAfterEvents i) p.owner = p :=
    entryOf_some (getPRep_of_mem_nodup _ (nodup_after i hnd) p hp)
  rw [he] at hpe
  generalize entryOf (loadPRepInfo i) p.owner = p0 at st hpe
  generalize p.owner = k at st hk hpe ⊢
  have ht := htot k hk
  have hc := hcons k hk
  rw [← st.deleg, ← st.bond] at ht hc
  -- `InitAccumulated` leaves the invariant of `runVotes_facts` at the offset −1, one before the first possible event:
  -- `L − (−1) = L + 1 = termPeriod`
  have ho : offsetsOk (i.offsetLimit : Int) (-1) (voteEvents k i.events) :=
    offsetsOk_mono _ _ (-1) ((0 : Nat) : Int) (by decide) (voteEvents_offsetsOk k i.offsetLimit i.events 0 hoff)
  have hf := runVotes_facts (i.offsetLimit : Int) i.br hbr (voteEvents k i.events) p0 (-1)
    (Int.le_trans (by decide) (Int.natCast_nonneg _)) ho ht
  have hav := runVotes_accVoted (i.offsetLimit : Int) i.br (voteEvents k i.events) p0
  have hall := votesTo_allVotes i k hdn hbn
  -- `p` is `p0` with new vote totals, power, accumulated values and status
  obtain ⟨_, _, _, av, _, hq⟩ := runVotes_static (i.offsetLimit : Int) i.br (voteEvents k i.events) p0
  rw [hq] at hpe hf hav
  subst hpe
  refine ⟨st.clean, st.rate, fun hlt => ?_⟩
  obtain ⟨hsync, hap, hav0⟩ := st.init hlt
  have hL : (i.offsetLimit : Int) - -1 = (i.offsetLimit : Int) + 1 := Int.sub_neg _ _
  have hacc := hf hsync (by rw [hap, hL]; exact Int.le_refl _)
    (by rw [hap, hav0, hL, Int.sub_mul]; exact Int.le_refl _)
  have hbase : baseVotes i k * ((i.offsetLimit : Int) + 1) ≤ p0.accVoted := by
    rw [hav0]; exact Int.mul_le_mul_of_nonneg_right hc (Int.le_add_one (Int.natCast_nonneg _))
  refine ⟨hacc.1, hacc.2, ?_⟩
  change av = _ at hav
  show _ ≤ av
  rw [hall, hav]
  exact Int.add_le_add_right hbase _

theorem rateMul_nonneg (rate v : Int) (hr : 0 ≤ rate) (hv : 0 ≤ v) : 0 ≤ rateMul rate v := by
  unfold rateMul
  rw [Int.tdiv_eq_ediv_of_nonneg (Int.mul_nonneg hv hr)]
  exact Int.ediv_nonneg (Int.mul_nonneg hv hr) (by simp [denom])

end Goloop.C35.Proofs
