import Goloop.Model.C35
import Goloop.Base.Cases
import Goloop.Base.IntSum
namespace Goloop.C35.Proofs
open Goloop.C35

theorem sumInt_nil : sumInt [] = 0 := rfl
theorem sumInt_cons (a : Int) (l : List Int) : sumInt (a :: l) = a + sumInt l := rfl

theorem sumInt_append (l1 l2 : List Int) : sumInt (l1 ++ l2) = sumInt l1 + sumInt l2 :=
  List.sum_append_int

theorem floor_sum_mul_le (as : List Int) (R A : Int) (hA : 0 < A) :
    sumInt (as.map (fun a => a * R / A)) * A ≤ sumInt as * R := by
  induction as with
  | nil => simp [sumInt]
  | cons a l ih =>
    simp only [List.map_cons, sumInt_cons]
    rw [Int.add_mul, Int.add_mul]
    exact Int.add_le_add (Int.ediv_mul_le _ (Int.ne_of_gt hA)) ih

-- `rw` with a `Base/IntSum` lemma finds no `List.sum` in a goal about the model's `sumInt`, and `refine` with one leaves
-- goals in `List.sum`: so this, `sumInt_filter_map`, `_map_le`, `_map_add` and `_map_mul_const` (C35Input) restate theirs.
theorem sumInt_map_eq_zero {α} (l : List α) (f : α → Int) (h : ∀ x ∈ l, f x = 0) : sumInt (l.map f) = 0 :=
  sum_map_eq_zero l f h

/-- `floor_shares_le_total` also when the shares are of nothing: every term is `⌊·/0⌋ = 0` -/
theorem floor_shares_le (as : List Int) (R A : Int) (hR : 0 ≤ R) (hA : 0 ≤ A)
    (hs : sumInt as ≤ A) : sumInt (as.map (fun a => a * R / A)) ≤ R := by
  rcases Int.lt_or_eq_of_le hA with hA | rfl
  · have h3 : sumInt (as.map (fun a => a * R / A)) * A ≤ R * A :=
      Int.mul_comm R A ▸ Int.le_trans (floor_sum_mul_le as R A hA) (Int.mul_le_mul_of_nonneg_right hs hR)
    exact Int.le_of_mul_le_mul_right h3 hA
  · rw [sumInt_map_eq_zero as _ fun a _ => Int.ediv_zero _]
    exact hR

theorem floor_shares_le_total (as : List Int) (R A : Int) (hR : 0 ≤ R) (hA : 0 < A)
    (hs : sumInt as ≤ A) : sumInt (as.map (fun a => a * R / A)) ≤ R :=
  floor_shares_le as R A hR (Int.le_of_lt hA) hs

theorem sumInt_filter_map {α} (l : List α) (c : α → Bool) (f : α → Int) :
    sumInt ((l.filter c).map f) = sumInt (l.map (fun x => if c x then f x else 0)) :=
  sum_filter_map l c f

theorem sumInt_map_le {α} (l : List α) (f g : α → Int) (h : ∀ x ∈ l, f x ≤ g x) :
    sumInt (l.map f) ≤ sumInt (l.map g) :=
  sum_map_le l f g h

theorem sumInt_map_add {α} (l : List α) (f g : α → Int) :
    sumInt (l.map (fun x => f x + g x)) = sumInt (l.map f) + sumInt (l.map g) :=
  sum_map_add l f g

theorem sumInt_map_const {α} (l : List α) (c : α → Bool) (w : Int) :
    sumInt (l.map (fun x => if c x then w else 0)) = ((l.filter c).length : Int) * w :=
  (sum_filter_map l c fun _ => w).symm.trans (by rw [List.map_const', List.sum_replicate_int])

theorem sum_update (V : List Nat) (hV : V.Nodup) (f : Nat) (hf : f ∈ V) (g g' : Nat → Int) (c : Int)
    (hg : ∀ v, g' v = if f == v then g v + c else g v) : sumInt (V.map g') = sumInt (V.map g) + c := by
  refine (sum_map_update V hV hf g g' fun v hv => (hg v).trans (if_neg fun e => hv (eq_of_beq e).symm)).trans ?_
  rw [hg f, if_pos (beq_self_eq_true f)]
  show sumInt _ - g f + (g f + c) = _
  omega

/-- regrouping by key: when the elements whose key is not in the duplicate-free list `K` contribute
    nothing, the sums of the groups `key x = k`, `k` over `K`, add up to the whole sum -/
theorem sumInt_by_key {α} (key : α → Nat) (g : α → Int) (K : List Nat) (hK : K.Nodup)
    (h0 : ∀ x, key x ∉ K → g x = 0) : ∀ (l : List α),
    sumInt (K.map fun k => sumInt ((l.filter fun x => key x == k).map g)) = sumInt (l.map g)
  | [] => sum_map_zero K
  | x :: l => by
    rw [List.map_cons, sumInt_cons, ← sumInt_by_key key g K hK h0 l]
    by_cases hx : key x ∈ K
    · rw [Int.add_comm]
      refine sum_update K hK (key x) hx _ _ (g x) fun k => ?_
      rw [List.filter_cons]
      split
      · exact Int.add_comm ..
      · rfl
    · rw [h0 x hx, Int.zero_add]
      refine congrArg sumInt (List.map_congr_left fun k hk => ?_)
      rw [List.filter_cons, if_neg fun h : (key x == k) = true => hx (eq_of_beq h ▸ hk)]

/-- well-formedness of the PRepInfo right before `CalculateReward` -/
structure PRepWF (pi : PRepInfo) : Prop where
  clean : ∀ p ∈ pi.preps, p.commission = 0 ∧ p.voterReward = 0 ∧ p.wage = 0
  powNonneg : ∀ p ∈ pi.preps, p.inElected pi.elected = true → 0 ≤ p.accPower
  rate : ∀ p ∈ pi.preps, 0 ≤ p.rate ∧ p.rate ≤ 10000
  total : pi.totalAccumulatedPower =
    sumInt ((pi.preps.filter (fun p => p.inElected pi.elected)).map (·.accPower))
  count : (pi.preps.filter (fun p => p.inElected pi.elected)).length ≤ pi.elected

/-- the per-P-Rep step of `PRepInfo.CalculateReward` -/
def payStep (pi : PRepInfo) (T minBond mw : Int) (p : PRep) : PRep :=
  if pi.isPaid p then p.calculateReward T pi.totalAccumulatedPower minBond mw else p

/-- also when nobody is elected: then nobody is paid, and `payStep` leaves every entry alone -/
theorem calculateReward_eq (pi : PRepInfo) (P W minBond : Int) :
    pi.calculateReward P W minBond =
      { pi with preps := pi.preps.map (payStep pi (fundToPeriodIScore P pi.termPeriod) minBond
        (fundToPeriodIScore W pi.termPeriod / (pi.elected : Int))) } := by
  fun_cases PRepInfo.calculateReward pi P W minBond with
  | case1 he =>
    refine congrArg (fun ps => { pi with preps := ps }) ((List.map_id' _).symm.trans (List.map_congr_left fun p _ => ?_))
    rw [payStep, if_neg]
    simp [PRepInfo.isPaid, PRep.inElected, he]
  | case2 => rfl

theorem isPaid_inElected (pi : PRepInfo) (p : PRep) (h : pi.isPaid p = true) :
    p.inElected pi.elected = true ∧ 0 < p.accPower := by
  simp [PRepInfo.isPaid, PRep.isRewardable] at h
  exact ⟨h.1, h.2.2⟩

theorem commission_le (R rate : Int) (hR : 0 ≤ R) (h0 : 0 ≤ rate) (h1 : rate ≤ 10000) :
    (R * rate).tdiv denom ≤ R := by
  rw [Int.tdiv_eq_ediv_of_nonneg (Int.mul_nonneg hR h0)]
  have h2 : R * rate / 10000 ≤ R * 10000 / 10000 :=
    Int.ediv_le_ediv (by decide) (Int.mul_le_mul_of_nonneg_left h1 hR)
  rwa [Int.mul_ediv_cancel _ (by decide : (10000:Int) ≠ 0)] at h2

theorem tap_nonneg (pi : PRepInfo) (wf : PRepWF pi) : 0 ≤ pi.totalAccumulatedPower :=
  wf.total ▸ sum_map_nonneg _ _ fun x hx => wf.powNonneg x (List.mem_filter.mp hx).1 (List.mem_filter.mp hx).2

theorem payStep_keeps (pi : PRepInfo) (T minBond mw : Int) (p : PRep) :
    (payStep pi T minBond mw p).owner = p.owner ∧ (payStep pi T minBond mw p).accVoted = p.accVoted ∧
    ∀ e, (payStep pi T minBond mw p).isRewardable e = p.isRewardable e := by
  fun_cases payStep pi T minBond mw p <;> exact ⟨rfl, rfl, fun _ => rfl⟩

theorem payStep_amounts (pi : PRepInfo) (wf : PRepWF pi) (T minBond mw : Int) (p : PRep) (hp : p ∈ pi.preps) :
    let q := payStep pi T minBond mw p
    q.commission + q.voterReward = (if pi.isPaid p then p.accPower else 0) * T / pi.totalAccumulatedPower ∧
    (0 ≤ T → 0 ≤ q.voterReward) ∧
    (0 ≤ mw → q.wage ≤ (if p.inElected pi.elected then mw else 0)) := by
  have ⟨c1, c2, c3⟩ := wf.clean p hp
  fun_cases payStep pi T minBond mw p with
  | case1 h =>
    have ⟨hin, hpos⟩ := isPaid_inElected pi p h
    have ⟨r0, r1⟩ := wf.rate p hp
    simp only [h, if_true, PRep.calculateReward, hin]
    refine ⟨?_, fun hT => Int.sub_nonneg_of_le (commission_le _ p.rate ?_ r0 r1), fun hmw => ?_⟩
    · rw [Int.add_comm, Int.sub_add_cancel, Int.mul_comm]
    · exact Int.ediv_nonneg (Int.mul_nonneg hT (Int.le_of_lt hpos)) (tap_nonneg pi wf)
    · exact ite_both (· ≤ mw) (Int.le_refl mw) (Int.le_trans (Int.le_of_eq c3) hmw)
  | case2 h =>
    simp only [h, Bool.false_eq_true, if_false, c1, c2, c3]
    exact ⟨by rw [Int.zero_mul, Int.zero_ediv]; rfl, fun _ => Int.le_refl 0,
      fun hmw => ite_both (0 ≤ ·) hmw (Int.le_refl 0)⟩

/-- the P-Rep fund: what the P-Reps get out of `T` are floor shares of it, by accumulated power -/
theorem prepRewards_le (pi : PRepInfo) (wf : PRepWF pi) (T minBond mw : Int) (hT : 0 ≤ T) :
    sumInt ((pi.preps.map (payStep pi T minBond mw)).map fun p => p.commission + p.voterReward) ≤ T := by
  have := floor_shares_le (pi.preps.map fun p => if pi.isPaid p then p.accPower else 0) T _ hT (tap_nonneg pi wf)
  rw [List.map_map] at this ⊢
  refine Int.le_trans (Int.le_of_eq (congrArg sumInt (List.map_congr_left fun p hp => (payStep_amounts pi wf T minBond mw p hp).1))) (this ?_)
  rw [wf.total, sumInt_filter_map]
  apply sumInt_map_le
  intro p hp
  by_cases h : pi.isPaid p = true
  · have ⟨hin, _⟩ := isPaid_inElected pi p h
    simp [h, hin]
  · by_cases hin : p.inElected pi.elected = true
    · simp [h, hin]; exact wf.powNonneg p hp hin
    · simp [h, hin]

/-- the wage fund: at most `elected` entries get the `elected`-th part of `W` -/
theorem wages_le (pi : PRepInfo) (wf : PRepWF pi) (T minBond W : Int) (hW : 0 ≤ W) :
    sumInt ((pi.preps.map (payStep pi T minBond (W / (pi.elected : Int)))).map PRep.wage) ≤ W := by
  have hmw : 0 ≤ W / (pi.elected : Int) := Int.ediv_nonneg hW (Int.natCast_nonneg _)
  rw [List.map_map]
  refine Int.le_trans (sumInt_map_le _ _ _ fun p hp => (payStep_amounts pi wf T minBond _ p hp).2.2 hmw) ?_
  rw [sumInt_map_const]
  refine Int.le_trans (Int.mul_le_mul_of_nonneg_right (Int.ofNat_le.mpr wf.count) hmw) ?_
  by_cases he : pi.elected = 0
  · rw [he]; exact Int.le_trans (Int.le_of_eq (Int.zero_mul _)) hW
  · rw [Int.mul_comm]
    exact Int.ediv_mul_le _ (Int.natCast_ne_zero.mpr he)

def votesFor (E : Votes) (k : Nat) : Votes := E.filter (fun e => e.1 == k)

/-- `voterShare` on the two fields of `pi` it reads, so that `voter_side` holds of any table `ps` -/
def shareIn (ps : List PRep) (elected : Nat) (e : Nat × Int) : Int :=
  match getPRep ps e.1 with
  | some p => if p.isRewardable elected then e.2 * p.voterReward / p.accVoted else 0
  | none => 0

theorem voterShare_eq (pi : PRepInfo) : voterShare pi = shareIn pi.preps pi.elected := rfl

theorem share_one (p : PRep) (elected : Nat) (E : Votes)
    (hpos : p.isRewardable elected = true → 0 < p.accVoted ∧ 0 ≤ p.voterReward)
    (hsum : p.isRewardable elected = true → sumInt (E.map (·.2)) ≤ p.accVoted) :
    sumInt (E.map (fun e => if p.isRewardable elected then e.2 * p.voterReward / p.accVoted else 0))
      ≤ (if p.isRewardable elected then p.voterReward else 0) := by
  by_cases h : p.isRewardable elected = true
  · have ⟨h1, h2⟩ := hpos h
    have := floor_shares_le_total (E.map (·.2)) p.voterReward p.accVoted h2 h1 (hsum h)
    rw [List.map_map] at this
    rw [if_pos h, List.map_congr_left fun e _ => if_pos h]
    exact this
  · rw [if_neg h, sumInt_map_eq_zero E _ fun e _ => if_neg h]
    exact Int.le_refl 0

theorem getPRep_cons (p : PRep) (ps : List PRep) (k : Nat) :
    getPRep (p :: ps) k = if p.owner = k then some p else getPRep ps k := by
  simp only [getPRep, List.find?_cons]
  by_cases h : p.owner = k
  · rw [if_pos h, beq_iff_eq.mpr h]
  · rw [if_neg h, beq_eq_false_iff_ne.mpr h]

theorem getPRep_none {ps : List PRep} {k : Nat} : getPRep ps k = none ↔ k ∉ ps.map (·.owner) := by
  simp only [getPRep, List.find?_eq_none, List.mem_map, not_exists, not_and]
  constructor
  · intro h p hp he; exact h p hp (by simp [he])
  · intro h p hp he; exact h p hp (by simpa using he)

theorem getPRep_of_mem_nodup : ∀ (ps : List PRep), (ps.map (·.owner)).Nodup → ∀ p ∈ ps, getPRep ps p.owner = some p := by
  intro ps
  induction ps with
  | nil => intro _ p hp; cases hp
  | cons a ps ih =>
    intro hnd p hp
    simp only [List.map_cons, List.nodup_cons, List.mem_map, not_exists, not_and] at hnd
    rw [getPRep_cons]
    rcases List.mem_cons.mp hp with rfl | hm
    · exact if_pos rfl
    · rw [if_neg fun h => hnd.1 p hm h.symm]; exact ih hnd.2 p hm

theorem shareIn_of_get {ps : List PRep} {e : Nat × Int} {p : PRep} (elected : Nat) (h : getPRep ps e.1 = some p) :
    shareIn ps elected e = if p.isRewardable elected then e.2 * p.voterReward / p.accVoted else 0 := by
  rw [shareIn, h]

theorem voter_side (elected : Nat) (ps : List PRep) (E : Votes)
    (hnd : (ps.map (·.owner)).Nodup)
    (hpos : ∀ p ∈ ps, p.isRewardable elected = true → 0 < p.accVoted ∧ 0 ≤ p.voterReward)
    (hsum : ∀ p ∈ ps, p.isRewardable elected = true → sumInt ((votesFor E p.owner).map (·.2)) ≤ p.accVoted) :
    sumInt (E.map (shareIn ps elected)) ≤
      sumInt (ps.map (fun p => if p.isRewardable elected then p.voterReward else 0)) := by
  -- a vote for an address without entry earns nothing; the others are grouped by P-Rep
  rw [← sumInt_by_key (·.1) _ _ hnd (fun e he => by rw [shareIn, getPRep_none.mpr he]) E, List.map_map]
  refine sumInt_map_le ps _ _ fun p hp => ?_
  show sumInt ((votesFor E p.owner).map _) ≤ _
  rw [List.map_congr_left fun e he => shareIn_of_get elected
    (eq_of_beq (List.mem_filter.mp he).2 ▸ getPRep_of_mem_nodup ps hnd p hp)]
  exact share_one p elected _ (hpos p hp) (hsum p hp)

theorem sumInt_flatten_map {α β} (F : β → List α) (f : α → Int) (V : List β) :
    sumInt ((V.map F).flatten.map f) = sumInt (V.map fun v => sumInt ((F v).map f)) := by
  induction V with
  | nil => rfl
  | cons v V ih => simp only [List.map_cons, List.flatten_cons, List.map_append, sumInt_append, sumInt_cons, ih]

/-- the three fields no step of `loadPRepInfo` or `processEvents` writes, as one value: one `cfg_foldl` serves every fold -/
def cfg (pi : PRepInfo) : Nat × Nat × Int := (pi.elected, pi.offsetLimit, pi.br)

theorem cfg_fields {pi : PRepInfo} {e o : Nat} {b : Int} (h : cfg pi = (e, o, b)) :
    pi.elected = e ∧ pi.offsetLimit = o ∧ pi.br = b :=
  ⟨congrArg (·.1) h, congrArg (·.2.1) h, congrArg (·.2.2) h⟩

theorem cfg_add (pi : PRepInfo) (a b : Nat) (c d e : Int) (f : Bool) : cfg (pi.add a b c d e f) = cfg pi := rfl
theorem cfg_setStatus (pi : PRepInfo) (a b : Nat) : cfg (pi.setStatus a b) = cfg pi := by
  fun_cases PRepInfo.setStatus pi a b <;> rfl
theorem cfg_applyVote1 (pi : PRepInfo) (b : Bool) (o : Int) (v : Nat × Int) : cfg (pi.applyVote1 b o v) = cfg pi := by
  unfold PRepInfo.applyVote1
  split <;> (simp only []; split) <;> rfl
theorem cfg_foldl {α} (f : PRepInfo → α → PRepInfo) (h : ∀ pi a, cfg (f pi a) = cfg pi) (l : List α) (pi : PRepInfo) :
    cfg (l.foldl f pi) = cfg pi := by
  induction l generalizing pi with
  | nil => rfl
  | cons a l ih => simp only [List.foldl_cons]; rw [ih, h]
theorem cfg_applyEvent (pi : PRepInfo) (e : Event) : cfg (applyEvent pi e) = cfg pi := by
  cases e with
  | enable o t s => exact cfg_setStatus pi t s
  | vote b o f vs => exact cfg_foldl _ (fun pi v => cfg_applyVote1 pi b o v) vs pi
theorem cfg_load (i : Input) : cfg (loadPRepInfo i) = (i.elected, i.offsetLimit, i.br) := by
  unfold loadPRepInfo
  show cfg (List.foldl _ _ _) = _
  rw [cfg_foldl _ (fun pi p => cfg_add pi _ _ _ _ _ _)]
  rfl
theorem cfg_after (i : Input) : cfg (prepInfoAfterEvents i) = (i.elected, i.offsetLimit, i.br) :=
  (cfg_foldl _ cfg_applyEvent i.events (loadPRepInfo i)).trans (cfg_load i)

theorem fund_nonneg (reward : Int) (n : Nat) (h : 0 ≤ reward) : 0 ≤ fundToPeriodIScore reward ((n : Int) + 1) :=
  Int.ediv_nonneg (Int.mul_nonneg h (Int.mul_nonneg (Int.le_add_one (Int.natCast_nonneg n)) (by decide))) (by decide)

/-- all accumulated votes of the voters `processVoterReward` visits, flattened -/
def allVotes (i : Input) : Votes := ((voterSet i).map (voterAV i)).flatten

/-- hypotheses on the state reached after `processEvents` -/
structure TermWF (i : Input) : Prop where
  prep : PRepWF (prepInfoAfterEvents i)
  nodup : ((prepInfoAfterEvents i).preps.map (·.owner)).Nodup
  funds : 0 ≤ i.iprepFund ∧ 0 ≤ i.iwageFund
  votedPos : ∀ p ∈ (prepInfoAfterEvents i).preps, p.isRewardable i.elected = true → 0 < p.accVoted
  votesLe : ∀ p ∈ (prepInfoAfterEvents i).preps, p.isRewardable i.elected = true →
    sumInt ((votesFor (allVotes i) p.owner).map (·.2)) ≤ p.accVoted

theorem voters_le (pi : PRepInfo) (wf : PRepWF pi) (hnd : (pi.preps.map (·.owner)).Nodup) (e : Nat)
    (hel : pi.elected = e) (P W minBond : Int) (hP : 0 ≤ P) (E : Votes)
    (hpos : ∀ p ∈ pi.preps, p.isRewardable e = true → 0 < p.accVoted)
    (hsum : ∀ p ∈ pi.preps, p.isRewardable e = true → sumInt ((votesFor E p.owner).map (·.2)) ≤ p.accVoted) :
    sumInt (E.map (voterShare (pi.calculateReward P W minBond))) ≤
      sumInt ((pi.calculateReward P W minBond).preps.map PRep.voterReward) := by
  subst hel
  have hf := fun p hp => (payStep_amounts pi wf (fundToPeriodIScore P pi.termPeriod) minBond
    (fundToPeriodIScore W pi.termPeriod / (pi.elected : Int)) p hp).2.1 (fund_nonneg P pi.offsetLimit hP)
  rw [calculateReward_eq, voterShare_eq]
  -- the hypotheses on the paid table are those on `pi.preps`: paying keeps owner, accumulated votes and `isRewardable`
  refine Int.le_trans (voter_side pi.elected _ E ?_ (List.forall_mem_map.mpr fun p hp => ?_)
    (List.forall_mem_map.mpr fun p hp => ?_)) (sumInt_map_le _ _ _ (List.forall_mem_map.mpr fun p hp => ?_))
  · rw [List.map_map, List.map_congr_left (g := (·.owner)) fun p _ => (payStep_keeps ..).1]
    exact hnd
  · rw [(payStep_keeps ..).2.2, (payStep_keeps ..).2.1]
    exact fun hr => ⟨hpos p hp hr, hf p hp⟩
  · rw [(payStep_keeps ..).2.2, (payStep_keeps ..).2.1, (payStep_keeps ..).1]
    exact hsum p hp
  · exact ite_both (fun x : Int => x ≤ _) (Int.le_refl _) (hf p hp)

/-- `PRep.ApplyVote` as one record update: when the power stays the same, setting it and adding
    `0·period` to the accumulated power changes nothing -/
theorem applyVote_eq (p : PRep) (b : Bool) (a period br : Int) :
    p.applyVote b a period br =
      { p with delegated := if b then p.delegated else p.delegated + a,
               bonded := if b then p.bonded + a else p.bonded,
               accVoted := p.accVoted + a * period,
               power := calcPower br (if b then p.bonded + a else p.bonded) (p.votedValue + a),
               accPower := p.accPower +
                 (calcPower br (if b then p.bonded + a else p.bonded) (p.votedValue + a) - p.power) * period } := by
  have hv : p.delegated + (p.bonded + a) = p.votedValue + a := (Int.add_assoc ..).symm
  have hv' : p.delegated + a + p.bonded = p.votedValue + a := Int.add_right_comm ..
  cases b <;> simp only [PRep.applyVote, PRep.votedValue, Bool.false_eq_true, if_true, if_false, hv, hv'] <;>
    refine ite_pred (· = _) _ _ _ (fun _ => rfl) fun h => ?_
  all_goals rw [← Decidable.not_not.mp h, Int.sub_self, Int.zero_mul, Int.add_zero]

theorem applyVote_accVoted (p : PRep) (b : Bool) (a period br : Int) :
    (p.applyVote b a period br).accVoted = p.accVoted + a * period := by
  rw [applyVote_eq]

theorem applyVote_accPower (p : PRep) (b : Bool) (a period br : Int) :
    (p.applyVote b a period br).accPower =
      p.accPower + ((p.applyVote b a period br).power - p.power) * period := by
  rw [applyVote_eq]

theorem accPower_step (p : PRep) (b : Bool) (a br L o o' : Int)
    (hp : 0 ≤ p.power) (ho : o ≤ o') (hinv : p.power * (L - o) ≤ p.accPower) :
    (p.applyVote b a (L - o') br).power * (L - o') ≤ (p.applyVote b a (L - o') br).accPower := by
  rw [applyVote_accPower]
  generalize (p.applyVote b a (L - o') br).power = pw'
  have h1 : p.power * (L - o') ≤ p.power * (L - o) := Int.mul_le_mul_of_nonneg_left (Int.sub_le_sub_left ho L) hp
  rw [Int.sub_mul]
  omega

def runVotes (L br : Int) : PRep → List (Bool × Int × Int) → PRep
  | p, [] => p
  | p, (b, a, o) :: rest => runVotes L br (p.applyVote b a (L - o) br) rest

/-- offsets non-decreasing and inside the term, power never negative -/
def ValidFrom (L br : Int) : Int → PRep → List (Bool × Int × Int) → Prop
  | _, _, [] => True
  | o, p, (b, a, o') :: rest =>
    o ≤ o' ∧ o' ≤ L ∧ 0 ≤ (p.applyVote b a (L - o') br).power ∧
      ValidFrom L br o' (p.applyVote b a (L - o') br) rest

theorem runVotes_accVoted (L br : Int) (evs : List (Bool × Int × Int)) (p : PRep) :
    (runVotes L br p evs).accVoted = p.accVoted + sumInt (evs.map (fun e => e.2.1 * (L - e.2.2))) := by
  fun_induction runVotes L br p evs with
  | case1 => exact (Int.add_zero _).symm
  | case2 p b a o rest ih =>
    rw [ih, applyVote_accVoted]
    exact Int.add_assoc ..

theorem runVotes_accPower_nonneg (L br : Int) : ∀ (evs : List (Bool × Int × Int)) (p : PRep) (o : Int),
    o ≤ L → 0 ≤ p.power → p.power * (L - o) ≤ p.accPower → ValidFrom L br o p evs →
    0 ≤ (runVotes L br p evs).accPower
  | [], p, o, hoL, hp, hinv, _ => by
    exact Int.le_trans (Int.mul_nonneg hp (Int.sub_nonneg_of_le hoL)) hinv
  | (b, a, o') :: rest, p, o, _, hp, hinv, ⟨h1, h2, h3, h4⟩ =>
    runVotes_accPower_nonneg L br rest _ o' h2 h3 (accPower_step p b a br L o o' hp h1 hinv) h4

def votesTo (k : Nat) (vs : Votes) : Int := sumInt ((votesFor vs k).map (·.2))

theorem votesTo_cons (k : Nat) (v : Nat × Int) (vs : Votes) :
    votesTo k (v :: vs) = (if v.1 == k then v.2 else 0) + votesTo k vs := by
  by_cases h : (v.1 == k) = true <;> simp [votesTo, votesFor, h, sumInt_cons]

theorem votesTo_append (k : Nat) (a b : Votes) : votesTo k (a ++ b) = votesTo k a + votesTo k b := by
  simp [votesTo, votesFor, List.filter_append, List.map_append, sumInt_append]

theorem avAdd_votesTo (k k' : Nat) (amt : Int) (av : Votes) :
    votesTo k (avAdd av k' amt) = votesTo k av + (if k' == k then amt else 0) := by
  fun_induction avAdd av k' amt with
  | case1 =>
    rw [votesTo_cons]
    exact Int.add_comm ..
  | case2 e rest k' amt h =>
    rw [votesTo_cons, votesTo_cons, ← eq_of_beq h]
    show (if e.1 == k then e.2 + amt else 0) + _ = _
    split <;> omega
  | case3 e rest k' amt h ih =>
    rw [votesTo_cons, votesTo_cons, ih]
    exact (Int.add_assoc ..).symm

theorem votesTo_nil (k : Nat) : votesTo k [] = 0 := rfl

theorem avApply_votesTo (k : Nat) (period : Int) : ∀ (votes av : Votes),
    votesTo k (avApply av votes period) = votesTo k av + votesTo k votes * period := by
  intro votes
  induction votes with
  | nil => intro av; simp [avApply, votesTo, votesFor, sumInt]
  | cons v vs ih =>
    intro av
    have := ih (avAdd av v.1 (v.2 * period))
    simp only [avApply, List.foldl_cons] at *
    rw [this, avAdd_votesTo, votesTo_cons, Int.add_mul]
    by_cases h : (v.1 == k) = true
    · rw [if_pos h, if_pos h, Int.add_assoc]
    · rw [if_neg h, if_neg h, Int.zero_mul, Int.add_assoc]

/-- Σ votes·(L − offset) over a voter's event list `(isBond, offset, votes)` -/
def evSum (k : Nat) (L : Int) (evs : List (Bool × Nat × Votes)) : Int :=
  sumInt (evs.map (fun e => votesTo k e.2.2 * (L - (e.2.1 : Int))))

theorem foldl_events_votesTo (k : Nat) (L : Int) : ∀ (evs : List (Bool × Nat × Votes)) (av : Votes),
    votesTo k (evs.foldl (fun av e => avApply av e.2.2 (L - (e.2.1 : Int))) av) = votesTo k av + evSum k L evs := by
  intro evs
  induction evs with
  | nil => intro av; exact (Int.add_zero _).symm
  | cons e rest ih =>
    intro av
    simp only [List.foldl_cons, evSum, List.map_cons, sumInt_cons]
    rw [ih, avApply_votesTo]
    exact Int.add_assoc ..

theorem voterAV_votesTo (i : Input) (v k : Nat) :
    votesTo k (voterAV i v) =
      (votesTo k (lookupVotes i.delegating v) + votesTo k (lookupVotes i.bonding v)) * ((i.offsetLimit : Int) + 1) +
      evSum k (i.offsetLimit : Int) (eventsOf i.events v) := by
  unfold voterAV
  rw [foldl_events_votesTo, avApply_votesTo, avApply_votesTo, votesTo_nil, Int.add_mul, Int.zero_add]

end Goloop.C35.Proofs
