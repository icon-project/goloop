/-
  Proofs/C06 — the double-sign evidence model: one step of `dsmLog`, and the guard chains of the report path (`Decode`, `PreValidate`,
  the handler) read off as "passes exactly when every guard passes".
-/
import Goloop.Model.C06
import Goloop.Base.Cases
namespace Goloop.C06
/-- network id read by `IsConflictWith` -/
def DS.nid : DS → Nat
  | DS.vote v => v.c.nid
  | DS.prop p => p.c.nid

/-- reports produced by feeding a sequence of messages to the log -/
def runLog : Log → List DS → List (DS × DS)
  | _, [] => []
  | l, m :: rest =>
    match (logMsg l m).2 with
    | some r => r :: runLog (logMsg l m).1 rest
    | none => runLog (logMsg l m).1 rest
end Goloop.C06

namespace Goloop.C06.Proofs
open Goloop.C06

theorem get_mem {l : Log} {k : Key} {o : DS} : l.get k = some o → ∃ e ∈ l, e.2 = o := by
  fun_cases Log.get l k with
  | case1 e hf => exact fun h => ⟨e, List.mem_of_find?_eq_some hf, Option.some.inj h⟩
  | case2 => rintro ⟨⟩

theorem put_mem {l : Log} {k : Key} {m : DS} {e : Key × DS} (h : e ∈ l.put k m) : e.2 = m ∨ e ∈ l :=
  (List.mem_cons.1 h).imp (congrArg Prod.snd) (fun h => (List.mem_filter.1 h).1)

theorem logMsg_cases (l : Log) (m : DS) :
    (∃ o, (∃ e ∈ l, e.2 = o) ∧ conflict o m = true ∧ logMsg l m = (l, some (o, m))) ∨
    ((logMsg l m).2 = none ∧ ∀ e ∈ (logMsg l m).1, e.2 = m ∨ e ∈ l) := by
  fun_cases logMsg l m with
  | case1 v =>
    fun_cases logVote l v with
    | case1 m o hg hc => exact Or.inl ⟨o, get_mem hg, hc, rfl⟩
    | case2 m o hg hc => exact Or.inr ⟨rfl, fun _ => put_mem⟩
    | case3 m hg => exact Or.inr ⟨rfl, fun _ => put_mem⟩
  | case2 p =>
    fun_cases logProp l p with
    | case1 m o hg hc => exact Or.inl ⟨o, get_mem hg, hc, rfl⟩
    | case2 m o hg hc => exact Or.inr ⟨rfl, fun _ => Or.inr⟩
    | case3 m hg => exact Or.inr ⟨rfl, fun _ => put_mem⟩

theorem runLog_spec (msgs : List DS) : ∀ (l : Log), ∀ r ∈ runLog l msgs,
    conflict r.1 r.2 = true ∧ ((∃ e ∈ l, e.2 = r.1) ∨ r.1 ∈ msgs) ∧ r.2 ∈ msgs := by
  induction msgs with
  | nil => exact fun _ _ hr => nomatch hr
  | cons m rest ih =>
    intro l r hr
    have tail : ∀ l', (∀ e ∈ l', e.2 = m ∨ e ∈ l) → r ∈ runLog l' rest →
        conflict r.1 r.2 = true ∧ ((∃ e ∈ l, e.2 = r.1) ∨ r.1 ∈ m :: rest) ∧ r.2 ∈ m :: rest := by
      intro l' hl' h
      obtain ⟨h1, h2, h3⟩ := ih l' r h
      refine ⟨h1, ?_, List.mem_cons_of_mem _ h3⟩
      rcases h2 with ⟨e, he, e1⟩ | h2
      · exact (hl' e he).elim (fun h => Or.inr (e1 ▸ h ▸ List.mem_cons_self)) (fun h => Or.inl ⟨e, h, e1⟩)
      · exact Or.inr (List.mem_cons_of_mem _ h2)
    unfold runLog at hr
    rcases logMsg_cases l m with ⟨o, ho, hc, hl⟩ | ⟨hnone, hl⟩
    · rw [hl] at hr
      rcases List.mem_cons.1 hr with rfl | hr
      · exact ⟨hc, Or.inl ho, List.mem_cons_self⟩
      · exact tail l (fun _ => Or.inr) hr
    · rw [hnone] at hr
      exact tail _ hl hr

theorem decodeReport_some_iff (r : Report) (d1 d2 : DS) (c : List Nat) :
    decodeReport r = some (d1, d2, c) ↔
      ∃ i1 i2, r.items = [i1, i2] ∧ r.ord ≠ 2 ∧ r.tag ≠ Tag.other ∧
        decodeItem r.tag i1 = some d1 ∧ decodeItem r.tag i2 = some d2 ∧ r.ctx = some c := by
  constructor
  · fun_cases decodeReport r with
    | case3 i1 i2 hit ho a b h2 h1 ht c' hc => rintro ⟨⟩; exact ⟨i1, i2, hit, ho, ht, h1, h2, hc⟩
    | case1 | case2 | case4 | case5 | case6 => rintro ⟨⟩
  · rintro ⟨i1, i2, hit, ho, ht, h1, h2, hc⟩
    rw [decodeReport, hit]
    dsimp only
    rw [if_neg ho, h1, h2]
    dsimp only
    rw [if_neg ht, hc]

theorem handler_ok_iff (r : Report) (e : Env) :
    handler r e = Hnd.ok ↔
      r.sender = From.none ∧
      ∃ d1 d2 c, decodeReport r = some (d1, d2, c) ∧ conflict d1 d2 = true ∧
        d1.height ≤ e.blockHeight ∧ d1.signer ∈ c ∧ histGet e.history (d1.height - 2) = some c ∧
        e.callOk = true := by
  unfold handler
  cases decodeReport r with
  | none => simp only [guard_iff, ne_eq, reduceCtorEq, not_false_eq_true, and_false, false_and, exists_false]
  | some t =>
    obtain ⟨d1, d2, c⟩ := t
    simp only [guard_iff, guard_last_iff, ne_eq, reduceCtorEq, not_false_eq_true, Option.some.injEq,
      Prod.mk.injEq, and_assoc, exists_and_left, exists_eq_left', bne_iff_ne, Classical.not_not,
      Bool.not_eq_true', Bool.not_eq_false, Int.not_lt, List.contains_iff_mem]

theorem preValidate_ok_iff (r : Report) (e : Env) :
    preValidate r e = Pre.ok ↔
      e.revOn = true ∧ r.sender = From.none ∧
      ∃ d1 d2 c, decodeReport r = some (d1, d2, c) ∧ conflict d1 d2 = true ∧ d1.signer ∈ c := by
  unfold preValidate
  cases decodeReport r with
  | none => simp only [guard_iff, ne_eq, reduceCtorEq, not_false_eq_true, and_false, false_and, exists_false]
  | some t =>
    obtain ⟨d1, d2, c⟩ := t
    simp only [guard_iff, ne_eq, reduceCtorEq, not_false_eq_true, Option.some.injEq, Prod.mk.injEq,
      and_assoc, exists_and_left, exists_eq_left', bne_iff_ne, Classical.not_not, Bool.not_eq_true',
      Bool.not_eq_false, Bool.or_eq_true, not_or, List.contains_iff_mem, and_true]

end Goloop.C06.Proofs
