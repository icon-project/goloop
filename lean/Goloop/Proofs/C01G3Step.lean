/-
  Proofs/C01G3Step — `G3` (= the invariant `H3` of Proofs/C01G3 at the current round) is kept by every
  move of the machine (`Move.g3`, with `Core` and `H2` for the state before the move); hence the three
  invariants together (`A3`) are kept by every composition of moves (`Moves.a3`) and so by the Start dispatch
  (`a3_start`); crash-free events and block sync: `vstepS_a3`, Proofs/C01Sync.
-/
import Goloop.Proofs.C01G3
namespace Goloop.C01
section
variable {L : List VoteRec} {base : List Eff}

structure A3 (L : List VoteRec) (base : List Eff) (s : S) : Prop where
  core : Core s
  h2 : H2 L s
  h3 : G3 L base s

theorem a3_stuck (s : S) (ha : A3 L base s) : A3 L base { s with stuck := true } :=
  ⟨core_stuck s ha.core, h2_stuck s ha.h2, h3_of_stuck ha.h3 rfl rfl⟩

theorem vlok_voteListOf (s : S) (r : Nat) (t : VType) (h2 : H2 L s) :
    VLOk L (sentOf s.eff) (voteListOf s r t) := by
  unfold voteListOf
  refine ⟨fun v hv => ?_, fun v hv v' hv' => ?_⟩
  · obtain ⟨e, he, rfl⟩ := List.mem_map.mp hv
    exact (h2.hv r t).2 e he
  · obtain ⟨e, _, rfl⟩ := List.mem_map.mp hv
    obtain ⟨e', _, rfl⟩ := List.mem_map.mp hv'
    rfl

/-- Fields outside `Core` and the lock part of `H3` change: timer, polRound, bpm, and `cur`, as far as `ComInv` allows. -/
theorem g3_frame (s : S) {t : Bool} {p : Int} {l : List Blk} {c : Cur} (hh : G3 L base s)
    (hc : ComInv L { s with timer := t, polRound := p, bpm := l, cur := c }) :
    G3 L base { s with timer := t, polRound := p, bpm := l, cur := c } :=
  h3_frame (s := s) hh rfl rfl id (impInv_of_fields_eq (s := s) rfl (fun h => ⟨h, id⟩) hh.imp) hc

structure IH3 (L : List VoteRec) (base : List Eff) (f : Nat) : Prop where
  recvVote : ∀ s m, A3 L base s → Known L (sentOf s.eff) m → G3 L base (recvVote f s m)
  sendVote : ∀ s t v, A3 L base s → Fresh s (mstepOf t) → PC s t v → PV s t v → G3 L base (sendVote f s t v)
  handlePrevote : ∀ s mr, A3 L base s → G3 L base (handlePrevote f s mr)
  handlePrecommit : ∀ s mr, A3 L base s → G3 L base (handlePrecommit f s mr)
  enterPropose : ∀ s, A3 L base s → G3 L base (enterPropose f s)
  enterPrevote : ∀ s, A3 L base s → G3 L base (enterPrevote f s)
  enterPrevoteWait : ∀ s, A3 L base s → G3 L base (enterPrevoteWait f s)
  enterPrecommit : ∀ s, A3 L base s → G3 L base (enterPrecommit f s)
  enterPrecommitWait : ∀ s, A3 L base s → G3 L base (enterPrecommitWait f s)
  enterCommit : ∀ s b r, A3 L base s → (votesFor s.hvs r .precommit).decision s.n = some (some b) →
    G3 L base (enterCommit f s b r)
  commitAndEnterNewHeight : ∀ s, A3 L base s → ComQ L s →
    G3 L base (commitAndEnterNewHeight f s)
  enterNewHeight : ∀ s, A3 L base s → G3 L base (enterNewHeight f s)
  enterNewRound : ∀ s, A3 L base s → G3 L base (enterNewRound f s)

/-- Finalize: the commit quorum is known, by `ComInv` in step commit, else from the vote set -/
theorem g3_fin (s : S) (b : Blk) (ha : A3 L base s) (hst : s.stuck = false) (hid : s.cur.id = some b) (hq : FinOk s b) :
    H3 L base s.round (fin s b) := by
  refine h3_same (s.emit (.finalize s.height b)) (h3_emit s _ nofun ?_ ha.h3) (fun _ => ⟨id, id⟩)
  rcases hq with h8 | ⟨r, hd⟩
  · obtain ⟨r, b', h1, h2⟩ := ha.h3.com hst h8
    exact ⟨r, Option.some.inj (h1.symm.trans hid) ▸ h2⟩
  · exact ⟨r, known_of_decision s ha.h2 r .precommit (some b) hd⟩

theorem Move.g3 {s s' : S} (h : Move L s s') (ha : A3 L base s) : G3 L base s' := by
  cases h with
  | stuck => exact h3_of_stuck ha.h3 rfl rfl
  | frame => exact g3_frame s ha.h3 (comInv_of_fields_eq (s := s) rfl (fun h => ⟨h, id⟩) ha.h3.com)
  | cur c hc =>
    refine g3_frame s ha.h3 ?_
    rcases hc with hc | hc | ⟨b, r, hid, hd⟩
    · exact comInv_of_nc hc
    · exact comInv_of_fields_eq (congrArg (fun i => (s.n, s.height, i, sentOf s.eff)) hc) (fun h => ⟨h, id⟩) ha.h3.com
    · exact fun _ _ => ⟨r, b, hid, known_of_decision s ha.h2 r .precommit (some b) hd⟩
  | rfs to ht => exact g3_rfs s to ht ha.h3
  | rfr r hr => exact h3_rfr s r ha.core hr (ha.h3.mono (Nat.le_of_lt hr))
  | hvsAdd m => exact hvsAdd_cases (G3 L base) s m ha.h3 (h3_same s ha.h3 (fun _ => ⟨id, id⟩))
  | sync w => exact h3_emit s _ (Eff.sync_ne_send w) trivial ha.h3
  | writeBP w h b => exact h3_emit s _ (Eff.write_ne_send _ _) trivial ha.h3
  | writeVL w r t => exact h3_emit s _ (Eff.write_ne_send _ _) (vlok_voteListOf s r t ha.h2) ha.h3
  | vote t v hst _ _ hpc hpv => exact g3_vote s t v ha.h2 ha.h3 hst hpc hpv
  | propose b pol =>
    exact g3_signed s (.proposal s.me s.height s.round b pol) ha.h3 (fun _ _ hm => nomatch hm) (fun _ hm => nomatch hm)
      (fun _ _ hm => nomatch hm)
  | pend p _ hl => exact h3_pend s p hl ha.h3
  | unlock mr psid hd hlr hne hle =>
    exact h3_unlock_polka s mr psid ha.h3 (known_of_decision s ha.h2 mr .prevote psid hd) hlr hne hle
  | unlockRound mr psid hd hlr hne hr =>
    exact h3_rfr s.unlock mr (core_of_ctrl_eq (s := s) rfl ha.core) hr
      (h3_unlock_polka s mr psid (ha.h3.mono (Nat.le_of_lt hr)) (known_of_decision s ha.h2 mr .prevote psid hd) hlr hne
        (Nat.le_refl _))
  | setlock c lk lr y hf nc hd hy =>
    exact h3_setlock s c lk lr y ha.h3 hf nc (known_of_decision s ha.h2 _ _ _ hd) hy
  | rfsCommit s1 b r c hd hc e1 =>
    rw [e1]
    rcases rfs_eq s stCommit (by decide) (by decide) with ⟨_, e⟩ | e <;> rw [e]
    · exact h3_frame (s := s) ha.h3 rfl rfl id
        (fun _ _ _ h5 => absurd h5 (by decide : ¬ stCommit ≤ stPrevoteWait))
        (fun _ _ => ⟨r, b, hc, known_of_decision s ha.h2 r .precommit (some b) hd⟩)
    · exact h3_of_stuck (s := s) ha.h3 rfl rfl
  | newHeight b hst hid hq =>
    exact g3_rfh (fin s b) (core_finalize s b ha.core) (g3_fin s b ha hst hid hq)
  | finStuck b hst hid hq => exact h3_of_stuck (g3_fin s b ha hst hid hq) rfl rfl
  | importVote ib b hst _ hp h5 =>
    -- `ImpInv`: a callback that may still sign the prevote finds the machine unlocked
    exact g3_vote _ .prevote (some b) (h2_of_gproj_eq (s := s) rfl ha.h2) (h3_pend s .none (fun _ hb => nomatch hb) ha.h3)
      hst (pc_prevote _ _) (pv_unlocked _ _ (ha.h3.imp hst ib hp h5))

theorem Move.a3 {s s' : S} (h : Move L s s') (ha : A3 L base s) : A3 L base s' :=
  ⟨h.core ha.core, h.h2 ha.h2, h.g3 ha⟩

theorem Moves.a3 {s s' : S} (h : Moves L s s') (ha : A3 L base s) : A3 L base s' := h.inv _ (fun _ _ => Move.a3) ha

theorem a3_start (base : List Eff) (s : S) (hns : s.started = false) (a : A3 L base (replayed s)) :
    A3 L base (start s) :=
  (moves_start s hns a.core).a3 a

theorem a3_rebase {s : S} (base' : List Eff) (hp : base' <+: s.eff) (ha : A3 L base s) : A3 L base' s :=
  ⟨ha.core, ha.h2, { ha.h3 with pre := hp }⟩

end
end Goloop.C01
