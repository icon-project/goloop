/-
  Base/List: facts about core list functions that core Lean does not state and two or more properties use.
-/
namespace Goloop

theorem lookup_filter_key {α β : Type _} [BEq α] [LawfulBEq α] (l : List (α × β)) (q : α → Bool) (k : α) :
    (l.filter (fun e => q e.1)).lookup k = if q k then l.lookup k else none := by
  induction l with
  | nil => simp
  | cons e t ih =>
    obtain ⟨a, b⟩ := e
    by_cases hk : k = a
    · subst hk; by_cases hq : q k <;> simp [hq, ih]
    · have hb : (k == a) = false := beq_false_of_ne hk
      by_cases hq : q a <;> simp [List.lookup_cons, hq, hb, ih]

theorem getD_set {α : Type _} (l : List α) (i j : Nat) (x d : α) :
    (l.set i x).getD j d = if i = j ∧ i < l.length then x else l.getD j d := by
  simp only [List.getD_eq_getElem?_getD, List.getElem?_set]
  by_cases h : i = j
  · subst h
    by_cases hl : i < l.length <;> simp [hl]
  · simp [h]

theorem getD_set_lt {α : Type _} (l : List α) (i j : Nat) (x d : α) (hi : i < l.length) :
    (l.set i x).getD j d = if j = i then x else l.getD j d := by
  rw [getD_set]
  by_cases h : j = i
  · rw [if_pos ⟨h.symm, hi⟩, if_pos h]
  · rw [if_neg (fun e => h e.1.symm), if_neg h]

end Goloop
