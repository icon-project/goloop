/-
  Base/BigEndian: what a byte string says about its big-endian value `beNat`, once for every encoder of the
  models: the first byte is at least `c` iff the value is at least `c * 256 ^ (length - 1)`; strings of one length
  with one value are equal; a string without a leading zero has the length its value dictates; and the step
  shared by all "push `v % 256`, go on with `v / 256`" loops.
  Core Lean only.
-/
import Goloop.Base.Bytes
namespace Goloop

theorem byte_toNat (v : Nat) : (UInt8.ofNat (v % 256)).toNat = v % 256 :=
  UInt8.toNat_ofNat_of_lt' (Nat.mod_lt v (by decide))

theorem head_ge_iff (c : Nat) (b : UInt8) (r : Bytes) : c ≤ b.toNat ↔ c * 256 ^ r.length ≤ beNat (b :: r) := by
  rw [beNat_cons]
  have := beNat_lt r
  constructor
  · intro hb
    have := Nat.mul_le_mul_right (256 ^ r.length) hb
    omega
  · intro h
    refine Nat.le_of_not_lt fun hb => ?_
    have := Nat.mul_le_mul_right (256 ^ r.length) (Nat.succ_le_of_lt hb)
    rw [Nat.succ_mul] at this
    omega

theorem head_ne_zero_iff (b : UInt8) (r : Bytes) : b ≠ 0 ↔ 256 ^ r.length ≤ beNat (b :: r) := by
  have h := head_ge_iff 1 b r
  rw [Nat.one_mul, Nat.one_le_iff_ne_zero] at h
  exact (not_congr (UInt8.toNat_inj (b := 0)).symm).trans h

theorem beNat_inj : ∀ {a b : Bytes}, a.length = b.length → beNat a = beNat b → a = b
  | [], [], _, _ => rfl
  | x :: xs, y :: ys, h, hv => by
    have hl : xs.length = ys.length := Nat.succ.inj h
    -- each first byte is at most the other: its multiple of `256 ^ length` is below the common value
    have hxy : x.toNat = y.toNat := Nat.le_antisymm
      ((head_ge_iff _ y ys).mpr (by rw [← hv, beNat_cons, hl]; exact Nat.le_add_right _ _))
      ((head_ge_iff _ x xs).mpr (by rw [hv, beNat_cons, hl]; exact Nat.le_add_right _ _))
    rw [beNat_cons, beNat_cons, hl, hxy] at hv
    rw [UInt8.toNat_inj.mp hxy, beNat_inj hl (Nat.add_left_cancel hv)]

theorem lt_of_pow256 {a b n : Nat} (h1 : 256 ^ a ≤ n) (h2 : n < 256 ^ b) : a < b :=
  Nat.lt_of_not_le fun hba =>
    Nat.lt_irrefl n (Nat.lt_of_lt_of_le h2 (Nat.le_trans (Nat.pow_le_pow_right (by decide) hba) h1))

/-- no leading zero: the length is the least that holds the value -/
theorem length_le_of_head_ne_zero {out : Bytes} (hh : out.head? ≠ some 0) {k : Nat}
    (hv : beNat out < 256 ^ k) : out.length ≤ k := by
  cases out with
  | nil => exact Nat.zero_le _
  | cons b r => exact lt_of_pow256 ((head_ne_zero_iff b r).mp (fun h => hh (h ▸ rfl))) hv

theorem ne_nil_of_beNat_ne_zero {bs : Bytes} (h : beNat bs ≠ 0) : bs ≠ [] := fun e => h (e ▸ rfl)

/-- one turn of an encoder loop: the digits of `v / 256`, then the digit `v % 256` -/
theorem beNat_snoc_digit {pre : Bytes} {v : Nat} (hv : beNat pre = v / 256) :
    beNat (pre ++ [UInt8.ofNat (v % 256)]) = v := by
  rw [beNat_append_singleton, hv, byte_toNat]; exact Nat.div_add_mod' v 256

theorem head?_snoc_digit {pre : Bytes} {v : Nat} (hv : beNat pre = v / 256) (hh : pre.head? ≠ some 0)
    (h0 : v ≠ 0) : (pre ++ [UInt8.ofNat (v % 256)]).head? ≠ some 0 := by
  cases pre with
  | cons a as => exact hh
  | nil =>
    intro hc
    have h1 : v % 256 = 0 := (byte_toNat v).symm.trans (congrArg UInt8.toNat (Option.some.inj hc))
    have h2 : v / 256 = 0 := hv.symm
    omega

end Goloop
