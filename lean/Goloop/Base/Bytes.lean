/-
  Base/Bytes: byte strings as `List UInt8`, hex text, big-endian naturals; and what the proofs about every
  byte reader of the models need: the tests on a tag byte `base + x`, the length test on `b ++ rest`, a byte
  and its two nibbles (`byte_of_nibbles`, `nibbles_of_byte`).
  Core-only (no Mathlib) so that drivers can be compiled as executables.
-/
namespace Goloop

abbrev Bytes := List UInt8

namespace Hex

def digit (n : Nat) : Char :=
  if n < 10 then Char.ofNat (48 + n) else Char.ofNat (87 + n)

def ofByte (b : UInt8) : List Char := [digit (b.toNat / 16), digit (b.toNat % 16)]

/-- lower-case hex of a byte string; the empty string is printed as "-" on the wire
    (see `encodeWire`) but as "" here. -/
def encode (bs : Bytes) : String := String.ofList (bs.flatMap ofByte)

def val (c : Char) : Option Nat :=
  if '0' ≤ c ∧ c ≤ '9' then some (c.toNat - 48)
  else if 'a' ≤ c ∧ c ≤ 'f' then some (c.toNat - 87)
  else if 'A' ≤ c ∧ c ≤ 'F' then some (c.toNat - 55)
  else none

def decodeChars : List Char → Option Bytes
  | [] => some []
  | [_] => none
  | a :: b :: rest =>
    match val a, val b, decodeChars rest with
    | some x, some y, some r => some (UInt8.ofNat (x * 16 + y) :: r)
    | _, _, _ => none

def decode (s : String) : Option Bytes := decodeChars s.toList

/-- wire form used by the line protocol: "-" stands for the empty byte string. -/
def encodeWire (bs : Bytes) : String := if bs.isEmpty then "-" else encode bs

def decodeWire (s : String) : Option Bytes := if s == "-" then some [] else decode s

end Hex

/-- `base + x` is not below a constant `c ≤ base` (`h` is closed by `decide` at the call): selects a branch of
    a switch on a tag byte `base + x` -/
theorem not_add_lt (x : Nat) {c base : Nat} (h : c ≤ base := by decide) : ¬ base + x < c :=
  Nat.not_lt.2 (Nat.le_add_right_of_le h)

/-- a tag byte `base + x` stays below `c` when `x ≤ b` and `base + b < c` (`hb` is closed by `decide` at the call) -/
theorem add_lt_of_le {base x b c : Nat} (h : x ≤ b) (hb : base + b < c := by decide) : base + x < c :=
  Nat.lt_of_le_of_lt (Nat.add_le_add_left h _) hb

/-- a reader that takes `b.length` items from `b ++ rest` finds enough input -/
theorem not_length_append_lt {α : Type _} (b rest : List α) : ¬ (b ++ rest).length < b.length :=
  Nat.not_lt.2 (List.length_append ▸ Nat.le_add_right _ _)

/-- a byte is put together from its two nibbles … -/
theorem byte_of_nibbles (b : UInt8) : UInt8.ofNat (b.toNat / 16 * 16 + b.toNat % 16) = b := by
  rw [Nat.div_add_mod']; exact UInt8.ofNat_toNat

/-- … and two nibbles are read back from the byte they make -/
theorem nibbles_of_byte {x y : Nat} (hx : x < 16) (hy : y < 16) :
    (UInt8.ofNat (x * 16 + y)).toNat / 16 = x ∧ (UInt8.ofNat (x * 16 + y)).toNat % 16 = y := by
  rw [UInt8.toNat_ofNat', Nat.mod_eq_of_lt (by omega), Nat.mul_add_mod', Nat.mod_eq_of_lt hy, Nat.mul_comm,
    Nat.mul_add_div (by decide), Nat.div_eq_of_lt hy]
  exact ⟨rfl, rfl⟩

/-- big-endian value of a byte string -/
def beNat (bs : Bytes) : Nat := bs.foldl (fun acc b => acc * 256 + b.toNat) 0

theorem beNat_append_singleton (bs : Bytes) (b : UInt8) :
    beNat (bs ++ [b]) = beNat bs * 256 + b.toNat := by
  simp [beNat, List.foldl_append]

theorem foldl_beNat (acc : Nat) (bs : Bytes) :
    bs.foldl (fun acc b => acc * 256 + b.toNat) acc = acc * 256 ^ bs.length + beNat bs := by
  induction bs generalizing acc with
  | nil => simp [beNat]
  | cons x xs ih =>
    simp only [List.foldl_cons, List.length_cons, beNat]
    rw [ih, ih (0 * 256 + x.toNat)]
    simp [Nat.pow_succ, Nat.add_mul, Nat.mul_assoc, Nat.mul_comm 256, Nat.add_assoc]

theorem beNat_cons (b : UInt8) (bs : Bytes) :
    beNat (b :: bs) = b.toNat * 256 ^ bs.length + beNat bs := by
  have := foldl_beNat b.toNat bs
  simpa [beNat] using this

theorem beNat_lt (bs : Bytes) : beNat bs < 256 ^ bs.length := by
  induction bs with
  | nil => simp [beNat]
  | cons x xs ih =>
    rw [beNat_cons, List.length_cons, Nat.pow_succ']
    exact Nat.lt_of_lt_of_le (Nat.add_lt_add_left ih _)
      (by rw [← Nat.succ_mul]; exact Nat.mul_le_mul_right _ x.toNat_lt)

end Goloop
