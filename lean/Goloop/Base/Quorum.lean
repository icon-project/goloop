/-
  Base/Quorum: the counting behind the "+2/3" arguments (uniqueness of a vote set's decision, C04;
  a correct validator in two quorums, C01): Go's integer threshold and the overlap of two such
  majorities.
-/
namespace Goloop

/-- Go's `k > n*2/3` (integer division) is exactly "more than two thirds of `n`". -/
theorem over_two_thirds_iff (k n : Nat) : k > n * 2 / 3 ↔ 3 * k > 2 * n := by
  rw [gt_iff_lt, Nat.div_lt_iff_lt_mul (by decide), Nat.mul_comm n, Nat.mul_comm k]

theorem countP_incl_excl {α : Type} (l : List α) (p q : α → Bool) :
    l.countP p + l.countP q = l.countP (fun x => p x || q x) + l.countP (fun x => p x && q x) := by
  induction l with
  | nil => rfl
  | cons a t ih =>
    have hb : ∀ x y : Bool, (if x then 1 else 0) + (if y then 1 else 0) =
        (if (x || y) then 1 else 0) + (if (x && y) then 1 else 0) := by decide
    simp only [List.countP_cons]
    rw [Nat.add_add_add_comm, ih, hb (p a) (q a), Nat.add_add_add_comm]

/-- Two majorities of more than two thirds of `l` share more than one third of `l`. -/
theorem quorum_overlap {α : Type} (l : List α) (p q : α → Bool)
    (hp : 3 * l.countP p > 2 * l.length) (hq : 3 * l.countP q > 2 * l.length) :
    3 * l.countP (fun x => p x && q x) > l.length := by
  have ie := countP_incl_excl l p q
  have le : l.countP (fun x => p x || q x) ≤ l.length := List.countP_le_length
  omega

end Goloop
