/-
  Base/Assoc: the map databases of the models (Model/C19, Model/C21) are association lists, newest
  binding first: `get` by first match, delete by filtering, set = cons after delete, each model
  with its own copy at its key type.  The two lookup laws, for any `get` with those equations.
-/
namespace Goloop.Assoc
variable {α β : Type} [DecidableEq α] {get : List (α × β) → α → Option β}
  (nil : ∀ k, get [] k = none)
  (cons : ∀ k' v r k, get ((k', v) :: r) k = if k' = k then some v else get r k)
include nil cons

theorem get_del (s : List (α × β)) (k k' : α) :
    get (s.filter fun e => decide (e.1 ≠ k)) k' = if k = k' then none else get s k' := by
  induction s with
  | nil => rw [List.filter_nil, nil, ite_self]
  | cons e r ih =>
    obtain ⟨ke, ve⟩ := e
    rw [List.filter_cons, cons ke]
    by_cases h1 : ke = k
    · rw [if_neg (by simpa using h1), ih, h1]
      by_cases h2 : k = k'
      · rw [if_pos h2, if_pos h2]
      · rw [if_neg h2, if_neg h2, if_neg h2]
    · rw [if_pos (by simpa using h1), cons, ih]
      by_cases h2 : k = k'
      · rw [if_pos h2, if_pos h2, if_neg (h2 ▸ h1)]
      · rw [if_neg h2, if_neg h2]

theorem get_set (s : List (α × β)) (k k' : α) (v : β) :
    get ((k, v) :: s.filter fun e => decide (e.1 ≠ k)) k' = if k = k' then some v else get s k' := by
  rw [cons, get_del nil cons]
  by_cases h : k = k'
  · rw [if_pos h, if_pos h]
  · rw [if_neg h, if_neg h, if_neg h]

end Goloop.Assoc
