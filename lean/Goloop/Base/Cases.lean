/-
  Base/Cases: case analysis of an `if` under an arbitrary predicate, as a lemma.
  `split` abstracts the whole goal anew at every call; on goals that mention large structure
  updates (the state machines of the models) `refine ite_pred P _ _ _ ?_ ?_` is much
  cheaper to check.  And the guards of a validation chain `if c₁ then e₁ else if …`,
  read off one at a time.
-/
namespace Goloop

theorem ite_pred {α : Sort u} (P : α → Prop) (c : Prop) [Decidable c] (a b : α)
    (ha : c → P a) (hb : ¬ c → P b) : P (if c then a else b) := by
  by_cases h : c
  · rw [if_pos h]; exact ha h
  · rw [if_neg h]; exact hb h

/-- `ite_pred` where neither branch needs its guard -/
theorem ite_both {α : Sort u} (P : α → Prop) {c : Prop} [Decidable c] {a b : α} (ha : P a) (hb : P b) :
    P (if c then a else b) :=
  ite_pred P c a b (fun _ => ha) (fun _ => hb)

/-- One guard of a chain `if c₁ then e₁ else if c₂ then e₂ else … else r`: the chain yields `x`,
    which no `eᵢ` is, exactly when every guard is passed and the rest yields `x`.
    Used as `simp only [guard_iff, ne_eq, reduceCtorEq, not_false_eq_true, …]` (`reduceCtorEq` settles
    `eᵢ ≠ x`); `rw [guard_iff nofun]` fails, since `nofun` is elaborated before `a` and `x` are known. -/
theorem guard_iff {α : Sort u} {c : Prop} [Decidable c] {a b x : α} (ha : a ≠ x) :
    (if c then a else b) = x ↔ ¬ c ∧ b = x := by
  by_cases h : c
  · rw [if_pos h]; exact ⟨fun e => absurd e ha, fun e => absurd h e.1⟩
  · rw [if_neg h]; exact (and_iff_right h).symm

/-- the `→` half in the form a walk along a chain wants: `refine of_guard nofun fun h₁ => of_guard nofun fun h₂ => ?_` -/
theorem of_guard {α : Sort u} {c : Prop} [Decidable c] {a b x : α} {G : Prop} (ha : a ≠ x)
    (h : ¬ c → b = x → G) (e : (if c then a else b) = x) : G :=
  ((guard_iff ha).1 e).elim h

/-- the last guard of such a chain, written the other way round: `if c then x else e` -/
theorem guard_last_iff {α : Sort u} {c : Prop} [Decidable c] {b x : α} (hb : b ≠ x) :
    (if c then x else b) = x ↔ c := by
  by_cases h : c
  · rw [if_pos h]; exact iff_of_true rfl h
  · rw [if_neg h]; exact iff_of_false hb h

end Goloop
