/-
  Props/C05 — "Commit certificates are accepted only with >2/3 distinct valid signatures".

  `verifyBlock signerOf bootstrap n items` is `blockCommitVoteList.VerifyBlock`
  (Model/C05.lean, describing the code with fix F9 applied: an item whose
  signature recovers no public key is rejected instead of dereferencing a nil
  address).  `signerOf item = some i` stands for: the signature of the item is
  a signature, by the key of validator `i` of the designated validator list,
  over the precommit for exactly (block height, list round, block id, list
  part-set id + app data, item timestamp).  That reading is the ECDSA
  unforgeability assumption (registry `assumptions`); the theorems hold for
  every function `signerOf`.
-/
import Goloop.Proofs.C05
import Goloop.Props.C04
namespace Goloop.C05

/-- `enoughVote` is exactly "no validators, or strictly more than two thirds". -/
theorem enoughVote_exact (voted voters : Nat) :
    enoughVote voted voters = true ↔ (voters = 0 ∨ 3 * voted > 2 * voters) := by
  unfold enoughVote
  rw [Bool.if_true_left, Bool.or_eq_true, decide_eq_true_iff, decide_eq_true_iff, C04.threshold_exact]

/-- Non-empty validator set, height > 0: the certificate is accepted exactly when every item is
    signed by a validator of the set, no validator appears twice, and more than 2/3 signed. -/
theorem verifyBlock_accepts_iff {Item : Type} (signerOf : Item → Option Nat) (n : Nat) (hn : 0 < n)
    (items : List Item) :
    (∃ voted, verifyBlock signerOf false n items = Res.ok voted) ↔
      ((∀ it ∈ items, ∃ i, signerOf it = some i ∧ i < n) ∧
       (items.map signerOf).Nodup ∧
       3 * items.length > 2 * n) := by
  simp only [Proofs.verifyBlock_ok_iff, exists_and_right, (Proofs.loop_spec _ _ _).1,
    Proofs.replicate_get_self, enoughVote_exact, and_assoc]
  exact and_congr_right fun _ => and_congr_right fun _ =>
    ⟨fun h => h.resolve_left (Nat.ne_of_gt hn), Or.inr⟩

example : (0 : Nat) < 4 ∧ verifyBlock (fun (k : Nat) => if k < 4 then some k else none) false 4 [2, 0, 3] =
    Res.ok [true, false, true, true] := by decide

/-- Any other outcome for a well-behaved `IndexOf` is a rejection (never a Go panic). -/
theorem verifyBlock_rejects_otherwise {Item : Type} (signerOf : Item → Option Nat) (n : Nat)
    (hidx : ∀ it i, signerOf it = some i → i < n) (items : List Item) :
    (∃ voted, verifyBlock signerOf false n items = Res.ok voted) ∨
      verifyBlock signerOf false n items = Res.reject := by
  have hp := (Proofs.loop_spec signerOf items (List.replicate n false)).2.1
    (fun it _ i hi => List.length_replicate ▸ hidx it i hi)
  fun_cases verifyBlock signerOf false n items with
  | case1 h | case2 h => cases h
  | case3 _ hl => exact absurd hl hp
  | case4 | case6 => exact Or.inr rfl
  | case5 _ vset => exact Or.inl ⟨vset, rfl⟩

example : ∀ (it : Nat) (i : Nat), (fun (k : Nat) => if k < 4 then some k else none) it = some i → i < 4 := by
  intro it i h
  dsimp only at h
  by_cases hk : it < 4
  · rw [if_pos hk] at h; exact Option.some.inj h ▸ hk
  · rw [if_neg hk] at h; cases h

/-- The returned `voted` bitmap: one bit per validator, set exactly for the signers, as many bits as
    items; so an accepted certificate carries signatures of more than 2/3 *distinct* validators. -/
theorem verifyBlock_voted {Item : Type} (signerOf : Item → Option Nat) (n : Nat)
    (items : List Item) (voted : List Bool)
    (h : verifyBlock signerOf false n items = Res.ok voted) :
    voted.length = n ∧
    (∀ i, voted[i]? = some true ↔ ∃ it ∈ items, signerOf it = some i) ∧
    voted.count true = items.length ∧
    (n = 0 ∨ 3 * voted.count true > 2 * n) := by
  obtain ⟨hl, he⟩ := (Proofs.verifyBlock_ok_iff ..).1 h
  obtain ⟨h1, h2, h3⟩ := (Proofs.loop_spec signerOf items _).2.2 _ hl
  have hc : voted.count true = items.length := by
    rw [h2, List.count_replicate, if_neg nofun, Nat.zero_add]
  refine ⟨h1.trans List.length_replicate, fun i => ?_, hc, hc ▸ (enoughVote_exact _ _).1 he⟩
  rw [h3 i]
  exact ⟨fun h' => h'.resolve_left fun e => Bool.noConfusion (List.eq_of_mem_replicate (List.mem_of_getElem? e)),
    Or.inr⟩

/-- Empty validator set (height > 0): accepted exactly when the list has no items. -/
theorem verifyBlock_empty_set {Item : Type} (signerOf : Item → Option Nat) (items : List Item) :
    (∃ voted, verifyBlock signerOf false 0 items = Res.ok voted) ↔ items = [] := by
  simp only [Proofs.verifyBlock_ok_iff, exists_and_right, (Proofs.loop_spec _ _ _).1]
  constructor
  · rintro ⟨⟨h1, _⟩, _⟩
    cases items with
    | nil => rfl
    | cons it rest =>
      obtain ⟨i, _, h2⟩ := h1 it List.mem_cons_self
      cases h2
  · rintro rfl
    exact ⟨⟨nofun, List.nodup_nil⟩, rfl⟩

/-- Bootstrap (block height 0 or no validator list): only the empty list is accepted, with a nil
    bitmap; the signatures are not looked at. -/
theorem verifyBlock_bootstrap {Item : Type} (signerOf : Item → Option Nat) (n : Nat) (items : List Item) :
    (verifyBlock signerOf true n items = Res.okNil ↔ items = []) ∧
    (items ≠ [] → verifyBlock signerOf true n items = Res.reject) ∧
    (∀ voted, verifyBlock signerOf true n items ≠ Res.ok voted) := by
  unfold verifyBlock
  cases items with
  | nil => simp
  | cons it rest => simp


/-! ### fast-synced blocks: `consensus.processBlock`

`processBlock` does not call `VerifyBlock`; it converts the commit vote list to votes
(`toVoteList`: every item must recover to a validator, else reject), adds each vote to the
height vote set at the signer's validator index, and accepts the block only if the precommit
vote set of the list's round then reports a +2/3 decision whose part-set id equals the id of the
received block.  The vote set is the one of property C04 (it may already contain precommits
received from the network); `psOf d` is the part-set id determined by the decision digest `d`.
This part of the model is tied to the code only through its pieces (`toVoteList` and the vote set
are run by the C05 / C04 harnesses); `processBlock` itself is not executed. -/

/-- A fast-synced block is accepted only if, after adding the list's votes, more than two thirds
    of the validator slots hold a precommit for one decision whose part-set id is the block's. -/
theorem processBlock_accepts_only_quorum {n : Nat} {s : C04.VS} (h : C04.Reachable n s)
    (adds : List (Nat × C04.Vote)) (psOf : Nat → Nat) (blockPs : Nat)
    (hacc : processBlockAccepts s adds psOf blockPs = true) :
    ∃ d, psOf d = blockPs ∧ 3 * C04.countSlots (C04.addAll s adds).slots d > 2 * n := by
  have hq := fun d => (C04.decision_iff
    (C04.Proofs.addAll_eq_run s adds ▸ C04.Proofs.reachable_run h _ : C04.Reachable n (C04.addAll s adds)) d).1
  revert hacc
  fun_cases processBlockAccepts s adds psOf blockPs with
  | case1 d hd => exact fun hacc => ⟨d, beq_iff_eq.1 hacc, hq d hd⟩
  | case2 => exact Bool.noConfusion

/-- The same for the whole modelled `processBlock` (including the `toVoteList` stage): acceptance
    implies every item is a validator's and a +2/3 quorum of *slots* (= distinct validators) holds
    the decision with the block's part-set id. Repeated items of one validator occupy one slot. -/
theorem processBlock_accept_quorum {Item : Type} (signerOf : Item → Option Nat) (voteOf : Item → C04.Vote)
    {n : Nat} {s : C04.VS} (h : C04.Reachable n s) (items : List Item) (psOf : Nat → Nat) (blockPs : Nat)
    (hacc : processBlock signerOf voteOf s items psOf blockPs = PB.accept) :
    (∀ it ∈ items, ∃ i, signerOf it = some i) ∧
    ∃ d, psOf d = blockPs ∧
      3 * C04.countSlots (C04.addAll s
        (items.filterMap (fun it => (signerOf it).map (fun i => (i, voteOf it))))).slots d > 2 * n := by
  revert hacc
  fun_cases processBlock signerOf voteOf s items psOf blockPs with
  | case1 | case3 | case4 | case5 => exact PB.noConfusion
  | case2 hany adds d hd hps =>
    refine fun _ => ⟨fun it hit => ?_, processBlock_accepts_only_quorum h adds psOf blockPs ?_⟩
    · exact Option.ne_none_iff_exists'.1 fun hs => hany (List.any_eq_true.2 ⟨it, hit, by rw [hs]; rfl⟩)
    · rw [processBlockAccepts, hd]; exact hps

example : processBlock (fun (k : Nat × Int) => if k.1 < 4 then some k.1 else none)
    (fun k => ⟨5, 0, 1, 1, k.2⟩) (C04.new 4) [(1, 100), (1, 101), (1, 102)] id 1 = PB.rejectNoQuorum := by decide

example : processBlockAccepts (C04.new 4)
    [(0, ⟨5, 0, 1, 7, 100⟩), (1, ⟨5, 0, 1, 7, 101⟩), (3, ⟨5, 0, 1, 7, 99⟩)] (fun d => d + 1) 8 = true := by decide


/-! ### import path: which validator set, which target

`verifyNewBlock` → `verifyProofForLastBlock(prev, b.Votes())` (and `manager.newConsensusInfo`,
`_propose`) verify the certificate carried by block h+1 against `prev.GetVoters()` =
`NextValidators` of the block at height h−1 — *not* the next validators of `prev` itself nor of
the importing block — and against the target (h, list round, id of `prev`). -/

/-- A certificate checked against the validator list `vals` and the target (`th`, `tb`, `tr`):
    accepted exactly when every item is a signature over the target by a member of `vals`, no
    member signs twice, and more than 2/3 of `vals` signed. -/
theorem verifyBlock_signerIn_iff (vals : List Nat) (th tb tr : Nat) (hne : 0 < vals.length)
    (items : List Sig) :
    (∃ voted, verifyBlock (signerIn vals th tb tr) false vals.length items = Res.ok voted) ↔
      ((∀ s ∈ items, s.key ∈ vals ∧ s.height = th ∧ s.blockId = tb ∧ s.round = tr) ∧
       (items.map (·.key)).Nodup ∧
       3 * items.length > 2 * vals.length) := by
  rw [verifyBlock_accepts_iff _ _ hne]
  simp only [Proofs.signerIn_some_iff]
  exact and_congr_right fun h1 => and_congr_left' <|
    Proofs.nodup_map_congr _ _ items fun x hx y hy => Proofs.signerIn_inj _ _ _ _ x y (h1 x hx) (h1 y hy)

/-- The certificate for the block at height h > 0 is accepted on import exactly when every item is
    a signature, over (h, id of that block, the list's round), by a member of
    `NextValidators(block h−1)`, no member signs twice, and more than 2/3 of that set signed. -/
theorem import_certificate_designated_set (nextVals : Nat → List Nat) (blockIdAt : Nat → Nat)
    (h round : Nat) (hh : 0 < h) (hne : 0 < (nextVals (h - 1)).length) (items : List Sig) :
    (∃ voted, verifyProofForLast nextVals blockIdAt h round items = Res.ok voted) ↔
      ((∀ s ∈ items, s.key ∈ nextVals (h - 1) ∧ s.height = h ∧ s.blockId = blockIdAt h ∧ s.round = round) ∧
       (items.map (·.key)).Nodup ∧
       3 * items.length > 2 * (nextVals (h - 1)).length) := by
  unfold verifyProofForLast
  rw [beq_false_of_ne (Nat.ne_of_gt hh)]
  exact verifyBlock_signerIn_iff _ _ _ _ hne items

example : verifyProofForLast (fun k => [[4], [4], [0, 1, 2, 3], [2, 3, 5]].getD k []) id 3 0
    [⟨0, 3, 3, 0⟩, ⟨1, 3, 3, 0⟩, ⟨2, 3, 3, 0⟩] = Res.ok [true, true, true, false] := by decide

/-- In particular a certificate signed (correctly targeted) by a validator that is not in
    `NextValidators(block h−1)` — e.g. by the next validators of the block itself — is rejected. -/
theorem import_rejects_other_validator_set (nextVals : Nat → List Nat) (blockIdAt : Nat → Nat)
    (h round : Nat) (hh : 0 < h) (hne : 0 < (nextVals (h - 1)).length) (items : List Sig)
    (s : Sig) (hs : s ∈ items) (hout : s.key ∉ nextVals (h - 1)) :
    ∀ voted, verifyProofForLast nextVals blockIdAt h round items ≠ Res.ok voted := by
  intro voted hv
  have := (import_certificate_designated_set nextVals blockIdAt h round hh hne items).1 ⟨voted, hv⟩
  exact hout (this.1 s hs).1

example : verifyProofForLast (fun k => [[4], [4], [0, 1, 2, 3], [2, 3, 5]].getD k []) id 3 0
    [⟨2, 3, 3, 0⟩, ⟨3, 3, 3, 0⟩, ⟨5, 3, 3, 0⟩] = Res.reject := by decide


/-! ### validator snapshots are values

Verification against a snapshot depends on the list of validators it was created with and on
nothing else — in the model by construction (snapshots are `List Nat` values; deriving a state and
changing it produces new values).  The harness checks the real `ValidatorSnapshot` objects against
that: membership recomputed from the addresses captured when the snapshot was created. -/

/-- Against a non-empty validator list value: accepted iff all signers are members, none twice,
    more than two thirds. -/
theorem verifyAgainst_iff (vals keys : List Nat) (hne : 0 < vals.length) :
    (∃ voted, verifyAgainst vals keys = Res.ok voted) ↔
      ((∀ k ∈ keys, k ∈ vals) ∧ keys.Nodup ∧ 3 * keys.length > 2 * vals.length) := by
  unfold verifyAgainst
  rw [verifyBlock_signerIn_iff _ _ _ _ hne]
  simp only [List.forall_mem_map, and_true, List.map_map, Function.comp_def, List.map_id', List.length_map]

example : verifyAgainst [0, 1, 2, 3] [0, 1, 4] = Res.reject ∧ verifyAgainst [0, 1, 2, 3] [3, 1, 0] = Res.ok [true, true, false, true] := by
  decide

end Goloop.C05
