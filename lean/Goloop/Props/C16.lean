/-
  Props/C16 — "A failed transaction changes nothing but the fee".
  Same model as C15 (Model/C15.lean).
  "Any reason": out of step (in the base frame or any nested frame), out of
  balance (checkBalance, a transfer, or at fee time with rollback), scripted
  revert at any point of any program, invalid call (transfer to a contract
  address without contract), propagated or caught failures of nested calls.
-/
import Goloop.Model.C16
import Goloop.Proofs.C15
namespace Goloop.C16
open Goloop.C15 Goloop.C15.Proofs

/-- For every configuration, world, transaction, program and fuel: if the receipt
    says "failed", the world after the transaction is the world before it with the
    fee debited from the sender — all balances of other accounts and all storage
    are exactly as before (equality of whole worlds). -/
theorem failed_tx_only_fee {n} (cfg : Cfg n) (fuel : Nat) (wInit w : World n) (tx : Tx n)
    (hf : (execTx cfg fuel wInit w tx).1.status ≠ 0) :
    (execTx cfg fuel wInit w tx).2 =
      w.setBal tx.frm (w.bal tx.frm -
        ((execTx cfg fuel wInit w tx).1.stepUsed : Int) * (execTx cfg fuel wInit w tx).1.stepPrice) :=
  (execTx_failed cfg fuel wInit w tx hf).1

/-- pointwise reading of the same fact: storage, object graphs and other balances untouched -/
theorem failed_tx_pointwise {n} (cfg : Cfg n) (fuel : Nat) (wInit w : World n) (tx : Tx n)
    (hf : (execTx cfg fuel wInit w tx).1.status ≠ 0) :
    (∀ a k, (execTx cfg fuel wInit w tx).2.store a k = w.store a k) ∧
    (∀ a, (execTx cfg fuel wInit w tx).2.graph a = w.graph a) ∧
    (∀ a, a ≠ tx.frm → (execTx cfg fuel wInit w tx).2.bal a = w.bal a) := by
  rw [failed_tx_only_fee cfg fuel wInit w tx hf]
  exact ⟨fun a k => rfl, fun a => rfl, fun a ha => bal_setBal_of_ne _ _ ha⟩

/-- A failed transaction's receipt carries no event logs and no BTP messages. -/
theorem failed_receipt_no_logs {n} (cfg : Cfg n) (fuel : Nat) (wInit w : World n) (tx : Tx n)
    (hf : (execTx cfg fuel wInit w tx).1.status ≠ 0) :
    (execTx cfg fuel wInit w tx).1.logs = [] ∧ (execTx cfg fuel wInit w tx).1.btp = 0 :=
  (execTx_failed cfg fuel wInit w tx hf).2

/-- The mechanism, at every nesting level: a call frame that fails (for any program,
    at any point) hands its caller the world as it was when the frame was entered,
    and none of its logs or BTP messages. -/
theorem failed_frame_rolls_back {n} (cfg : Cfg n) (fuel : Nat) (inter : Bool) (frm self : Fin n) (v : Int)
    (prog : List (Op n)) (w0 : World n) (limit : Nat)
    (hf : (scriptFrame cfg fuel inter frm self v prog w0 limit).status ≠ 0) :
    (scriptFrame cfg fuel inter frm self v prog w0 limit).w = w0 ∧
    (scriptFrame cfg fuel inter frm self v prog w0 limit).logs = [] ∧
    (scriptFrame cfg fuel inter frm self v prog w0 limit).btp = 0 :=
  (good_scriptFrame cfg fuel inter frm self v prog w0 limit).rollback hf

/-- same for an inter-call transfer frame (the sender is debited before the
    recipient check fails; the debit is rolled back) -/
theorem failed_transfer_frame_rolls_back {n} (cfg : Cfg n) (w0 : World n) (frm to : Fin n) (v : Int) (limit : Nat)
    (hf : (xferFrame cfg w0 frm to v limit).status ≠ 0) : (xferFrame cfg w0 frm to v limit).w = w0 :=
  ((good_xferFrame cfg w0 frm to v limit).rollback hf).1

/-! non-vacuity: a program that writes storage, emits a log, moves value in a nested
    call and then fails; and the partial mutation is real (without the frame's
    rollback the debit would be visible) -/
section Example
def exCfg : Cfg 4 :=
  { price := 2, dflt := 10, input := 1, call := 3, invoke := 1000, legacyFee := false, legacyBal := false,
    isContract := fun a => a.val = 1 || a.val = 2, hasContract := fun a => a.val = 1, treasury := 3 }
def exW : World 4 := ⟨fun a => if a.val = 0 then 1000 else 0, fun _ _ => 0, fun _ => none⟩
def exTx : Tx 4 := ⟨0, 1, 50, 200, 5, .call [.setv 0 7, .setg 2 9, .emit 1, .call 1 5 0 [.setv 1 9, .setg 3 1, .emit 2] true, .fail 3]⟩

example : (execTx exCfg 3 exW exW exTx).1.status = 35 := by decide
example : (execTx exCfg 3 exW exW exTx).1.status ≠ 0 := by decide
/-- the program really writes the object graph before it fails (the frame without the final `fail` succeeds and changes it): -/
example : ((scriptFrame exCfg 3 false 0 1 50 [.setg 2 9] exW 1000).w.graph 1) = some (2, 9) := by decide
/-- a Timeout two frames deep, after both outer frames have written storage and the object graph
    and the caught-call flag is set: the transaction fails with Timeout (12) and uses the whole limit -/
def exTxTimeout : Tx 4 :=
  ⟨0, 1, 50, 200, 5, .call [.setv 0 7, .setg 2 9, .call 1 5 0 [.setv 1 9, .call 1 0 0 [.timeout] false] false, .emit 1]⟩
example : (execTx exCfg 4 exW exW exTxTimeout).1.status = 12 ∧ (execTx exCfg 4 exW exW exTxTimeout).1.stepUsed = 200 := by decide
/-- the transfer really debits before it fails: -/
example : (doTransfer exCfg exW 0 2 5).1 ≠ 0 ∧ (doTransfer exCfg exW 0 2 5).2.bal 0 = 995 := by decide
end Example

end Goloop.C16
