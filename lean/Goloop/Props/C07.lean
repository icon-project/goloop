/-
  Props/C07 — "Imported blocks extend their parent with consistent height, link and time".

  Model: Model/C07.lean (`importBlock` = the synchronous guards of `manager._import` /
  `verifyNewBlock` / `blockV2.VerifyTimestamp`, `median` = `blockCommitVoteList.Timestamp`).
  The commit certificate check is the parameter `certOk` (property C05).
-/
import Goloop.Proofs.C07
namespace Goloop.C07

/-- `Timestamp()` does not depend on the order of the votes (for every list, overflowing or not). -/
theorem median_perm {l l' : List Int} (h : l.Perm l') : median l = median l' := by
  unfold median
  rw [Proofs.sortTs_congr h, h.length_eq]

/-- Exact formula, independent of the sorting algorithm: for every non-empty list of timestamps
    in (-2^62, 2^62) and *every* ascending arrangement `s` of it, the result is the middle element
    of `s` for odd length and the mean, truncated toward zero, of the two middle ones for even length. -/
theorem median_spec (ts : List Int) (hne : ts ≠ [])
    (hb : ∀ t ∈ ts, -(2 ^ 62 : Int) ≤ t ∧ t < 2 ^ 62)
    (s : List Int) (hperm : s.Perm ts) (hsorted : s.Pairwise (fun a b => a ≤ b)) :
    median ts =
      if ts.length % 2 = 1 then s.getD (ts.length / 2) 0
      else (s.getD (ts.length / 2 - 1) 0 + s.getD (ts.length / 2) 0).tdiv 2 := by
  rw [Proofs.sortTs_unique hperm hsorted]
  exact Proofs.median_formula ts hne hb

example : ([5, 1, 9] : List Int) ≠ [] ∧ (∀ t ∈ ([5, 1, 9] : List Int), -(2 ^ 62 : Int) ≤ t ∧ t < 2 ^ 62) ∧
    ([1, 5, 9] : List Int).Perm [5, 1, 9] ∧ ([1, 5, 9] : List Int).Pairwise (fun a b => a ≤ b) := by decide

/-- tests of the formula on literals: odd count, even count with a negative sum (truncation
    toward zero, not floor), even count with an odd positive sum -/
example : median [5, 1, 9] = 5 ∧ median [-3, 0] = -1 ∧ median [4, 7] = 5 := by
  refine ⟨?_, ?_, ?_⟩
  · rw [median_perm (l' := [1, 5, 9]) (by decide), Proofs.median_of_sorted (by decide)]; decide
  · rw [Proofs.median_of_sorted (by decide)]; decide
  · rw [Proofs.median_of_sorted (by decide)]; decide

/-- The median lies between any bounds of the timestamps, in particular within [min, max]. -/
theorem median_between (ts : List Int) (hne : ts ≠ [])
    (hb : ∀ t ∈ ts, -(2 ^ 62 : Int) ≤ t ∧ t < 2 ^ 62)
    (lo hi : Int) (h : ∀ t ∈ ts, lo ≤ t ∧ t ≤ hi) : lo ≤ median ts ∧ median ts ≤ hi := by
  rw [Proofs.median_formula ts hne hb]
  refine ite_both (fun m => lo ≤ m ∧ m ≤ hi) ?_ ?_
  · exact h _ (Proofs.sorted_getD_mem ts hne (Nat.le_refl _))
  · exact Proofs.tdiv2_bounds _ _ lo hi (h _ (Proofs.sorted_getD_mem ts hne (Nat.sub_le _ _)))
      (h _ (Proofs.sorted_getD_mem ts hne (Nat.le_refl _)))

/-- For an odd number of votes the median is one of the vote timestamps (no range condition needed). -/
theorem median_mem_of_odd (ts : List Int) (hodd : ts.length % 2 = 1) : median ts ∈ ts := by
  have hne : ts ≠ [] := fun e => by rw [e] at hodd; cases hodd
  unfold median
  rw [if_neg (fun h => hne (List.eq_nil_of_length_eq_zero h)), if_pos hodd]
  exact Proofs.sorted_getD_mem ts hne (Nat.le_refl _)

/-- Without the range condition the int64 sum wraps and the result can leave [min,max]:
    documented behaviour of the transcribed code outside the property's domain. -/
theorem median_overflow_witness :
    median [2 ^ 62, 2 ^ 62] = -(2 ^ 62 : Int) := by
  rw [Proofs.median_of_sorted (by decide)]; decide

/-- The empty vote list (blocks at height 1) has timestamp 0. -/
theorem median_nil : median [] = 0 := rfl

variable {ι : Type} [DecidableEq ι]

/-- int64 heights of the blocks in `nmap` (so that `prev.Height()+1` does not wrap) -/
def HeightsOk (nmap : List (Blk ι)) : Prop :=
  ∀ p ∈ nmap, -(2 ^ 63 : Int) ≤ p.height ∧ p.height < 2 ^ 63 - 1

/-- A block is accepted by import **iff** its `PrevID` names a block `p` of `nmap`, its version is
    the one `p`'s state requires, its height is `p`'s plus one, the certificate check passes, and
    (height ≤ 1, or its timestamp equals the median of its commit vote timestamps and is strictly
    greater than `p`'s). -/
theorem import_accept_iff (certOk : Blk ι → Cand ι → Bool) (nmap : List (Blk ι)) (b : Cand ι)
    (hh : HeightsOk nmap) :
    importBlock certOk nmap b = .accept ↔
      ∃ p, lookup nmap b.prevID = some p ∧ p ∈ nmap ∧
        b.version = p.nextVersion ∧ b.height = p.height + 1 ∧ b.prevID = p.id ∧ certOk p b = true ∧
        (b.height ≤ 1 ∨ (b.ts = median b.votes ∧ p.ts < b.ts)) := by
  unfold importBlock
  cases hl : lookup nmap b.prevID with
  | none => simp
  | some p =>
    have hm := (Proofs.lookup_some hl).1
    simp only [Option.some.injEq, exists_eq_left']
    rw [Proofs.verifyNewBlock_accept_iff certOk b p (hh p hm)]
    exact (and_iff_right hm).symm

example : HeightsOk [({ id := 7, height := 3, ts := 10, nextVersion := 2 } : Blk Nat)] ∧
    importBlock (fun _ _ => true) [({ id := 7, height := 3, ts := 10, nextVersion := 2 } : Blk Nat)]
      { version := 2, height := 4, prevID := 7, ts := 12, votes := [11, 12, 14] } = .accept := by
  constructor
  · intro p hp; cases List.mem_singleton.1 hp; decide
  · have hm : median [11, 12, 14] = 12 := by rw [Proofs.median_of_sorted (by decide)]; decide
    simp [importBlock, lookup, verifyNewBlock, verifyTimestamp, hm, wrap64]

/-- Only-if direction in the words of the property: an accepted block has its parent's height plus
    one, names its parent's id, has the version the parent's state requires, carries a valid
    certificate and, above height 1, has the median timestamp which exceeds the parent's. -/
theorem accepted_extends_parent (certOk : Blk ι → Cand ι → Bool) (nmap : List (Blk ι)) (b : Cand ι)
    (hh : HeightsOk nmap) (hacc : importBlock certOk nmap b = .accept) :
    ∃ p ∈ nmap, b.prevID = p.id ∧ b.height = p.height + 1 ∧ b.version = p.nextVersion ∧
      certOk p b = true ∧ (1 < b.height → b.ts = median b.votes ∧ p.ts < b.ts) := by
  obtain ⟨p, _, hm, hv, hhe, hid, hc, ht⟩ := (import_accept_iff certOk nmap b hh).mp hacc
  exact ⟨p, hm, hid, hhe, hv, hc, fun h1 => ht.resolve_left (Int.not_le.2 h1)⟩

/-- Deviation (single or multiple): if `b` is accepted and `b'` carries the same votes but differs
    from `b` in its version, its height, its previous id, or (above height 1) its timestamp, then
    `b'` is rejected. `hbind` is what the certificate check provides (C05): a vote list certifies
    one block id only. -/
theorem deviation_rejected (certOk : Blk ι → Cand ι → Bool) (nmap : List (Blk ι)) (b b' : Cand ι)
    (hh : HeightsOk nmap) (hacc : importBlock certOk nmap b = .accept)
    (hvotes : b'.votes = b.votes)
    (hbind : ∀ p p' : Blk ι, certOk p b = true → certOk p' b' = true → p'.id = p.id)
    (hdev : b'.version ≠ b.version ∨ b'.height ≠ b.height ∨ b'.prevID ≠ b.prevID ∨
      (b'.ts ≠ b.ts ∧ 1 < b'.height)) :
    importBlock certOk nmap b' ≠ .accept := by
  intro hacc'
  obtain ⟨p, hl, _, hv, hhe, hid, hc, ht⟩ := (import_accept_iff certOk nmap b hh).mp hacc
  obtain ⟨p', hl', _, hv', hhe', hid', hc', ht'⟩ := (import_accept_iff certOk nmap b' hh).mp hacc'
  have hprev : b'.prevID = b.prevID := by rw [hid', hid, hbind p p' hc hc']
  rw [hprev, hl] at hl'
  cases hl'
  rcases hdev with h | h | h | ⟨h, h1⟩
  · exact h (by rw [hv', hv])
  · exact h (by rw [hhe', hhe])
  · exact h hprev
  · have hheq : b'.height = b.height := hhe'.trans hhe.symm
    have ht := ht.resolve_left (Int.not_le.2 (hheq ▸ h1))
    have ht' := ht'.resolve_left (Int.not_le.2 h1)
    exact h (by rw [ht'.1, ht.1, hvotes])

/-- "Any single-field deviation in a candidate block causes import to fail": the four header fields
    the property names, one at a time, everything else unchanged. -/
theorem single_field_deviation_rejected (certOk : Blk ι → Cand ι → Bool) (nmap : List (Blk ι))
    (b : Cand ι) (hh : HeightsOk nmap) (hacc : importBlock certOk nmap b = .accept)
    (hbind : ∀ (b' : Cand ι) (p p' : Blk ι), b'.votes = b.votes →
      certOk p b = true → certOk p' b' = true → p'.id = p.id) :
    (∀ v, v ≠ b.version → importBlock certOk nmap { b with version := v } ≠ .accept) ∧
    (∀ h, h ≠ b.height → importBlock certOk nmap { b with height := h } ≠ .accept) ∧
    (∀ q, q ≠ b.prevID → importBlock certOk nmap { b with prevID := q } ≠ .accept) ∧
    (∀ t, t ≠ b.ts → 1 < b.height → importBlock certOk nmap { b with ts := t } ≠ .accept) := by
  have dev := fun (b' : Cand ι) (hv : b'.votes = b.votes) =>
    deviation_rejected certOk nmap b b' hh hacc hv (hbind b' · · hv)
  exact ⟨fun _ hv => dev _ rfl (Or.inl hv), fun _ hne => dev _ rfl (Or.inr (Or.inl hne)),
    fun _ hq => dev _ rfl (Or.inr (Or.inr (Or.inl hq))),
    fun _ ht h1 => dev _ rfl (Or.inr (Or.inr (Or.inr ⟨ht, h1⟩)))⟩

/-- non-vacuity of `single_field_deviation_rejected`'s hypotheses: a certificate check that binds
    the votes to one id, an accepted block above height 1. -/
example :
    let certOk : Blk Nat → Cand Nat → Bool := fun p c => decide (p.id = 7) && decide (c.votes = [11, 12, 14])
    let nmap : List (Blk Nat) := [{ id := 7, height := 3, ts := 10, nextVersion := 2 }]
    let b : Cand Nat := { version := 2, height := 4, prevID := 7, ts := 12, votes := [11, 12, 14] }
    importBlock certOk nmap b = .accept ∧
      (∀ (b' : Cand Nat) (p p' : Blk Nat), b'.votes = b.votes →
        certOk p b = true → certOk p' b' = true → p'.id = p.id) := by
  refine ⟨?_, ?_⟩
  · have hm : median [11, 12, 14] = 12 := by rw [Proofs.median_of_sorted (by decide)]; decide
    simp [importBlock, lookup, verifyNewBlock, verifyTimestamp, hm, wrap64]
  intro b' p p' _ h1 h2
  simp only [Bool.and_eq_true, decide_eq_true_eq] at h1 h2
  rw [h1.1, h2.1]

/-- A change of the commit votes that moves their median away from the block's timestamp is
    rejected above height 1. -/
theorem votes_deviation_rejected (certOk : Blk ι → Cand ι → Bool) (nmap : List (Blk ι))
    (b : Cand ι) (hh : HeightsOk nmap) (vs : List Int) (h1 : 1 < b.height)
    (hmed : median vs ≠ b.ts) :
    importBlock certOk nmap { b with votes := vs } ≠ .accept := by
  intro hacc
  obtain ⟨p, _, _, _, _, _, _, ht⟩ := (import_accept_iff certOk nmap _ hh).mp hacc
  exact hmed (ht.resolve_left (Int.not_le.2 h1)).1.symm

/-- Scope of the timestamp rule, exactly as coded (`b.Height() > 1`): a child of the genesis block
    (height 1) is accepted with *any* timestamp as long as the other checks pass. -/
theorem height_le_one_timestamp_free (certOk : Blk ι → Cand ι → Bool) (nmap : List (Blk ι))
    (b : Cand ι) (hh : HeightsOk nmap) (hacc : importBlock certOk nmap b = .accept)
    (hle : b.height ≤ 1) (t : Int)
    (hcert : ∀ p, certOk p { b with ts := t } = certOk p b) :
    importBlock certOk nmap { b with ts := t } = .accept := by
  obtain ⟨p, hl, hm, hv, hhe, hid, hc, _⟩ := (import_accept_iff certOk nmap b hh).mp hacc
  apply (import_accept_iff certOk nmap _ hh).mpr
  exact ⟨p, hl, hm, hv, hhe, hid, by rw [hcert p]; exact hc, Or.inl hle⟩

end Goloop.C07
