/-
  Props/C36 — "Addresses have one canonical text and byte form".

  `Valid a` (21 bytes, type byte 0 or 1) is the constructor invariant of `common.Address`: every
  setter establishes it (`*_valid` theorems) and the printing theorems assume it explicitly; the
  `invariant_is_needed` witness shows that the assumption cannot be dropped, because `String()`
  prints every type byte other than 1 as `hx`.
-/
import Goloop.Proofs.C36
namespace Goloop.C36
open Goloop.C36.Proofs

/-- the canonical text form: `hx`/`cx` followed by exactly 40 lower-case hex digits -/
def Canonical (s : Bytes) : Prop :=
  ∃ p body, s = p :: 120 :: body ∧ (p = 104 ∨ p = 99) ∧ body.length = 40 ∧ ∀ c ∈ body, isLowerHexB c = true

/-- strict-parse ∘ print = id on every address satisfying the constructor invariant. -/
theorem strict_print_parse (a : Address) (h : Valid a) : setStringStrict (toString a) = some a :=
  setStringStrict_eq_some.mpr ⟨h, rfl⟩

/-- print ∘ strict-parse = id on every accepted string, and the result satisfies the invariant. -/
theorem strict_parse_print (s : Bytes) (a : Address) (h : setStringStrict s = some a) :
    toString a = s ∧ Valid a :=
  (setStringStrict_eq_some.mp h).symm

/-- Two valid addresses that print the same are the same: the text form is injective. -/
theorem print_injective (a b : Address) (ha : Valid a) (hb : Valid b) (h : toString a = toString b) :
    a = b := by
  have h1 := strict_print_parse a ha
  rw [h, strict_print_parse b hb] at h1
  exact (Option.some.inj h1).symm

/-- canonical strings are exactly the prints of valid addresses -/
theorem canonical_iff_printed (s : Bytes) : Canonical s ↔ ∃ a, Valid a ∧ toString a = s := by
  unfold Canonical
  constructor
  · rintro ⟨p, body, rfl, hp, hl, hc⟩
    obtain ⟨id, rfl⟩ := (lowerHex_iff_encoded body).mp ⟨by rw [hl], hc⟩
    have hid : id.length = 20 := by rw [hexEncodeB_length] at hl; omega
    rcases hp with rfl | rfl
    · exact ⟨_, ⟨0, id, rfl, hid, Or.inl rfl⟩, rfl⟩
    · exact ⟨_, ⟨1, id, rfl, hid, Or.inr rfl⟩, rfl⟩
  · rintro ⟨_, ⟨t, id, rfl, hl, ht⟩, rfl⟩
    rw [toString_cons]
    exact ⟨_, _, rfl, by rcases ht with rfl | rfl <;> simp, by rw [hexEncodeB_length, hl],
      ((lowerHex_iff_encoded _).mpr ⟨id, rfl⟩).2⟩

theorem strict_accepts_iff_canonical (s : Bytes) : (∃ a, setStringStrict s = some a) ↔ Canonical s := by
  rw [canonical_iff_printed]
  exact exists_congr fun _ => setStringStrict_eq_some

theorem matchAddr_iff (p : UInt8) (s : Bytes) : matchAddr p s = true ↔
    ∃ body, s = p :: 120 :: body ∧ body.length = 40 ∧ ∀ c ∈ body, isLowerHexB c = true := by
  fun_cases matchAddr p s with
  | case1 q0 q1 body =>
    simp only [decide_eq_true_eq, List.all_eq_true]
    constructor
    · rintro ⟨rfl, rfl, hl, hc⟩; exact ⟨body, rfl, hl, hc⟩
    · rintro ⟨b, hb, hl, hc⟩
      injection hb with h0 hb; injection hb with h1 hb
      subst h0 h1 hb; exact ⟨rfl, rfl, hl, hc⟩
  | case2 _ hs => exact ⟨nofun, fun ⟨_, hb, _⟩ => (hs _ _ _ hb).elim⟩

/-- the JSON-RPC `t_addr` validator (`^hx[0-9a-f]{40}$` | `^cx[0-9a-f]{40}$`) accepts exactly what the
    strict parser accepts. -/
theorem validator_iff_strict (s : Bytes) : isAddress s = true ↔ ∃ a, setStringStrict s = some a := by
  rw [strict_accepts_iff_canonical]
  unfold isAddress isEoaAddress isScoreAddress Canonical
  rw [Bool.or_eq_true, matchAddr_iff, matchAddr_iff]
  constructor
  · rintro (⟨body, rfl, hl, hc⟩ | ⟨body, rfl, hl, hc⟩)
    · exact ⟨104, body, rfl, Or.inl rfl, hl, hc⟩
    · exact ⟨99, body, rfl, Or.inr rfl, hl, hc⟩
  · rintro ⟨p, body, rfl, hp | hp, hl, hc⟩
    · subst hp; left; exact ⟨body, rfl, hl, hc⟩
    · subst hp; right; exact ⟨body, rfl, hl, hc⟩

/-- `SetBytes (Bytes a) = a` for every address satisfying the constructor invariant. -/
theorem bytes_roundtrip (a : Address) (h : Valid a) : setBytes (bytes a) = some a := by
  obtain ⟨t, id, rfl, hl, ht⟩ := h
  unfold setBytes bytes
  simp [hl, ht]

/-- 20-byte form: `SetBytes (ID a) = a` for account addresses. -/
theorem bytes20_roundtrip (id : Bytes) (h : id.length = 20) : setBytes id = some (0 :: id) := by
  unfold setBytes; simp [h]

/-- `SetBytes` accepts exactly the 21-byte strings with type byte 0/1 (returned unchanged) and the
    20-byte strings (as account); the result always satisfies the invariant. -/
theorem setBytes_some_iff (b : Bytes) (a : Address) :
    setBytes b = some a ↔
      (b.length = 21 ∧ Valid b ∧ a = b) ∨ (b.length = 20 ∧ a = 0 :: b) := by
  constructor
  · fun_cases setBytes b with
    | case1 t r ht hl => exact fun h => .inl ⟨hl, ⟨t, r, rfl, by simpa using hl, ht⟩, (Option.some.inj h).symm⟩
    | case4 _ _ hl => exact fun h => .inr ⟨hl, (Option.some.inj h).symm⟩
    | case2 | case3 | case5 => nofun
  · unfold setBytes
    rintro (⟨hl, ⟨t, r, rfl, _, ht⟩, rfl⟩ | ⟨hl, rfl⟩)
    · rw [if_pos hl]; simp only; rw [if_pos ht]
    · rw [if_neg (by omega), if_pos hl]

theorem setBytes_valid (b : Bytes) (a : Address) (h : setBytes b = some a) : Valid a := by
  rcases (setBytes_some_iff b a).mp h with ⟨_, hv, rfl⟩ | ⟨hl, rfl⟩
  · exact hv
  · exact ⟨0, b, rfl, hl, Or.inl rfl⟩

/-- `Bytes (SetBytes b)` gives `b` back (21-byte form) or `0 :: b` (20-byte form): byte forms round-trip. -/
theorem setBytes_bytes_roundtrip (b : Bytes) (a : Address) (h : setBytes b = some a) :
    bytes a = b ∨ (b.length = 20 ∧ bytes a = 0 :: b) := by
  rcases (setBytes_some_iff b a).mp h with ⟨_, _, rfl⟩ | ⟨hl, rfl⟩
  · left; rfl
  · right; exact ⟨hl, rfl⟩

theorem setTypeAndID_valid (ic : Bool) (id : Bytes) : Valid (setTypeAndID ic id) := by
  unfold setTypeAndID
  refine ⟨_, _, rfl, ?_, by cases ic <;> simp⟩
  split
  · simp; omega
  · rw [List.length_take]; exact Nat.min_eq_left (Nat.le_of_not_lt ‹_›)

/-- the lenient parser also inverts the printer … -/
theorem lenient_print_parse (a : Address) (h : Valid a) : setString (toString a) = some a := by
  obtain ⟨t, id, rfl, hl, ht⟩ := h
  have hb : ∀ ic, setStringBody ic (hexEncodeB id) = some ((if ic then 1 else 0) :: id) := by
    intro ic; unfold setStringBody
    rw [if_neg (by rw [hexEncodeB_length, Nat.mul_mod_right]; decide)]
    simp only [hexDecode_encode, setTypeAndID_20 _ _ hl]
  rw [toString_cons]; unfold setString
  rcases ht with rfl | rfl
  · exact (if_neg (by decide)).trans ((if_pos (by decide)).trans (hb false))
  · exact (if_pos (by decide)).trans (hb true)

/-- … agrees with the strict parser wherever the strict parser accepts … -/
theorem strict_implies_lenient (s : Bytes) (a : Address) (h : setStringStrict s = some a) :
    setString s = some a := by
  obtain ⟨hp, hv⟩ := strict_parse_print s a h
  rw [← hp]; exact lenient_print_parse a hv

/-- … and whatever it accepts satisfies the invariant. -/
theorem lenient_valid (s : Bytes) (a : Address) (h : setString s = some a) : Valid a := by
  have hb : ∀ ic s1, setStringBody ic s1 = some a → Valid a := by
    intro ic s1
    fun_cases setStringBody ic s1 with
    | case1 => nofun
    | case2 => rintro ⟨⟩; exact setTypeAndID_valid _ _
  revert h
  fun_cases setString s <;> exact hb _ _

def zeroId : Bytes := List.replicate 20 0

example : Valid (1 :: zeroId) := ⟨1, zeroId, rfl, by decide, Or.inr rfl⟩
example : setStringStrict (toString (1 :: zeroId)) = some (1 :: zeroId) := by decide
example : Canonical (toString (0 :: zeroId)) := (canonical_iff_printed _).mpr ⟨_, ⟨0, zeroId, rfl, by decide, Or.inl rfl⟩, rfl⟩
example : setBytes zeroId = some (0 :: zeroId) := by decide

/-- Without the invariant the text form is NOT injective: type byte 2 prints as `hx…` and parses back
    to the account address. (Such a value cannot be produced by any setter: `*_valid`.) -/
theorem invariant_is_needed :
    ¬ Valid (2 :: zeroId) ∧ toString (2 :: zeroId) = toString (0 :: zeroId) ∧
    setStringStrict (toString (2 :: zeroId)) = some (0 :: zeroId) := by
  refine ⟨?_, by decide, by decide⟩
  rintro ⟨t, id, h, _, ht⟩
  have : t = 2 := by injection h with h1 _; exact h1.symm
  subst this
  rcases ht with h | h <;> exact absurd h (by decide)

/-- the lenient parser is NOT canonical: many strings map to one address (this is why the property is
    about the strict parser). -/
theorem lenient_not_injective :
    setString [104, 120] = some (0 :: zeroId) ∧ setString [] = some (0 :: zeroId) ∧
    setString [48, 120, 48] = some (0 :: zeroId) := by decide

end Goloop.C36
