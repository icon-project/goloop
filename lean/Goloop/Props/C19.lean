/-
  Props/C19 — "Layered database writes are all-or-nothing".

  `view s k`  = what a client reads through the layer (`GetBucket(k.1)` then `Get(k.2)`),
  `base s k`  = what is in the underlying map database,
  both plain functions `Key → Option Val` (Key = bucket id × key).  `Reachable s`:
  `s` is the state after ANY history of open / set / delete / flush(true|false)
  operations (through handles that were really handed out) on a fresh layer over
  ANY database.
-/
import Goloop.Proofs.C19
namespace Goloop.C19
open Goloop.C19.Proofs

/-- Full refinement, every history (several flushes, writes after a commit, discards
    followed by more writes …): the layer behaves as the two-function specification
    `specStep` (writes go to `view` only; commit copies `view` to `base` and from then on
    writes go to both; discard copies `base` to `view`). -/
theorem refines_spec (st : Store) (ops : List Op) (h : HistOk (newLayerDB st) ops) :
    (run (newLayerDB st) ops).flushed = (specRun (abs (newLayerDB st)) ops).flushed ∧
    (∀ k, base (run (newLayerDB st) ops) k = (specRun (abs (newLayerDB st)) ops).base k) ∧
    (∀ k, view (run (newLayerDB st) ops) k = (specRun (abs (newLayerDB st)) ops).view k) := by
  rw [← (run_ok ops _ (inv_new st) h).2]
  exact ⟨rfl, fun _ => rfl, fun _ => rfl⟩

/-- a fresh layer shows exactly the database -/
theorem view_new (st : Store) (k : BK) : view (newLayerDB st) k = sget st k :=
  congrFun (view_empty (inv_new st) rfl) k

example : HistOk (newLayerDB [(([1], [2]), [9])])
    [.open [1], .set (.layer [1]) [2] [3], .del (.layer [1]) [7], .flush false, .open [4], .flush true,
     .open [5], .set (.real [5]) [1] [1]] :=
  ⟨trivial, rfl, rfl, trivial, trivial, trivial, trivial, rfl, trivial⟩

/-- **view_is_overlay.** In every reachable state, through every valid handle:
    reads return the view; a set / delete changes the view at exactly that key (to the
    written value / to absent) and nowhere else; while the layer is not committed the
    underlying database is untouched; obtaining a bucket changes nothing. -/
theorem view_is_overlay (s : LDB) (hr : Reachable s) (h : Handle) (hv : Valid s h) (key value : Bytes) :
    bkGet s h key = view s (h.id, key) ∧
    bkHas s h key = (view s (h.id, key)).isSome ∧
    (∀ k, view (bkSet s h key value) k = upd (view s) (h.id, key) (some value) k) ∧
    (∀ k, view (bkDelete s h key) k = upd (view s) (h.id, key) none k) ∧
    (s.flushed = false → ∀ k, base (bkSet s h key value) k = base s k ∧ base (bkDelete s h key) k = base s k) ∧
    (∀ id k, view (getBucket s id).1 k = view s k ∧ base (getBucket s id).1 k = base s k) := by
  have hi := inv_of_reachable s hr
  obtain ⟨_, _, hv1, hb1⟩ := write_spec s hi h hv key (some value)
  obtain ⟨_, _, hv2, hb2⟩ := write_spec s hi h hv key none
  refine ⟨?_, ?_, congrFun hv1, congrFun hv2, ?_, ?_⟩
  · exact get_eq_view s hi h hv key
  · rw [bkHas_eq, get_eq_view s hi h hv key]
  · intro hf k
    rw [hf] at hb1 hb2
    exact ⟨congrFun hb1 k, congrFun hb2 k⟩
  · intro id k
    obtain ⟨_, _, h3, h4⟩ := open_spec s hi id
    exact ⟨congrFun h4 k, congrFun (base_congr h3) k⟩

example : Reachable (run (newLayerDB []) [.open [1], .set (.layer [1]) [2] [3]]) ∧
    Valid (run (newLayerDB []) [.open [1], .set (.layer [1]) [2] [3]]) (.layer [1]) :=
  ⟨⟨[], _, by exact ⟨trivial, rfl, trivial⟩, rfl⟩, rfl⟩

/-- **commit_makes_base_equal_view.** `Flush(true)` on a not yet committed layer succeeds
    and makes the underlying database equal, key by key, to what the layer showed
    (whatever the order of the writes, re-writes and deletes was); the view is unchanged. -/
theorem commit_makes_base_equal_view (s : LDB) (hr : Reachable s) (hf : s.flushed = false) :
    (flush s true).2 = true ∧ (flush s true).1.flushed = true ∧
    (∀ k, base (flush s true).1 k = view s k) ∧ (∀ k, view (flush s true).1 k = view s k) := by
  obtain ⟨_, hb, hv⟩ := commit_spec s (inv_of_reachable s hr)
  rw [flush_commit s hf]
  exact ⟨rfl, rfl, congrFun hb, congrFun hv⟩

/-- **discard_leaves_base.** `Flush(false)` on a not yet committed layer leaves the
    underlying database exactly as it was, forgets every pending write (the view equals
    the database again) and the layer stays usable as a layer. -/
theorem discard_leaves_base (s : LDB) (hr : Reachable s) (hf : s.flushed = false) :
    (flush s false).2 = true ∧ (flush s false).1.flushed = false ∧
    (flush s false).1.real = s.real ∧
    (∀ k, base (flush s false).1 k = base s k) ∧ (∀ k, view (flush s false).1 k = base s k) := by
  have _ := hr  -- not needed: a discard does this in every uncommitted state
  obtain ⟨_, hv⟩ := discard_spec s
  rw [flush_discard s hf]
  exact ⟨rfl, rfl, rfl, fun _ => rfl, congrFun hv⟩

/-- the database is not touched by anything but a committing flush: any history without
    a flush leaves the store itself (not only its contents) unchanged. -/
theorem no_write_before_commit (ops : List Op) (s : LDB) (hi : Inv s) (hf : s.flushed = false)
    (hh : HistOk s ops) (hn : ∀ o ∈ ops, ∀ w, o ≠ .flush w) :
    (run s ops).real = s.real ∧ (run s ops).flushed = false := by
  induction ops generalizing s with
  | nil => exact ⟨rfl, hf⟩
  | cons o r ih =>
    obtain ⟨ho, hr⟩ := hh
    have hs := (step_ok s hi o ho).1
    have hstep : (step s o).real = s.real ∧ (step s o).flushed = false := by
      cases o with
      | «open» id =>
        obtain ⟨_, h2, h3, _⟩ := open_spec s hi id
        exact ⟨h3, h2.trans hf⟩
      | set h k v =>
        have e : step s (.set h k v) = _ := write_eq s hi h ho k (some v)
        rw [e, hf]; exact ⟨rfl, rfl⟩
      | del h k =>
        have e : step s (.del h k) = _ := write_eq s hi h ho k none
        rw [e, hf]; exact ⟨rfl, rfl⟩
      | flush w => exact absurd rfl (hn (.flush w) (List.mem_cons_self) w)
    have := ih (step s o) hs hstep.2 hr (fun o' ho' => hn o' (List.mem_cons_of_mem _ ho'))
    exact ⟨this.1.trans hstep.1, this.2⟩

/-- **after_commit_passthrough.** Once committed, the layer is transparent: the view is
    the database, every set / delete through any valid handle (old layer handles or real
    buckets) goes straight to the database, `Flush(true)` is a no-op and `Flush(false)`
    is refused without changing anything. -/
theorem after_commit_passthrough (s : LDB) (hr : Reachable s) (hf : s.flushed = true)
    (h : Handle) (hv : Valid s h) (key value : Bytes) :
    (∀ k, view s k = base s k) ∧
    (∀ k, base (bkSet s h key value) k = upd (base s) (h.id, key) (some value) k) ∧
    (∀ k, base (bkDelete s h key) k = upd (base s) (h.id, key) none k) ∧
    (bkSet s h key value).flushed = true ∧ (bkDelete s h key).flushed = true ∧
    flush s true = (s, true) ∧ flush s false = (s, false) := by
  have hi := inv_of_reachable s hr
  obtain ⟨_, hf1, _, hb1⟩ := write_spec s hi h hv key (some value)
  obtain ⟨_, hf2, _, hb2⟩ := write_spec s hi h hv key none
  rw [hf] at hb1 hb2
  exact ⟨congrFun (view_empty hi (hi.empty hf)), congrFun hb1, congrFun hb2, hf1.trans hf,
    hf2.trans hf, flush_flushed s hf true, flush_flushed s hf false⟩

example : Reachable (run (newLayerDB []) [.open [1], .set (.layer [1]) [2] [3], .flush true]) ∧
    (run (newLayerDB []) [.open [1], .set (.layer [1]) [2] [3], .flush true]).flushed = true :=
  ⟨⟨[], _, by exact ⟨trivial, rfl, trivial, trivial⟩, rfl⟩, rfl⟩

end Goloop.C19
