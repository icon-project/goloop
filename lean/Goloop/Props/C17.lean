/-
  Props/C17: the Merkle Patricia trie is a canonical map.

  A history is any list of Set/Delete operations on byte keys starting from the
  empty trie (`run`).  `refMap` is the reference finite map (last write wins).
  Snapshot / flush / cache clearing do not exist in the structural model (they
  are the identity; the correspondence run checks this on the real code);
  reload is `reload`, proved to be the identity when no empty value is stored.
  The hash function `H` is an arbitrary parameter.
-/
import Goloop.Proofs.C17
import Goloop.Proofs.C17Iter
namespace Goloop.C17

inductive Op where
  | set (k v : Bytes)
  | del (k : Bytes)

def applyOp (t : Node) : Op → Node
  | .set k v => set t (bytesToNibs k) v
  | .del k => delete t (bytesToNibs k)

/-- the trie after a history of operations, starting from the empty trie -/
def run (ops : List Op) : Node := ops.foldl applyOp .empty

def refStep (m : Bytes → Option Bytes) : Op → Bytes → Option Bytes
  | .set k v => fun x => if x = k then some v else m x
  | .del k => fun x => if x = k then none else m x

/-- the reference map: last written value, none after a delete -/
def refMap (ops : List Op) : Bytes → Option Bytes := ops.foldl refStep (fun _ => none)

theorem rev_ind {α : Type} {motive : List α → Prop} (nil : motive [])
    (append_singleton : ∀ l a, motive l → motive (l ++ [a])) (l : List α) : motive l := by
  rw [← List.reverse_reverse l]
  induction l.reverse with
  | nil => simpa using nil
  | cons a t ih => simpa using append_singleton _ a ih

theorem run_snoc (ops : List Op) (op : Op) : run (ops ++ [op]) = applyOp (run ops) op := by
  simp [run, List.foldl_append]

theorem refMap_snoc (ops : List Op) (op : Op) : refMap (ops ++ [op]) = refStep (refMap ops) op := by
  simp [refMap, List.foldl_append]

/-- **normal form is an invariant of every history**, and Delete never reaches the
    `"Value is nil"` panic of branch.delete on a reachable trie. -/
theorem nf_run (ops : List Op) : NF (run ops) := by
  induction ops using rev_ind with
  | nil => exact Or.inl rfl
  | append_singleton ops op ih =>
    rw [run_snoc]
    cases op with
    | set k v => exact Or.inr (set_spec _ ih _ _).1
    | del k => exact (delete_spec _ _).1 ih

theorem delete_never_panics (ops : List Op) (k : Bytes) :
    delPanics (run ops) (bytesToNibs k) = false :=
  nf_del_no_panic _ (nf_run ops) _

/-- normal form is preserved by Set and Delete (single steps, any nibble key) -/
theorem nf_set (t : Node) (h : NF t) (k : List Nibble) (v : Bytes) : NF (set t k v) :=
  Or.inr (set_spec t h k v).1

theorem nf_delete' (t : Node) (h : NF t) (k : List Nibble) : NF (delete t k) :=
  (delete_spec t k).1 h

example : NF (set (set .empty [1, 2] [7]) [1, 3] [8]) := nf_set _ (nf_set _ (Or.inl rfl) _ _) _ _

/-- single-step refinement: Set then Get -/
theorem get_set_nf (t : Node) (h : NF t) (k : List Nibble) (v : Bytes) (k' : List Nibble) :
    get (set t k v) k' = if k' = k then some v else get t k' :=
  (set_spec t h k v).2 k'

/-- single-step refinement: Delete then Get (no hypothesis needed) -/
theorem get_delete_any (t : Node) (k k' : List Nibble) :
    get (delete t k) k' = if k' = k then none else get t k' :=
  (delete_spec t k).2 k'

/-- one operation writes `x` under one byte key, in the trie and in the reference map alike -/
theorem applyOp_spec (t : Node) (h : NF t) (m : Bytes → Option Bytes) (op : Op) :
    ∃ kb x, (∀ k, get (applyOp t op) k = if k = bytesToNibs kb then x else get t k) ∧
      ∀ y, refStep m op y = if y = kb then x else m y := by
  cases op with
  | set kb v => exact ⟨kb, some v, get_set_nf t h _ v, fun _ => rfl⟩
  | del kb => exact ⟨kb, none, get_delete_any t _, fun _ => rfl⟩

/-- after any history the trie holds exactly the pairs of the reference map, under their byte keys -/
theorem get_run_iff (ops : List Op) (k : List Nibble) (v : Bytes) :
    get (run ops) k = some v ↔ ∃ kb, k = bytesToNibs kb ∧ refMap ops kb = some v := by
  induction ops using rev_ind generalizing k with
  | nil => simp [run, refMap]
  | append_singleton ops op ih =>
    obtain ⟨kb, x, hg, hr⟩ := applyOp_spec (run ops) (nf_run ops) (refMap ops) op
    rw [run_snoc, refMap_snoc, hg]
    by_cases e : k = bytesToNibs kb
    · subst e
      rw [if_pos rfl]
      refine ⟨fun h => ⟨kb, rfl, by rw [hr, if_pos rfl]; exact h⟩, fun ⟨kb', e, h⟩ => ?_⟩
      cases bytesToNibs_injective e
      rwa [hr, if_pos rfl] at h
    · rw [if_neg e, ih]
      refine exists_congr fun kb' => and_congr_right fun h => ?_
      rw [hr, if_neg fun e' : kb' = kb => e (e' ▸ h)]

/-- only byte keys are ever stored -/
theorem run_keys_bytes (ops : List Op) (k : List Nibble) (v : Bytes)
    (h : get (run ops) k = some v) : ∃ kb : Bytes, k = bytesToNibs kb :=
  ((get_run_iff ops k v).1 h).imp fun _ => And.left

/-- **refinement to a finite map**: after any history, Get returns the last written value
    (none if never written or deleted since). -/
theorem get_run (ops : List Op) (kb : Bytes) :
    get (run ops) (bytesToNibs kb) = refMap ops kb :=
  Option.ext fun v => (get_run_iff ops _ v).trans
    ⟨fun ⟨_, e, h⟩ => bytesToNibs_injective e ▸ h, fun h => ⟨kb, rfl, h⟩⟩

/-- **normal form is canonical**: two normal-form tries holding the same pairs are equal -/
theorem nf_canonical' (t1 t2 : Node) (h1 : NF t1) (h2 : NF t2)
    (he : ∀ k, get t1 k = get t2 k) : t1 = t2 :=
  nf_canonical t1 t2 h1 h2 he

example : NF (Node.leaf [1] [2]) ∧ NF (set .empty [1] [2]) ∧
    ∀ k, get (Node.leaf [1] [2]) k = get (set .empty [1] [2]) k :=
  ⟨Or.inr trivial, nf_set _ (Or.inl rfl) _ _, fun _ => rfl⟩

/-- **the trie (hence its root hash, for any hash function) depends only on the stored pairs**:
    two histories with the same reference map end in the same node structure. -/
theorem run_order_independent (ops1 ops2 : List Op) (he : ∀ kb, refMap ops1 kb = refMap ops2 kb) :
    run ops1 = run ops2 :=
  nf_canonical _ _ (nf_run ops1) (nf_run ops2) fun k => Option.ext fun v => by
    simp only [get_run_iff, he]

theorem root_order_independent (H : Bytes → Bytes) (ops1 ops2 : List Op)
    (he : ∀ kb, refMap ops1 kb = refMap ops2 kb) :
    rootHash H (run ops1) = rootHash H (run ops2) := by
  rw [run_order_independent ops1 ops2 he]

example : ∀ kb, refMap [.set [1] [5], .set [2] [6], .del [3]] kb = refMap [.set [2] [6], .set [1] [9], .set [1] [5]] kb := by
  intro kb
  simp only [refMap, List.foldl, refStep]
  by_cases h1 : kb = [1]
  · subst h1; rfl
  by_cases h2 : kb = [2]
  · subst h2; rfl
  rw [if_neg h2, if_neg h1, if_neg h1, if_neg h1, if_neg h2, ite_self]

/-- **iteration** yields exactly the stored pairs, in strictly ascending key order -/
theorem iterator_run (ops : List Op) :
    (iterator (run ops)).Pairwise (fun a b => a.1 < b.1) ∧
    ∀ kb v, (kb, v) ∈ iterator (run ops) ↔ refMap ops kb = some v := by
  obtain ⟨h1, h2⟩ := iterator_sorted_complete (run ops) (run_keys_bytes ops)
  refine ⟨h1, fun kb v => ?_⟩
  rw [h2, get_run]

/-- **prefix iteration** yields exactly the stored pairs whose key has the prefix, ascending -/
theorem filter_run (ops : List Op) (pfx : Bytes) :
    (filter (run ops) pfx).Pairwise (fun a b => a.1 < b.1) ∧
    ∀ kb v, (kb, v) ∈ filter (run ops) pfx ↔ pfx <+: kb ∧ refMap ops kb = some v := by
  obtain ⟨h1, h2⟩ := filter_sorted_complete (run ops) pfx (run_keys_bytes ops)
  refine ⟨h1, fun kb v => ?_⟩
  rw [h2, get_run]

theorem reload_id (t : Node) (h : NoEmptyBranchVal t) : reload t = t := by
  induction t with
  | empty => rfl
  | leaf ks v => rfl
  | ext ks nx ih => simp only [reload]; rw [ih h]
  | branch ch v ih =>
    obtain ⟨hv, hc⟩ := h
    simp only [reload]
    have : (fun i => reload (ch i)) = ch := funext fun i => ih i (hc i)
    rw [this]

theorem noEmpty_of_get (t : Node) (h : ∀ k, get t k ≠ some []) : NoEmptyBranchVal t := by
  induction t with
  | empty => trivial
  | leaf ks v => trivial
  | ext ks nx ih =>
    apply ih
    intro r hr
    exact h (ks ++ r) ((get_ext_append ks nx r).trans hr)
  | branch ch v ih =>
    refine ⟨by simpa using h [], fun i => ih i ?_⟩
    intro r hr
    exact h (i :: r) (by simpa using hr)

theorem refMap_set_mem (ops : List Op) (kb v : Bytes) (h : refMap ops kb = some v) :
    Op.set kb v ∈ ops := by
  induction ops using rev_ind generalizing v with
  | nil => simp [refMap] at h
  | append_singleton ops op ih =>
    rw [refMap_snoc] at h
    cases op with
    | set k w =>
      simp only [refStep] at h
      by_cases e : kb = k
      · simp [e] at h; subst h; subst e; simp
      · simp [e] at h; simp [ih v h]
    | del k =>
      simp only [refStep] at h
      by_cases e : kb = k
      · simp [e] at h
      · simp [e] at h; simp [ih v h]

/-- **flush + reload is the identity** on every trie reachable by a history that never
    stores an empty value (see `reload_loses_empty_branch_value` for why the hypothesis is needed). -/
theorem reload_run (ops : List Op) (hv : ∀ k v, Op.set k v ∈ ops → v ≠ []) :
    reload (run ops) = run ops := by
  apply reload_id
  apply noEmpty_of_get
  intro k hk
  obtain ⟨kb, _, hr⟩ := (get_run_iff ops k []).1 hk
  exact hv kb [] (refMap_set_mem ops kb [] hr) rfl

example : ∀ k v, Op.set k v ∈ [Op.set [0x12] [1], Op.del [0x12], Op.set [0x12, 0x34] [2]] → v ≠ [] := by
  intro k v h
  simp at h
  rcases h with ⟨_, rfl⟩ | ⟨_, rfl⟩ <;> simp

/-- witness (known finding `empty-value-at-branch-lost-on-reload`): with an empty value stored at
    a branch node, what deserialisation gives back is a different map: the key is gone. -/
theorem reload_loses_empty_branch_value :
    get (run [.set [0x12] [], .set [0x12, 0x34] [0x61]]) (bytesToNibs [0x12]) = some [] ∧
    get (reload (run [.set [0x12] [], .set [0x12, 0x34] [0x61]])) (bytesToNibs [0x12]) = none := by
  constructor <;> decide

end Goloop.C17
