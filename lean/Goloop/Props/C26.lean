/-
  Props/C26 — "Event log blooms have no false negatives".
  Model: Goloop/Model/C26.lean.  The hash is an arbitrary function `hash : Bytes → Bytes`
  in every theorem (no assumption on it is needed: absence of false negatives does not depend
  on the hash at all, not even on the digest length).
-/
import Goloop.Proofs.C26
import Goloop.Proofs.C25
namespace Goloop.C26
open Proofs

/-- `Contain` is exactly the subset test on bit positions (for blooms of any width). -/
theorem contain_is_subset (a b : Bloom) :
    contain a b = true ↔ ∀ i, b.testBit i = true → a.testBit i = true := contain_iff a b

/-- Merge is OR: associative, commutative, idempotent, with the empty bloom as unit. -/
theorem merge_aci (a b c : Bloom) :
    merge (merge a b) c = merge a (merge b c) ∧ merge a b = merge b a ∧ merge a a = a ∧
    merge a 0 = a ∧ merge 0 a = a := by
  refine ⟨Nat.or_assoc a b c, Nat.or_comm a b, Nat.or_self a, Nat.or_zero a, Nat.zero_or a⟩

/-- `AddLog` on any bloom = merging that bloom with the blooms of the log's items (address
    first, then every non-nil indexed value with its position). -/
theorem addLog_is_merge (hash : Bytes → Bytes) (b : Bloom) (addr : Bytes) (log : List (Option Bytes)) :
    addLog hash b addr log = merge b (mergeAll ((itemsOf addr log).map (query hash))) :=
  addLog_eq hash b addr log

/-- every item of a log is reported by the bloom the log was added to, whatever was in it. -/
theorem addLog_contains_items (hash : Bytes → Bytes) (b : Bloom) (addr : Bytes)
    (log : List (Option Bytes)) (item : Bytes) (h : item ∈ itemsOf addr log) :
    contain (addLog hash b addr log) (query hash item) = true := by
  rw [contain_iff, addLog_eq]
  exact sub_or (.inr (sub_mergeAll _ _ (List.mem_map_of_mem h)))

/-- … and what was in the bloom before stays reported. -/
theorem addLog_monotone (hash : Bytes → Bytes) (b q : Bloom) (addr : Bytes)
    (log : List (Option Bytes)) (h : contain b q = true) :
    contain (addLog hash b addr log) q = true := by
  rw [contain_iff] at h ⊢
  rw [addLog_eq]
  exact sub_or (.inl h)

/-- the items are the address (when the log has at least one entry) and each non-nil indexed
    value at its position. -/
theorem itemsOf_spec (addr : Bytes) (log : List (Option Bytes)) :
    (log ≠ [] → addrItem addr ∈ itemsOf addr log) ∧
    (∀ i v, log[i]? = some (some v) → indexedItem i v ∈ itemsOf addr log) := by
  constructor
  · intro h
    cases log with
    | nil => exact absurd rfl h
    | cons a t => exact List.mem_cons_self
  · intro i v h
    cases log with
    | nil => cases h
    | cons a t =>
      have := mem_indexedItems (a :: t) 0 i h
      rw [Nat.zero_add] at this
      exact List.mem_cons_of_mem _ this

/-- Main theorem. Take any logs, the bloom of each (`AddLog` on a fresh bloom), and merge ANY
    list `bs` of blooms in which those blooms occur — in any order, any number of times, with
    any other blooms in between.  Then for every one of the logs the merged bloom reports the
    emitting address and every indexed value at its position. -/
theorem merged_contains_each (hash : Bytes → Bytes) (logs : List (Bytes × List (Option Bytes)))
    (bs : List Bloom) (hbs : ∀ l ∈ logs, addLog hash 0 l.1 l.2 ∈ bs) :
    ∀ l ∈ logs, ∀ item ∈ itemsOf l.1 l.2, contain (mergeAll bs) (query hash item) = true := by
  intro l hl item hitem
  rw [contain_iff]
  have h1 : Sub (query hash item) (addLog hash 0 l.1 l.2) := by
    rw [← contain_iff]; exact addLog_contains_items hash 0 l.1 l.2 item hitem
  exact sub_trans h1 (sub_mergeAll bs _ (hbs l hl))

example : ∀ l ∈ [(([1, 2] : Bytes), [some ([7] : Bytes), none])],
    addLog (fun x => x) 0 l.1 l.2 ∈ [addLog (fun x => x) 0 [1, 2] [some [7], none]] := by simp

/-- the result of merging does not depend on the order (any permutation). -/
theorem mergeAll_perm (a b : List Bloom) (h : a.Perm b) : mergeAll a = mergeAll b :=
  h.foldl_eq' (init := 0) fun x _ y _ z => by
    show z ||| x ||| y = z ||| y ||| x
    rw [Nat.or_assoc, Nat.or_comm x y, ← Nat.or_assoc]

/-- nor on the tree shape: merging per-receipt blooms and then those into a block bloom is the
    same as merging everything at once. -/
theorem mergeAll_flatten (groups : List (List Bloom)) :
    mergeAll (groups.map mergeAll) = mergeAll groups.flatten := by
  induction groups with
  | nil => rfl
  | cons g gs ih => simp [mergeAll_cons, mergeAll_append, ih]

/-- merging never loses anything: whatever either operand reports, the merge reports. -/
theorem merge_monotone (a b q : Bloom) (h : contain a q = true ∨ contain b q = true) :
    contain (merge a b) q = true := by
  simp only [contain_iff] at h ⊢
  exact sub_or h

/-- `Bytes`/`SetBytes` normalisation and compression preserve the bloom exactly, hence every
    `Contain` answer, for blooms of any width (uses C25.lzw_roundtrip). -/
theorem compress_preserves (b : Bloom) : fromCompressed (compressedBytes b) = b := by
  simp only [fromCompressed, compressedBytes, C25.Proofs.roundtrip, beNat_natBytes]

theorem compress_preserves_contain (b q : Bloom) :
    contain (fromCompressed (compressedBytes b)) q = contain b q := by
  rw [compress_preserves]

/-- the empty bloom has the empty compressed form. -/
theorem compressed_zero : compressedBytes 0 = [] := by
  rw [compressedBytes, natBytes, dif_pos rfl, C25.Proofs.compress_nil]

end Goloop.C26
