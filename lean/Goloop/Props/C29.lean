/-
  Props/C29 — "BTP proofs require more than two thirds of distinct validator
  signatures, each at its own index".  `rec` is signature recovery for the decision
  hash under verification (a parameter: any function), `vals` the validator
  addresses of the proof context (`[]` = validator without key), `sigs` the
  signature vector of the proof (`none` = empty slot).
-/
import Goloop.Proofs.C29
namespace Goloop.C29
open Goloop.C29.Proofs

variable {σ : Type}

/-- `Verify` accepts iff every present signature at index `i` recovers to validator `i`
    and the number of present signatures `k` satisfies `3·k > 2·n`. -/
theorem btp_verify_iff (rec : σ → Option Bytes) (vals : List Bytes) (sigs : List (Option σ)) :
    verify rec vals sigs = none ↔
      (∀ (i : Nat) (s : σ), sigs[i]? = some (some s) → ∃ a, rec s = some a ∧ vals[i]? = some a) ∧
      3 * present sigs > 2 * vals.length :=
  verify_iff rec vals sigs

/-- the Go threshold test `valid <= 2*len(Validators)/3` (integer division) is exactly
    the negation of `3·valid > 2·n`. -/
theorem threshold_exact (valid n : Nat) : (valid ≤ 2 * n / 3) ↔ ¬ (3 * valid > 2 * n) :=
  (Decidable.not_iff_comm.mp (threshold_iff valid n)).symm

/-- a signature whose signer is not the validator registered at the slot it sits in
    (wrong index, foreign key, signature over another decision — anything that makes
    recovery yield another address) rejects the whole proof. -/
theorem wrong_signer_rejected (rec : σ → Option Bytes) (vals : List Bytes) (sigs : List (Option σ))
    (i : Nat) (s : σ) (a : Bytes) (hs : sigs[i]? = some (some s)) (hr : rec s = some a)
    (hne : vals[i]? ≠ some a) : verify rec vals sigs ≠ none := by
  intro h
  obtain ⟨b, hb, hv⟩ := ((btp_verify_iff rec vals sigs).mp h).1 i s hs
  rw [hr] at hb; cases hb; exact hne hv

example : verify (fun (s : Nat) => some [s.toUInt8]) [[1], [2], [3]] [some 1, some 3, some 2] ≠ none := by
  decide

/-- an unrecoverable (forged / malformed) signature rejects the whole proof. -/
theorem unrecoverable_rejected (rec : σ → Option Bytes) (vals : List Bytes) (sigs : List (Option σ))
    (i : Nat) (s : σ) (hs : sigs[i]? = some (some s)) (hr : rec s = none) :
    verify rec vals sigs ≠ none := by
  intro h
  obtain ⟨b, hb, _⟩ := ((btp_verify_iff rec vals sigs).mp h).1 i s hs
  rw [hr] at hb; cases hb

example : verify (fun (s : Nat) => if s = 0 then none else some [s.toUInt8]) [[1], [2], [3]]
    [some 1, some 2, some 0] ≠ none := by decide

/-- a signature in a slot beyond the validator list rejects the whole proof. -/
theorem out_of_range_rejected (rec : σ → Option Bytes) (vals : List Bytes) (sigs : List (Option σ))
    (i : Nat) (s : σ) (hs : sigs[i]? = some (some s)) (hi : vals.length ≤ i) :
    verify rec vals sigs ≠ none := by
  intro h
  obtain ⟨b, _, hv⟩ := ((btp_verify_iff rec vals sigs).mp h).1 i s hs
  exact Nat.not_lt.mpr hi (List.getElem?_eq_some_iff.mp hv).1

example : verify (fun (s : Nat) => some [s.toUInt8]) [[1]] [some 1, some 2] ≠ none := by decide

/-- a validator without key (nil address) can never contribute: any signature in its slot
    rejects the proof, provided recovery never yields the empty address. -/
theorem keyless_slot_rejected (rec : σ → Option Bytes) (vals : List Bytes) (sigs : List (Option σ))
    (hrec : ∀ s, rec s ≠ some [])
    (i : Nat) (s : σ) (hs : sigs[i]? = some (some s)) (hv : vals[i]? = some []) :
    verify rec vals sigs ≠ none := by
  intro h
  obtain ⟨b, hb, hv'⟩ := ((btp_verify_iff rec vals sigs).mp h).1 i s hs
  rw [hv] at hv'; cases hv'; exact hrec s hb

example : verify (fun (s : Nat) => some [s.toUInt8]) [[1], []] [some 1, some 2] ≠ none := by decide

/-- not more than two thirds ⇒ rejected, whatever the signatures are. -/
theorem insufficient_rejected (rec : σ → Option Bytes) (vals : List Bytes) (sigs : List (Option σ))
    (h : 3 * present sigs ≤ 2 * vals.length) : verify rec vals sigs ≠ none := by
  intro hv
  exact Nat.not_lt.mpr h ((btp_verify_iff rec vals sigs).mp hv).2

example : verify (fun (s : Nat) => some [s.toUInt8]) [[1], [2], [3]] [some 1, some 2, none] ≠ none := by
  decide
example : verify (fun (s : Nat) => some [s.toUInt8]) [[1], [2], [3]] [some 1, some 2, some 3] = none := by
  decide
example : verify (fun (s : Nat) => some [s.toUInt8]) [[1], [2], [3], [4]] [some 1, none, some 3, some 4] = none := by
  decide

/-- **distinctness**: in an accepted proof the signers are exactly the validators at the
    occupied slots, every one of them is the recovered signer of the signature in its slot,
    and there are more than 2n/3 of them; when the validator list has no repeated address the
    signers are pairwise distinct (`Nodup`). -/
theorem accepted_signers (rec : σ → Option Bytes) (vals : List Bytes) (sigs : List (Option σ))
    (h : verify rec vals sigs = none) :
    (signers vals sigs).length = present sigs ∧
    3 * (signers vals sigs).length > 2 * vals.length ∧
    (vals.Nodup → (signers vals sigs).Nodup) := by
  obtain ⟨hg, ht⟩ := (btp_verify_iff rec vals sigs).mp h
  have hlen : (signers vals sigs).length = present sigs :=
    Proofs.signers_length sigs vals (fun i s hs => by
      obtain ⟨a, _, hv⟩ := hg i s hs
      exact (List.getElem?_eq_some_iff.mp hv).1)
  exact ⟨hlen, hlen ▸ ht, (Proofs.signers_sublist vals sigs).nodup⟩

example : verify (fun (s : Nat) => some [s.toUInt8]) [[1], [2], [3]] [some 1, some 2, some 3] = none ∧
    ([[1], [2], [3]] : List Bytes).Nodup := by decide

/-! ### proofContextMap.Verify (btp/proofcontextmap.go)

`pcm ntid` is the map lookup (`none` = no context registered for that network type),
`digests` the `(NetworkTypeID, NetworkTypeSectionHash)` list of the BTP digest, `proofs`
the `NTSDProofList`, `decode` = `NewProofFromBytes`, `rec uid dbytes` = signer recovery for
the module-`uid` hash of the decision bytes `dbytes`. -/

/-- the map accepts iff there is exactly one proof per digest entry whose network type has a
    registered context, and the `k`-th proof is accepted by `Verify` of the context registered
    for the network type of the `k`-th such entry, over the decision built from THAT entry's
    network type id and section hash (and the given source uid, height, round). -/
theorem map_verify_iff (pcm : Int → Option Ctx) (decode : Bytes → Option (List (Option σ)))
    (rec : Nat → Bytes → σ → Option Bytes) (src : Option Bytes) (height round : Int)
    (digests : List (Int × Option Bytes)) (proofs : List Bytes) :
    verifyMap pcm decode rec src height round digests proofs = none ↔
      (registered pcm digests).length = proofs.length ∧
      ∀ (k : Nat) (ntid : Int) (h : Option Bytes), (registered pcm digests)[k]? = some (ntid, h) →
        ∃ ctx sigs, pcm ntid = some ctx ∧ decode (proofs.getD k []) = some sigs ∧
          verify (rec ctx.uid (Decision.bytes
            { src := src, ntid := ntid, height := height, round := round, ntsHash := h }))
            ctx.vals sigs = none := by
  fun_cases verifyMap pcm decode rec src height round digests proofs with
  | case1 hl => exact ⟨nofun, fun h => absurd h.1 hl⟩
  | case2 hl =>
    rw [mapLoop_iff]
    exact ⟨fun h => ⟨Decidable.not_not.mp hl, fun k ntid d hk => h (_, k) (List.mem_zipIdx_iff_getElem?.mpr hk)⟩,
      fun h x hx => h.2 x.2 x.1.1 x.1.2 (List.mem_zipIdx_iff_getElem?.mp hx)⟩

/-- **own context only**: in an accepted vote, the proof for the `k`-th registered network type
    carries, at each occupied slot `i`, a signature that recovers — under the decision of THAT
    network type — to validator `i` of the context registered for THAT network type, from more
    than two thirds of that context's validators.  No other context's validator list is consulted. -/
theorem map_proof_checked_against_own_context (pcm : Int → Option Ctx)
    (decode : Bytes → Option (List (Option σ))) (rec : Nat → Bytes → σ → Option Bytes)
    (src : Option Bytes) (height round : Int) (digests : List (Int × Option Bytes))
    (proofs : List Bytes)
    (hacc : verifyMap pcm decode rec src height round digests proofs = none)
    (k : Nat) (ntid : Int) (h : Option Bytes) (hk : (registered pcm digests)[k]? = some (ntid, h)) :
    ∃ ctx sigs, pcm ntid = some ctx ∧ decode (proofs.getD k []) = some sigs ∧
      (∀ (i : Nat) (s : σ), sigs[i]? = some (some s) →
        ∃ a, rec ctx.uid (Decision.bytes
          { src := src, ntid := ntid, height := height, round := round, ntsHash := h }) s = some a ∧
          ctx.vals[i]? = some a) ∧
      3 * present sigs > 2 * ctx.vals.length := by
  obtain ⟨ctx, sigs, h1, h2, h3⟩ := ((map_verify_iff pcm decode rec src height round digests proofs).mp hacc).2 k ntid h hk
  exact ⟨ctx, sigs, h1, h2, (btp_verify_iff _ _ _).mp h3⟩

/-- a vote carrying a different number of proofs than registered network types in the digest —
    in particular an extra proof for a network type without registered context — is rejected. -/
theorem map_wrong_proof_count_rejected (pcm : Int → Option Ctx)
    (decode : Bytes → Option (List (Option σ))) (rec : Nat → Bytes → σ → Option Bytes)
    (src : Option Bytes) (height round : Int) (digests : List (Int × Option Bytes))
    (proofs : List Bytes) (h : (registered pcm digests).length ≠ proofs.length) :
    verifyMap pcm decode rec src height round digests proofs = some .invalidLen := by
  unfold verifyMap; rw [if_pos h]

/-- a registered network type whose proof is missing quorum, undecodable, or signed for another
    network type's decision (recovery under this type's decision does not give this context's
    validators) rejects the whole vote. -/
theorem map_bad_proof_rejected (pcm : Int → Option Ctx)
    (decode : Bytes → Option (List (Option σ))) (rec : Nat → Bytes → σ → Option Bytes)
    (src : Option Bytes) (height round : Int) (digests : List (Int × Option Bytes))
    (proofs : List Bytes) (k : Nat) (ntid : Int) (h : Option Bytes) (ctx : Ctx)
    (hk : (registered pcm digests)[k]? = some (ntid, h)) (hc : pcm ntid = some ctx)
    (hbad : ∀ sigs, decode (proofs.getD k []) = some sigs →
      verify (rec ctx.uid (Decision.bytes
        { src := src, ntid := ntid, height := height, round := round, ntsHash := h })) ctx.vals sigs ≠ none) :
    verifyMap pcm decode rec src height round digests proofs ≠ none := by
  intro hacc
  obtain ⟨ctx', sigs, h1, h2, h3⟩ := ((map_verify_iff pcm decode rec src height round digests proofs).mp hacc).2 k ntid h hk
  rw [hc] at h1; cases h1
  exact hbad sigs h2 h3

/-- non-vacuity: two network types with different validator sets; proofs in the right order are
    accepted, swapped proofs are rejected. -/
def exPcm : Int → Option Ctx := fun n =>
  if n = 1 then some ⟨0, [[1], [2], [3]]⟩ else if n = 2 then some ⟨1, [[7], [8], [9]]⟩ else none
def exDecode : Bytes → Option (List (Option Nat)) := fun b => some (b.map (fun x => some x.toNat))
def exRec : Nat → Bytes → Nat → Option Bytes := fun _ _ s => some [s.toUInt8]

example : verifyMap exPcm exDecode exRec none 10 0 [(1, none), (5, none), (2, none)] [[1, 2, 3], [7, 8, 9]] = none ∧
    verifyMap exPcm exDecode exRec none 10 0 [(1, none), (5, none), (2, none)] [[7, 8, 9], [1, 2, 3]] ≠ none ∧
    verifyMap exPcm exDecode exRec none 10 0 [(1, none), (5, none), (2, none)] [[1, 2, 3], [1, 2, 3], [7, 8, 9]]
      = some .invalidLen := by decide +kernel

/-- decision bytes of a sample decision (matches `NewDecision(...).Bytes()` of the Go code; the
    correspondence run compares the encoder on generated decisions). -/
def exDecision : Decision :=
  { src := some [0x30, 0x78, 0x31], ntid := 2, height := 300, round := 1, ntsHash := none }
example : exDecision.bytes = [0xcb, 0x83, 0x30, 0x78, 0x31, 0x02, 0x82, 0x01, 0x2c, 0x01, 0xf8, 0x00] := by decide

end Goloop.C29
