/-
  Props/C18: trie proofs are sound and complete.

  `H` is an arbitrary hash function with 32-byte output (`hH`); a *collision*
  is an explicit pair `a ≠ b` with `H a = H b`.  Tries are in normal form
  (every reachable trie is: `C17.nf_run`) with keys and values shorter than
  2^32 (`Small`, so that RLP length prefixes fit).  `prove` is the byte-level
  transcription of NewImmutable(root).Prove(key, proof) including the RLP
  decoder; `getProofRoot` is GetProof.
-/
import Goloop.Proofs.C18
import Goloop.Props.C17
namespace Goloop.C18
open Goloop.C17

/-- the tries the theorems speak about: normal form + size bounds -/
def Good (n : Node) : Prop := NFn n ∧ Small n

theorem good_hered : Hered Good where
  notEmpty := fun h => h.1
  ext := fun ks nx h => ⟨h.1.2.2, h.2.2⟩
  branch := fun ch v i h he => by
    refine ⟨?_, h.2.2 i⟩
    rcases h.1.1 i with e | e
    · rw [e] at he; simp [Node.isEmpty] at he
    · exact e

theorem good_decOK (H : Bytes → Bytes) (hH : ∀ s, (H s).length = 32) : DecOK H Good :=
  fun n hn => deserialize_serialize_len H hH n hn.1 hn.2

theorem rootHash_good (H : Bytes → Bytes) (t : Node) (ht : Good t) :
    rootHash H t = some (H (serialize H t)) := by
  cases t with
  | empty => exact absurd ht.1 (by simp [NFn])
  | _ => rfl

/-- **completeness**: for every stored key (with a non-empty value) the proof produced by
    GetProof verifies against the root hash and yields the stored value. -/
theorem proof_complete (H : Bytes → Bytes) (hH : ∀ s, (H s).length = 32)
    (t : Node) (ht : Good t) (kb v : Bytes) (hg : get t (bytesToNibs kb) = some v) (hv : v ≠ []) :
    ∃ root p, rootHash H t = some root ∧ getProofRoot H t (bytesToNibs kb) = some p ∧
      prove H root kb p = .ok v := by
  refine ⟨_, _, rootHash_good H t ht, getProofRoot_of_get H t _ v hg, ?_⟩
  rw [prove, if_neg (hash_ne_nil H hH _)]
  exact complete_hashed H Good (good_decOK H hH) t ht _ v
    (getProof_complete H Good good_hered (good_decOK H hH) t ht _ v hg hv)

/-- what an accepted proof says, whatever it is (altered, for another key, from another trie):
    the value is the stored one and GetProof's answer is a prefix of the proof, element for
    element — unless an element of the proof is forged.  `proof_sound` and
    `altered_proof_rejected` are its two halves. -/
theorem prove_ok (H : Bytes → Bytes) (hH : ∀ s, (H s).length = 32)
    (t : Node) (ht : Good t) (root kb : Bytes) (π : List Bytes) (v : Bytes)
    (hr : rootHash H t = some root) (h : prove H root kb π = .ok v) :
    Forged H Good π ∨ get t (bytesToNibs kb) = some v ∧
      ∃ q, getProofRoot H t (bytesToNibs kb) = some q ∧ q <+: π := by
  rw [rootHash_good H t ht] at hr
  cases hr
  rw [prove, if_neg (hash_ne_nil H hH _)] at h
  exact (accept_hashed H Good (good_decOK H hH) t ht _ π v
    (accept_spec H Good good_hered (good_decOK H hH) t ht _ v) h).imp_right fun ⟨hg, hpre⟩ =>
      ⟨hg, _, getProofRoot_of_get H t _ v hg, hpre⟩

/-- **soundness**: if `Prove` yields a value under the root hash of `t`, the trie stores exactly
    that value under the key — or the proof contains an explicit hash collision. Holds for *any*
    proof (altered, for another key, for another trie). -/
theorem proof_sound (H : Bytes → Bytes) (hH : ∀ s, (H s).length = 32)
    (t : Node) (ht : Good t) (root kb : Bytes) (p : List Bytes) (v : Bytes)
    (hr : rootHash H t = some root) (h : prove H root kb p = .ok v) :
    get t (bytesToNibs kb) = some v ∨ Collision H :=
  (prove_ok H hH t ht root kb p v hr h).symm.imp And.left (Forged.collision H)

/-- **absent keys never yield a value** (unless a collision is exhibited) -/
theorem proof_absent_none (H : Bytes → Bytes) (hH : ∀ s, (H s).length = 32)
    (t : Node) (ht : Good t) (root kb : Bytes) (p : List Bytes) (v : Bytes)
    (hr : rootHash H t = some root) (habs : get t (bytesToNibs kb) = none) :
    prove H root kb p = .ok v → Collision H := by
  intro h
  rcases proof_sound H hH t ht root kb p v hr h with h1 | h2
  · rw [habs] at h1; cases h1
  · exact h2

/-- a proof belonging to another root is rejected: a value accepted under `root₂` with a proof
    is stored in the trie of `root₂` — the trie the proof was produced from is irrelevant. In
    particular with `t₂` not holding the key nothing is accepted. (Same statement as
    `proof_sound`; listed separately because the property names this case.) -/
theorem proof_other_root (H : Bytes → Bytes) (hH : ∀ s, (H s).length = 32)
    (t₁ t₂ : Node) (ht₂ : Good t₂) (root₂ kb : Bytes) (p : List Bytes) (v : Bytes)
    (_hp : getProofRoot H t₁ (bytesToNibs kb) = some p)
    (hr : rootHash H t₂ = some root₂) (h : prove H root₂ kb p = .ok v) :
    get t₂ (bytesToNibs kb) = some v ∨ Collision H :=
  proof_sound H hH t₂ ht₂ root₂ kb p v hr h

/-- **altered proofs are rejected**: whenever `Prove` accepts a proof `π` under the root of `t`,
    the honest proof `GetProof t k` is a prefix of `π` — element for element — or an explicit
    hash collision is exhibited.  So every proof in which one of the consumed elements was changed,
    dropped, reordered or replaced is rejected (up to collisions); the only alterations that can be
    accepted are additional elements *after* the honest proof (see
    `trailing_elements_accepted_witness`; a terminal hashed leaf rejects even those:
    `len(proof) != 1`). -/
theorem altered_proof_rejected (H : Bytes → Bytes) (hH : ∀ s, (H s).length = 32)
    (t : Node) (ht : Good t) (root kb : Bytes) (π : List Bytes) (v : Bytes)
    (hr : rootHash H t = some root) (h : prove H root kb π = .ok v) :
    Collision H ∨ ∃ q, getProofRoot H t (bytesToNibs kb) = some q ∧ q <+: π :=
  (prove_ok H hH t ht root kb π v hr h).imp (Forged.collision H) And.right

/-- contrapositive form: a proof that deviates from the honest one within its length is never
    accepted (unless it exhibits a collision) -/
theorem changed_element_rejected (H : Bytes → Bytes) (hH : ∀ s, (H s).length = 32)
    (t : Node) (ht : Good t) (root kb : Bytes) (q π : List Bytes) (v : Bytes)
    (hr : rootHash H t = some root) (hq : getProofRoot H t (bytesToNibs kb) = some q)
    (hdev : ¬ q <+: π) : prove H root kb π = .ok v → Collision H := by
  intro h
  rcases altered_proof_rejected H hH t ht root kb π v hr h with hc | ⟨q', hq', hpre⟩
  · exact hc
  · rw [hq] at hq'; cases hq'; exact absurd hpre hdev

/-- **never crashes** (model level): `prove` has explicit `panic` outcomes at every place where
    the Go code indexes a slice or calls through an interface that could be nil (deserialize:
    `keyheader[0]`, `b[0]` in nodeFromLink, decodeKeys `bytes[0]`; extension.prove: `n.next`).
    After fix F8 none of them is reachable, for ANY root, key and proof bytes. -/
theorem prove_never_panics (H : Bytes → Bytes) (root key : Bytes) (π : List Bytes) :
    prove H root key π ≠ .panic := by
  -- the two paths through `prove`: an empty root, any other
  fun_cases prove H root key π with
  | case1 => nofun
  | case2 => exact proveHash_total H π root _

/-- **trailing elements are ignored** (the exact class of altered proofs that is accepted):
    an accepted proof containing no hashed-leaf element stays accepted with the same value
    whatever is appended to it. -/
theorem trailing_elements_ignored (H : Bytes → Bytes) (root key : Bytes) (π extra : List Bytes)
    (v : Bytes) (hok : prove H root key π = .ok v) (hnl : ∀ b ∈ π, ¬ LeafItem b) :
    prove H root key (π ++ extra) = .ok v := by
  unfold prove at hok ⊢
  split
  · rename_i hr; simp [hr] at hok
  · rename_i hr
    rw [if_neg hr] at hok
    exact proveHash_append H π extra root _ v hok hnl

/-- an empty root (empty trie) proves nothing -/
theorem prove_empty_root (H : Bytes → Bytes) (kb : Bytes) (p : List Bytes) :
    prove H [] kb p = .reject := by
  simp [prove]

/-- an empty proof proves nothing -/
theorem prove_empty_proof (H : Bytes → Bytes) (root kb : Bytes) : prove H root kb [] = .reject := by
  simp [prove, proveHash]

/-- the first altered element is always detected: a proof whose first element is not the
    serialised root node is rejected (or is a collision). -/
theorem prove_first_element (H : Bytes → Bytes) (t : Node) (kb : Bytes)
    (b : Bytes) (rest : List Bytes) (hb : b ≠ serialize H t) :
    prove H (H (serialize H t)) kb (b :: rest) = .reject ∨ Collision H := by
  by_cases hh : H b = H (serialize H t)
  · exact Or.inr ⟨b, _, hb, hh⟩
  · left
    simp [prove, proveHash, hh]

/-- witness: which altered proofs are *accepted*.  Extra elements after a proof that ends in a
    branch value or in an embedded (hash-less) node are ignored by the code: here the honest
    proof of key 0x12 is the single root element and an appended element does not matter.
    (Only a hashed terminal *leaf* checks `len(proof) == 1`.)  By `proof_sound` the value
    accepted is still the stored one. -/
theorem trailing_elements_accepted_witness :
    let H : Bytes → Bytes := fun _ => List.replicate 32 0
    let t := run [.set [0x12] [0x61], .set [0x12, 0x34] [0x62]]
    getProofRoot H t (bytesToNibs [0x12]) = some [serialize H t] ∧
    prove H (H (serialize H t)) [0x12] [serialize H t, [0xc0]] = .ok [0x61] := by
  decide +kernel

/-- witness for the hypothesis `v ≠ []` of `proof_complete` (same root cause as the C17 known
    finding): an empty value stored at a branch node cannot be proved — the honest proof is
    answered with NotFound because the decoder reads the empty value back as "no value". -/
theorem empty_branch_value_not_provable_witness :
    let H : Bytes → Bytes := fun _ => List.replicate 32 0
    let t := run [.set [0x12] [], .set [0x12, 0x34] [0x62]]
    get t (bytesToNibs [0x12]) = some [] ∧
    getProofRoot H t (bytesToNibs [0x12]) = some [serialize H t] ∧
    prove H (H (serialize H t)) [0x12] [serialize H t] = .notfound := by
  decide +kernel

theorem small_of_get (t : Node) (hn : NFn t)
    (h : ∀ k v, get t k = some v → k.length < 2 ^ 32 ∧ v.length < 2 ^ 32) : Small t := by
  induction t with
  | empty => trivial
  | leaf ks v => exact h ks v ((get_leaf ks v ks).trans (if_pos rfl))
  | ext ks nx ih =>
    obtain ⟨k', v', hk'⟩ := nfn_has_key nx hn.2.2
    have h1 := h (ks ++ k') v' ((get_ext_append ks nx k').trans hk')
    refine ⟨Nat.lt_of_le_of_lt (List.prefix_append ks k').length_le h1.1, ih hn.2.2 fun r w hr => ?_⟩
    have := h (ks ++ r) w ((get_ext_append ks nx r).trans hr)
    exact ⟨Nat.lt_of_le_of_lt (List.suffix_append ks r).length_le this.1, this.2⟩
  | branch ch v ih =>
    refine ⟨fun x hx => (h [] x (by simp [hx])).2, fun i => ?_⟩
    rcases hn.1 i with e | e
    · rw [e]; trivial
    · refine ih i e fun r w hr => ?_
      have := h (i :: r) w hr
      exact ⟨Nat.lt_of_succ_lt this.1, this.2⟩

theorem bytesToNibs_length (kb : Bytes) : (bytesToNibs kb).length = 2 * kb.length := by
  induction kb with
  | nil => rfl
  | cons b r ih => rw [bytesToNibs, List.length_cons, List.length_cons, ih, List.length_cons, Nat.mul_succ]

/-- every non-empty trie reachable by a history whose keys are shorter than 2^31 bytes and
    values shorter than 2^32 bytes satisfies the hypotheses of the theorems above. -/
theorem good_run (ops : List Op)
    (hb : ∀ k v, Op.set k v ∈ ops → k.length < 2 ^ 31 ∧ v.length < 2 ^ 32)
    (hne : run ops ≠ .empty) : Good (run ops) := by
  have hn : NFn (run ops) := (nf_run ops).resolve_left hne
  refine ⟨hn, small_of_get _ hn ?_⟩
  intro k v hk
  obtain ⟨kb, rfl, hr⟩ := (get_run_iff ops k v).1 hk
  have := hb kb v (refMap_set_mem ops kb v hr)
  rw [bytesToNibs_length]
  exact ⟨by omega, this.2⟩

/-- completeness and soundness for any trie built by any history (random maps included) -/
theorem proof_complete_run (H : Bytes → Bytes) (hH : ∀ s, (H s).length = 32) (ops : List Op)
    (hb : ∀ k v, Op.set k v ∈ ops → k.length < 2 ^ 31 ∧ v.length < 2 ^ 32)
    (kb v : Bytes) (hg : refMap ops kb = some v) (hv : v ≠ []) :
    ∃ root p, rootHash H (run ops) = some root ∧
      getProofRoot H (run ops) (bytesToNibs kb) = some p ∧ prove H root kb p = .ok v := by
  have hget : get (run ops) (bytesToNibs kb) = some v := by rw [get_run]; exact hg
  have hne : run ops ≠ .empty := by
    intro e; rw [e] at hget; simp at hget
  exact proof_complete H hH _ (good_run ops hb hne) kb v hget hv

theorem proof_sound_run (H : Bytes → Bytes) (hH : ∀ s, (H s).length = 32) (ops : List Op)
    (hb : ∀ k v, Op.set k v ∈ ops → k.length < 2 ^ 31 ∧ v.length < 2 ^ 32)
    (root kb : Bytes) (p : List Bytes) (v : Bytes)
    (hr : rootHash H (run ops) = some root) (h : prove H root kb p = .ok v) :
    refMap ops kb = some v ∨ Collision H := by
  have hne : run ops ≠ .empty := by
    intro e; rw [e] at hr; simp [rootHash] at hr
  rw [← get_run]
  exact proof_sound H hH _ (good_run ops hb hne) root kb p v hr h

/-- non-vacuity: a concrete history satisfies the hypotheses -/
example : ∀ k v, Op.set k v ∈ [Op.set [0x12, 0x34] [0x61], Op.set [0x12, 0x56] [0x62]] →
    k.length < 2 ^ 31 ∧ v.length < 2 ^ 32 := by
  intro k v h
  simp at h
  rcases h with ⟨rfl, rfl⟩ | ⟨rfl, rfl⟩ <;> simp

example : refMap [Op.set [0x12, 0x34] [0x61], Op.set [0x12, 0x56] [0x62]] [0x12, 0x34] = some [0x61] := by
  decide

end Goloop.C18
