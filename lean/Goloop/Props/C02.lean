/-
  Props/C02 — "A correct validator never equivocates, even across crashes; everything broadcast is
  durably remembered before it is sent".

  The machine is Model/C01 (transcribed from consensus.go).  A history is ANY list of events:
  proposals, block parts, votes of anybody (equivocating ones included), timeouts, BlockManager
  callbacks delayed arbitrarily, `crash cut k` and `start` anywhere.  `crash cut k` kills the process
  at effect boundary `cut` of the trace (everything after it never happened: any point between / inside
  the WAL write, the WAL sync and the send of sendVote / sendProposal) and lets `k` unsynced records
  of every WAL survive (any prefix of the unsynced records: a torn last record is cut off by the
  reader — C03 `recover_prefix`).  `start` is the code's applyRoundWAL + applyLockWAL + applyCommitWAL
  + Start dispatch on whatever survived.
-/
import Goloop.Proofs.C02Restart
namespace Goloop.C02.Props
open Goloop.C01

/-- **No vote equivocation, crashes and restarts anywhere.**  Over the whole history two votes the
    validator signed for the same (height, round, type) are the same vote. -/
theorem no_equivocation_votes (n me : Nat) (evs : List Event) (v w : VoteRec)
    (hv : Msg.vote v ∈ sentOf (run { n := n, me := me } evs).eff)
    (hw : Msg.vote w ∈ sentOf (run { n := n, me := me } evs).eff)
    (hh : v.height = w.height) (hr : v.round = w.round) (ht : v.typ = w.typ) : v = w :=
  pairwise_msgLt_unique (inv_run n me evs).inc hv hw hh hr ht

/-- **No proposal equivocation, crashes and restarts anywhere.**  Two proposals the validator signed for
    the same (height, round) are the same proposal (same block, same POL round). -/
theorem no_equivocation_proposals (n me : Nat) (evs : List Event)
    (sg sg' h r b b' : Nat) (pol pol' : Int)
    (h1 : Msg.proposal sg h r b pol ∈ sentOf (run { n := n, me := me } evs).eff)
    (h2 : Msg.proposal sg' h r b' pol' ∈ sentOf (run { n := n, me := me } evs).eff) :
    b = b' ∧ pol = pol' ∧ sg = sg' := by
  have := pairwise_msgLt_unique_msg (inv_run n me evs).inc h1 h2 rfl
  cases this
  exact ⟨rfl, rfl, rfl⟩

/-- **C02, first sentence (full).**  For every history — any interleaving of proposals, block parts,
    votes, timeouts, delayed BlockManager callbacks, with `crash cut k` at ANY effect boundary and any
    number `k` of surviving unsynced WAL records, and `start` (WAL replay + Start dispatch) anywhere —
    the validator never signs two different votes of one type for one (height, round) and never two
    different proposals for one (height, round).  Moreover all its signed messages are signed in
    strictly increasing (height, round, step) order. -/
theorem no_equivocation (n me : Nat) (evs : List Event) :
    (∀ v w, Msg.vote v ∈ sentOf (run { n := n, me := me } evs).eff →
        Msg.vote w ∈ sentOf (run { n := n, me := me } evs).eff →
        v.height = w.height → v.round = w.round → v.typ = w.typ → v = w) ∧
    (∀ a b, a ∈ sentOf (run { n := n, me := me } evs).eff → b ∈ sentOf (run { n := n, me := me } evs).eff →
        msgKey a = msgKey b → a = b) ∧
    (sentOf (run { n := n, me := me } evs).eff).Pairwise msgLt :=
  ⟨no_equivocation_votes n me evs, fun _ _ => pairwise_msgLt_unique_msg (inv_run n me evs).inc,
   (inv_run n me evs).inc⟩

/-- **Durable before send, at every effect boundary.**  For every history and every prefix `p` of the
    effect trace (= every possible crash point), each signed message handed to the network within that
    prefix is in the SYNCED part of the round WAL of that prefix. -/
theorem durable_before_send (n me : Nat) (evs : List Event) (p : Nat) (m : Msg)
    (hm : m ∈ sentOf ((run { n := n, me := me } evs).eff.take p)) :
    Rec.msg m ∈ walDurable .round ((run { n := n, me := me } evs).eff.take p) :=
  (inv_run n me evs).tr.dbs p m hm

/-- the validator signs votes only for heights up to one above its last finalized block, at every
    effect boundary, and only with its own index -/
theorem votes_height_bound (n me : Nat) (evs : List Event) (p : Nat) (v : VoteRec)
    (hv : Msg.vote v ∈ sentOf ((run { n := n, me := me } evs).eff.take p)) :
    msgHeight (.vote v) ≤ lastFinalizedHeight ((run { n := n, me := me } evs).eff.take p) + 1 :=
  (inv_run n me evs).tr.hb p _ hv

/-- **Restart dominates own votes.**  `W` is whatever survived in the round WAL — any list of records.
    Every own vote of the current height in `W` is dominated, in (round, step) order, by what
    `applyRoundWAL` restores. -/
theorem restart_dominates_own_votes (s : S) (W : List Rec) (v : VoteRec)
    (hv : Rec.msg (.vote v) ∈ W) (hh : v.height = s.height) (hm : v.signer = s.me) (hn : s.me < s.n) :
    le2 (v.round, mstepOf v.typ) ((applyRoundWAL s W).round, (applyRoundWAL s W).step) :=
  applyRoundWAL_dominates_msg s W (.vote v) hv hh hm (fun _ _ => hn)

/-- replaying the round WAL never moves (round, step) backwards and keeps height / identity -/
theorem replay_monotone (s : S) (W : List Rec) :
    sameId s (applyRoundWAL s W) ∧
    le2 (s.round, s.step) ((applyRoundWAL s W).round, (applyRoundWAL s W).step) :=
  ⟨sameId_of_rproj (applyRoundWAL_keeps W (.refl s)).1, (applyRoundWAL_keeps W (.refl s)).2.1⟩

/-- non-vacuity: a history with a crash in the middle of an event (cut inside sendVote: the WAL write
    and sync happened, the send did not) and a restart; the restarted validator does not sign the
    prevote again -/
example :
    let evs : List Event := [.start, .proposal 1 1 0 9 (-1), .blockPart 1 9, .async, .crash 2 0, .start,
      .timeout 3, .timeout 5]
    sentOf (run { n := 4, me := 0 } evs).eff = [] ∧ (run { n := 4, me := 0 } evs).step = stPrevote := by
  decide +kernel

example :
    let s : S := { n := 4, me := 0, height := 1 }
    let W : List Rec := [.msg (.vote ⟨0, 1, .prevote, 2, some 9⟩), .voteList [⟨1, 1, .prevote, 2, some 9⟩],
                         .msg (.vote ⟨0, 1, .precommit, 2, some 9⟩)]
    ((applyRoundWAL s W).round, (applyRoundWAL s W).step) = (2, stPrecommit) := by decide

end Goloop.C02.Props
