/-
  Props/C10 — "Block execution never silently drops a transaction".

  `Tx` describes what a transaction's handler does in every execution attempt;
  `txSeq t i` / `txPar t i` are the outcome of transaction `i` under the
  sequential / concurrent retry loop (`ok k` = attempt `k` produced the
  receipt, `error e`).  `execSeq`, `execPar c sched` are the executors; a
  schedule `sched : List Nat` resolves every choice "which blocked goroutine
  (dispatcher or one of the workers) runs next", so `∀ sched` is "for every
  goroutine schedule / worker completion order" of the modelled system.
  All theorems about the concurrent executor are for `fixed = true`, i.e. the
  code with fixes/F4_pe_error_latch.diff; `original_drops_failed_tx` is the
  witness that the original code violates the property.
-/
import Goloop.Proofs.C10
namespace Goloop.C10
open Goloop.C10.Proofs

/-- `executionContext.Report` keeps the first error. -/
theorem latch_keeps_first_error (e0 e : Err) :
    report true (some e0) e = some e0 ∧ report true none e = some e := by
  simp [report]

/-- Sequential mode: either every transaction has exactly its own receipt, in block order, or the
    execution fails with the error of the first failing transaction (all earlier ones succeeded). -/
theorem seq_total (txs : List Tx) :
    (∃ out, execSeq txs = .ok out ∧ out.length = txs.length ∧
      ∀ i (h : i < txs.length), ∃ k, out[i]? = some (some k) ∧ txSeq txs[i] i = .ok k) ∨
    (∃ e, execSeq txs = .error e ∧ ∃ i, ∃ h : i < txs.length, txSeq txs[i] i = .error e ∧
      ∀ j (h' : j < i), ∃ k, txSeq (txs[j]'(by omega)) j = .ok k) := by
  unfold execSeq
  rcases seqLoop_spec txs 0 (List.replicate txs.length none) (by simp) with
    ⟨out, h0, h1, _, h3⟩ | ⟨e, h0, j, hj, h1, h2⟩
  · exact .inl ⟨out, h0, h1.trans List.length_replicate, h3⟩
  · exact .inr ⟨e, h0, j, hj, h1, h2⟩

theorem cfg_tx (txs : List Tx) (level : Nat) (fixed : Bool) (i : Nat) (h : i < txs.length) :
    (Cfg.mk txs level fixed).tx i = txs[i] := by
  simp [Cfg.tx, List.getD_eq_getElem?_getD, h]

/-- Concurrent mode (fixed code), any level ≥ 1, EVERY schedule: the executor returns (no deadlock,
    within `bound` scheduling steps), and it returns either nil with exactly the receipt of every
    transaction's successful attempt at its own index, or the genuine error of some transaction. -/
theorem par_total (txs : List Tx) (level : Nat) (hl : level ≥ 1) (sched : List Nat) :
    (∃ out, execPar ⟨txs, level, true⟩ sched = .ok out ∧ out.length = txs.length ∧
      ∀ i (h : i < txs.length), ∃ k, out[i]? = some (some k) ∧ txPar txs[i] i = .ok k) ∨
    (∃ e, execPar ⟨txs, level, true⟩ sched = .error e ∧
      ∃ i, ∃ h : i < txs.length, txPar txs[i] i = .error e) := by
  have hi := inv_init (c := ⟨txs, level, true⟩) rfl hl
  have hr := runFuel_spec (c := ⟨txs, level, true⟩) rfl (bound ⟨txs, level, true⟩) _ sched hi.1 hi.2
  obtain ⟨⟨_, hpos⟩, r, hd⟩ := hr
  unfold execPar runPar PS.result
  rw [hd] at hpos ⊢
  cases r with
  | none =>
    left
    refine ⟨_, rfl, by simp [Cfg.n], fun i h => ?_⟩
    obtain ⟨k, hb, hk⟩ := hpos i h
    exact ⟨k, by simp [Cfg.n, h, hb], by rw [← cfg_tx txs level true i h]; exact hk⟩
  | some e =>
    right
    obtain ⟨j, hj, he⟩ := hpos
    exact ⟨e, rfl, j, hj, by rw [← cfg_tx txs level true j hj]; exact he⟩

example : (2 : Nat) ≥ 1 ∧ execPar ⟨[⟨false, []⟩, ⟨false, [.efail, .fatal]⟩], 2, true⟩ [1, 0] = .error (1, 1) := by
  decide

/-- A transaction whose handler can be prepared has the same outcome in both modes. -/
theorem tx_outcome_mode_independent (t : Tx) (i : Nat) (hp : t.prep = false) : txPar t i = txSeq t i := by
  fun_cases txPar t i with
  | case1 h0 => simp [txSeq, seqFrom, seqIter, h0]
  | case2 _ h => cases hp.symm.trans h
  | case3 h0 _ => exact wFrom_eq_seqFrom t i _ 0 h0

/-- `executeTxs` in either mode, every schedule: exactly one receipt per transaction, each from the
    successful attempt of the transaction at that index (identical in both modes), or an error that
    some transaction really produced. In particular (`failed_tx_fails_block`) never `ok` while a
    transaction failed. -/
theorem exec_total (txs : List Tx) (level : Nat) (sched : List Nat) :
    (∃ out, execTxs txs level true sched = .ok out ∧ out.length = txs.length ∧
      ∀ i (h : i < txs.length), ∃ k, out[i]? = some (some k) ∧ txSeq txs[i] i = .ok k) ∨
    (∃ e, execTxs txs level true sched = .error e ∧
      ∃ i, ∃ h : i < txs.length, txSeq txs[i] i = .error e ∨ txPar txs[i] i = .error e) := by
  fun_cases execTxs txs level true sched with
  | case1 hl =>
    rcases par_total txs level (Nat.le_of_lt hl) sched with ⟨out, h1, h2, h3⟩ | ⟨e, h1, i, hi, h2⟩
    · left
      refine ⟨out, h1, h2, ?_⟩
      intro i h
      obtain ⟨k, hk1, hk2⟩ := h3 i h
      exact ⟨k, hk1, by rw [← tx_outcome_mode_independent _ _ (txPar_ok_prep hk2)]; exact hk2⟩
    · right
      exact ⟨e, h1, i, hi, Or.inr h2⟩
  | case2 hl =>
    rcases seq_total txs with ⟨out, h1, h2, h3⟩ | ⟨e, h1, i, hi, h2, _⟩
    · left; exact ⟨out, h1, h2, h3⟩
    · right; exact ⟨e, h1, i, hi, Or.inl h2⟩

/-- A transaction that fails (non-retryable error, retries exhausted, GetHandler error) is never
    skipped while the block is reported executed – in both modes, for every schedule. -/
theorem failed_tx_fails_block (txs : List Tx) (level : Nat) (sched : List Nat) (i : Nat)
    (h : i < txs.length) (e : Err) (hfail : txSeq txs[i] i = .error e) :
    ∀ out, execTxs txs level true sched ≠ .ok out := by
  intro out hout
  rcases exec_total txs level sched with ⟨out', h1, _, h3⟩ | ⟨e', h1, _⟩
  · obtain ⟨k, _, hk⟩ := h3 i h
    rw [hfail] at hk
    cases hk
  · rw [hout] at h1
    cases h1

example : txSeq (⟨false, [.efail, .crerun, .efail]⟩ : Tx) 0 = .error (0, 2) := by decide

/-- The outcome class of a concurrent execution does not depend on the schedule: it is `ok`
    exactly when no transaction fails. -/
theorem par_ok_iff (txs : List Tx) (level : Nat) (hl : level ≥ 1) (sched : List Nat) :
    (∃ out, execPar ⟨txs, level, true⟩ sched = .ok out) ↔
      ∀ i (h : i < txs.length), ∃ k, txPar txs[i] i = .ok k := by
  rcases par_total txs level hl sched with ⟨out, h1, _, h3⟩ | ⟨e, h1, i, hi, h2⟩
  · exact ⟨fun _ i h => (h3 i h).imp fun _ hk => hk.2, fun _ => ⟨out, h1⟩⟩
  · refine ⟨fun ⟨out, hout⟩ => ?_, fun hall => ?_⟩
    · rw [hout] at h1; cases h1
    · obtain ⟨k, hk⟩ := hall i hi
      rw [hk] at h2; cases h2

/-- WITNESS (original code, before fixes/F4_pe_error_latch.diff): with ConcurrencyLevel 2 the block
    [ok, non-retryable failure, ok] is reported as executed (`nil` error) with receipt 1 missing. -/
theorem original_drops_failed_tx :
    execPar ⟨[⟨false, []⟩, ⟨false, [.fatal]⟩, ⟨false, []⟩], 2, false⟩ [] = .ok [some 0, none, some 0] := by
  decide

end Goloop.C10
