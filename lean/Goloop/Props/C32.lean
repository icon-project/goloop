/-
  Props/C32 — "Peer identity is bound to a key over the session secret".

  `c : Crypto PK` (key parsing, ECDSA verify, SHA3, id-of-key) and `cfg.kdf` (session
  secret from the received ECDH parameter) are parameters: the theorems hold for every
  instantiation.  A session is `onPeer inbound` followed by ANY list of received messages
  (the remote side is the adversary).  `handed` = `nextOnPeer(p)` was called: the peer
  object left the authenticator with `p.ID()` = `id`.
-/
import Goloop.Proofs.C32
namespace Goloop.C32
open Goloop.C32.Proofs

variable {PK : Type}

/-- `VerifySignature(pub, sig, content)` succeeds with `id` iff the key parses, the signature
    has 64 or 65 bytes, its [R|S] part verifies over `sha3(content)` under that key, and `id`
    is the id derived from that key. -/
theorem verifySignature_ok_iff (c : Crypto PK) (pub sig content id : Bytes) :
    verifySignature c pub sig content = .ok id ↔
      ∃ pk rs, c.parsePub pub = some pk ∧ parseSig sig = some rs ∧
        c.verify rs (c.sha3 content) pk = true ∧ id = c.idOf pk :=
  Proofs.verifySignature_ok_iff c pub sig content id

/-- **identity only if verified**: in any session (either side, any received messages), if the
    peer is handed to the next handler, then one of the received messages was a signature
    request/response carrying a public key `pub` and a signature `sig` such that: this
    session's secret `x` is set, `pub` parses to `pk`, `sig` is well formed, it verifies over
    `sha3 x` under `pk`, the peer's id is `idOf pk` — and on the accepting side the id is not
    the node's own. -/
theorem identity_only_if_verified (c : Crypto PK) (cfg : Config) (inbound : Bool) (ms : List Msg)
    (h : (run c cfg (onPeer inbound).1 ms).handed = true) :
    ∃ m ∈ ms, ∃ pub sig,
      (m = .signatureRequest pub sig ∨ m = .signatureResponse pub sig false) ∧
      ∃ x pk rs, (run c cfg (onPeer inbound).1 ms).extra = some x ∧
        c.parsePub pub = some pk ∧ parseSig sig = some rs ∧
        c.verify rs (c.sha3 x) pk = true ∧
        (run c cfg (onPeer inbound).1 ms).id = some (c.idOf pk) ∧
        ((run c cfg (onPeer inbound).1 ms).inbound = true → c.idOf pk ≠ cfg.self) := by
  have hn : (onPeer inbound).1.handed = false := by cases inbound <;> rfl
  exact run_handed c cfg ms _ (inv_onPeer inbound) hn h

/-- a toy instantiation used for the non-vacuity examples: keys are one byte, a signature
    `k :: h` verifies under key `k` for hash `h`, sha3 is the identity, secret = the parameter. -/
def toy : Crypto UInt8 :=
  { parsePub := fun b => match b with | [k] => some k | _ => none
    verify := fun rs h pk => rs == (pk :: h) ++ List.replicate (63 - h.length) 0
    sha3 := id
    idOf := fun k => [k] }
def toyCfg : Config := { self := [0], suites := [1, 3], aeads := [1, 2, 3], kdf := fun p _ => some p }
def toySig (k : UInt8) (x : Bytes) : Bytes := (k :: x) ++ List.replicate (63 - x.length) 0 ++ [0]

example : (run toy toyCfg (onPeer true).1
    [.secureRequest [1] [] [9, 9], .signatureRequest [5] (toySig 5 [9, 9])]).handed = true := by decide +kernel
example : (run toy toyCfg (onPeer false).1
    [.secureResponse 1 0 [7] false, .signatureResponse [5] (toySig 5 [7]) false]).handed = true := by
  decide +kernel

/-- one step, any state in which a signature message is processed: a key/signature pair that does
    not verify over THIS session's secret never leads to hand-over. -/
theorem unverified_not_handed (c : Crypto PK) (cfg : Config) (s : PeerSt) (m : Msg) (pub sig : Bytes)
    (hm : m = .signatureRequest pub sig ∨ ∃ e, m = .signatureResponse pub sig e)
    (hn : s.handed = false)
    (hbad : ∀ pk rs, c.parsePub pub = some pk → parseSig sig = some rs →
      c.verify rs (c.sha3 (s.extra.getD [])) pk = false) :
    (onPacket c cfg s m).1.handed = false := by
  have hvs : ∀ id, verifySignature c pub sig (s.extra.getD []) ≠ .ok id := by
    intro id h
    obtain ⟨pk, rs, h1, h2, h3, _⟩ := (Proofs.verifySignature_ok_iff c pub sig _ id).mp h
    rw [hbad pk rs h1 h2] at h3; cases h3
  refine onPacket_cases (fun r => r.handed = false) c cfg s m hn (fun t ht => ht)
    (fun _ _ _ _ _ _ _ => hn) ?_
  intro _ _ _ pub' sig' id _ hm' hv
  have hps : pub' = pub ∧ sig' = sig := by
    rcases hm with rfl | ⟨e, rfl⟩ <;> rcases hm' with ⟨_, h, _⟩ | ⟨_, h⟩ <;> cases h <;> exact ⟨rfl, rfl⟩
  rw [hps.1, hps.2] at hv
  exact absurd hv (hvs id)

/-- **other session rejected** (under unforgeability as hypothesis): let `sig` be a signature
    that the owner of `pk` made over the secret `x'` of ANOTHER session, and assume
    (unforgeability) that `sig` verifies under `pk` for no hash other than `sha3 x'`, and
    (collision resistance) `sha3 x ≠ sha3 x'` for this session's secret `x`.  Then presenting
    `(pub, sig)` in this session does not yield an identity. -/
theorem other_session_rejected (c : Crypto PK) (cfg : Config) (s : PeerSt) (m : Msg)
    (pub sig x x' : Bytes) (pk : PK)
    (hm : m = .signatureRequest pub sig ∨ ∃ e, m = .signatureResponse pub sig e)
    (hn : s.handed = false) (hx : s.extra = some x) (hpk : c.parsePub pub = some pk)
    (hunf : ∀ rs h, parseSig sig = some rs → c.verify rs h pk = true → h = c.sha3 x')
    (hcr : c.sha3 x ≠ c.sha3 x') :
    (onPacket c cfg s m).1.handed = false := by
  apply unverified_not_handed c cfg s m pub sig hm hn
  intro pk' rs h1 h2
  rw [hpk] at h1; injection h1 with h1; subst h1
  rw [hx]
  exact Bool.eq_false_iff.mpr fun hv => hcr (hunf rs _ h2 hv)

example : toy.sha3 [7] ≠ toy.sha3 [8] ∧
    (∀ rs h, parseSig (toySig 5 [8]) = some rs → toy.verify rs h 5 = true → h.length ≤ 1 → h = toy.sha3 [8]) := by
  refine ⟨by decide, fun rs h h1 h2 h3 => ?_⟩
  have hp : parseSig (toySig 5 [8]) = some ((toySig 5 [8]).take 64) := rfl
  obtain rfl : (toySig 5 [8]).take 64 = rs := Option.some.inj (hp.symm.trans h1)
  match h, h3 with
  | [], _ => exact absurd h2 (by decide)
  | [a], _ =>
    obtain rfl : 8 = a := (List.cons.inj (List.cons.inj (eq_of_beq h2)).2).1
    rfl

/-- the same signature replayed into another session is rejected (concrete instance). -/
example : (run toy toyCfg (onPeer true).1
    [.secureRequest [1] [] [7], .signatureRequest [5] (toySig 5 [8])]).handed = false ∧
    (run toy toyCfg (onPeer true).1
    [.secureRequest [1] [] [7], .signatureRequest [5] (toySig 5 [8])]).closed = true := by decide

/-- **malformed key rejected**: a public key that does not parse never yields an identity; on the
    accepting side the peer is closed with a nil id. -/
theorem malformed_key_rejected (c : Crypto PK) (cfg : Config) (s : PeerSt) (m : Msg) (pub sig : Bytes)
    (hm : m = .signatureRequest pub sig ∨ ∃ e, m = .signatureResponse pub sig e)
    (hn : s.handed = false) (hbad : c.parsePub pub = none) :
    (onPacket c cfg s m).1.handed = false :=
  unverified_not_handed c cfg s m pub sig hm hn (fun pk rs h1 _ => by rw [hbad] at h1; cases h1)

/-- **malformed signature rejected**: a signature that is not 64 or 65 bytes long never yields an
    identity. -/
theorem malformed_signature_rejected (c : Crypto PK) (cfg : Config) (s : PeerSt) (m : Msg)
    (pub sig : Bytes)
    (hm : m = .signatureRequest pub sig ∨ ∃ e, m = .signatureResponse pub sig e)
    (hn : s.handed = false) (hbad : sig.length ≠ 64 ∧ sig.length ≠ 65) :
    (onPacket c cfg s m).1.handed = false :=
  unverified_not_handed c cfg s m pub sig hm hn (fun pk rs _ h2 => by
    unfold parseSig at h2
    rw [if_neg (fun h => h.elim hbad.2 hbad.1)] at h2; cases h2)

example : (run toy toyCfg (onPeer true).1
    [.secureRequest [1] [] [7], .signatureRequest [5, 5] (toySig 5 [7])]).handed = false := by decide
example : (run toy toyCfg (onPeer true).1
    [.secureRequest [1] [] [7], .signatureRequest [5] ((toySig 5 [7]) ++ [1])]).handed = false := by decide

/-- a handed-over or closed peer is no longer touched by the authenticator. -/
theorem frozen_after_decision (c : Crypto PK) (cfg : Config) (s : PeerSt) (m : Msg)
    (h : s.closed = true ∨ s.handed = true) : onPacket c cfg s m = (s, []) :=
  Proofs.frozen c cfg s m h

/-- out-of-sequence messages (e.g. a signature message before the secure stage) close the peer
    without hand-over. -/
theorem out_of_sequence_closed (c : Crypto PK) (cfg : Config) (s : PeerSt) (m : Msg) (sub : Sub)
    (hcl : s.closed = false) (hn : s.handed = false) (hsub : m.sub = some sub)
    (w : Sub) (b : Bool) (hw : s.wait = some (w, b)) (hne : w ≠ sub ∨ b = true) :
    (onPacket c cfg s m).1.closed = true ∧ (onPacket c cfg s m).1.handed = false := by
  have hcw : checkWait s sub = none := Option.eq_none_iff_forall_ne_some.mpr fun s1 h => by
    rcases (checkWait_some s s1 sub h).1 with h0 | h0 <;> rw [hw] at h0 <;> cases h0
    exact hne.elim (fun h => h rfl) nofun
  simp only [onPacket_open c cfg s m hcl hn, hsub, hcw]
  exact ⟨rfl, hn⟩

example : (run toy toyCfg (onPeer true).1 [.signatureRequest [5] (toySig 5 [])]).closed = true := by
  decide

/-! ### failing branches

`handleSignatureRequest` calls `p.setID(id)` *before* it looks at the error, so on the branch
"signature does not verify" (and "selfAddress") the peer object carries the id derived from
the CLAIMED, unverified public key.  The next three theorems say what that can and cannot do. -/

/-- exact outcome of an in-sequence `SignatureRequest` on the accepting side, branch by branch:
    unparsable key / signature → closed, not handed, id nil; signature does not verify →
    closed, not handed, id = id of the claimed key (the `setID` before the check); verifies but id
    is the node's own → closed, not handed; only the last branch hands the peer over. -/
theorem failing_branch_closed (c : Crypto PK) (cfg : Config) (s : PeerSt) (pub sig : Bytes)
    (hcl : s.closed = false) (hn : s.handed = false) (hw : s.wait = some (.sigReq, false)) :
    let r := (onPacket c cfg s (.signatureRequest pub sig)).1
    match verifySignature c pub sig (s.extra.getD []) with
    | .badKey => r.closed = true ∧ r.handed = false ∧ r.id = none
    | .badSig => r.closed = true ∧ r.handed = false ∧ r.id = none
    | .invalid id => r.closed = true ∧ r.handed = false ∧ r.id = some id
    | .ok id => if id = cfg.self then r.closed = true ∧ r.handed = false ∧ r.id = some id
                else r.closed = false ∧ r.handed = true ∧ r.id = some id := by
  have hcw : checkWait s .sigReq = some { s with wait := some (.sigReq, true) } := by
    unfold checkWait; rw [hw]; rfl
  simp only [onPacket_open c cfg s _ hcl hn, Msg.sub, hcw, dispatch, handleSignatureRequest]
  cases verifySignature c pub sig (s.extra.getD []) with
  | badKey => exact ⟨rfl, hn, rfl⟩
  | badSig => exact ⟨rfl, hn, rfl⟩
  | invalid id => exact ⟨rfl, hn, rfl⟩
  | ok id =>
    dsimp only
    by_cases hs : id = cfg.self
    · rw [if_pos hs, if_pos hs]; exact ⟨rfl, hn, rfl⟩
    · rw [if_neg hs, if_neg hs]; exact ⟨hcl, rfl, rfl⟩

example : (run toy toyCfg (onPeer true).1
    [.secureRequest [1] [] [7], .signatureRequest [5] (toySig 5 [8])]).id = some [5] ∧
    (run toy toyCfg (onPeer true).1
    [.secureRequest [1] [] [7], .signatureRequest [5] (toySig 5 [8])]).closed = true := by decide

/-- along any session (either side, any messages): whenever the peer object carries an id, it is
    either handed over (then `identity_only_if_verified` applies) or closed — never both.  So an
    id taken from an unverified key exists only on a closed peer object. -/
theorem id_only_on_verified_or_closed (c : Crypto PK) (cfg : Config) (inbound : Bool)
    (ms : List Msg) :
    ((run c cfg (onPeer inbound).1 ms).id.isSome = true →
        (run c cfg (onPeer inbound).1 ms).closed = true ∨
        (run c cfg (onPeer inbound).1 ms).handed = true) ∧
    ¬ ((run c cfg (onPeer inbound).1 ms).closed = true ∧
       (run c cfg (onPeer inbound).1 ms).handed = true) :=
  have h := inv_run c cfg ms _ (inv_onPeer inbound)
  ⟨h.id, h.1⟩

/-- a peer closed on any failing branch is never handed to the next handler, whatever arrives
    afterwards (`ms'`), and keeps its state. -/
theorem closed_never_handed (c : Crypto PK) (cfg : Config) (inbound : Bool) (ms ms' : List Msg)
    (h : (run c cfg (onPeer inbound).1 ms).closed = true) :
    run c cfg (onPeer inbound).1 (ms ++ ms') = run c cfg (onPeer inbound).1 ms ∧
    (run c cfg (onPeer inbound).1 (ms ++ ms')).handed = false := by
  have e : run c cfg (onPeer inbound).1 (ms ++ ms') = run c cfg (onPeer inbound).1 ms := by
    rw [run_append]; exact run_frozen c cfg ms' _ (Or.inl h)
  refine ⟨e, ?_⟩
  rw [e]
  exact Bool.eq_false_iff.mpr fun hh => (id_only_on_verified_or_closed c cfg inbound ms).2 ⟨h, hh⟩

example : (run toy toyCfg (onPeer true).1
    ([.secureRequest [1] [] [7], .signatureRequest [5] (toySig 5 [8])] ++
     [.signatureRequest [5] (toySig 5 [7])])).handed = false := by decide

end Goloop.C32
