/-
  Props/C11 — "Replay protection: a transaction is included at most once per chain".

  Configurations (Model/C11.lean, `Cfg`): `Cfg.tree` is the code in the working tree
  (F5b, F5c repaired; F5 is a known finding), `Cfg.repaired` has F5 repaired too,
  `Cfg.pinned` is the pinned commit.
-/
import Goloop.Proofs.C11
namespace Goloop.C11
open Goloop.C11.Proofs

/-- CheckTxTimestamp accepts exactly the timestamps in (bts − th, bts + th]. -/
theorem window_iff (bts th ts : Int) :
    windowCheck bts th ts = .ok ↔ (bts - th < ts ∧ ts ≤ bts + th) := Proofs.window_iff bts th ts

/-- Histories: any sequence of NewTracker / New / Add (forced or not) / Commit (of any tracker,
    in any order) / flush-worker steps.  `gOf` is the group of a transaction id (patch and normal
    transactions have different ids); a block with timestamp 0 holds no transaction. -/
inductive Reach (c : Cfg) (gOf : Id → Bool) : State → Prop
  | init : Reach c gOf State.init
  | root (s : State) (g : Bool) (ts th : Int) : Reach c gOf s → Reach c gOf (s.newRoot g ts th)
  | child (s s' : State) (p : Nat) (ts th : Int) :
      Reach c gOf s → s.newChild p ts th = some s' → Reach c gOf s'
  | add (s : State) (i : Nat) (txs : List (Id × Int)) (force : Bool) :
      Reach c gOf s →
      (∀ t, s.trackers[i]? = some t → (∀ x ∈ txs, gOf x.1 = t.normal) ∧ (t.ts = 0 → txs = [])) →
      Reach c gOf (s.add c i txs force).1
  | commit (s : State) (i : Nat) : Reach c gOf s → Reach c gOf (s.commit i)
  | flush (s : State) : Reach c gOf s → Reach c gOf s.flushStep
  /-- node restart at any point: a new manager over the same database, all trackers gone.
      The ghost log restarts, so the theorems below speak about the lists finalized since the
      last restart; see `f5d_restart_lowered_threshold_replay_in_tree` for what can happen to
      lists finalized before it. -/
  | restart (s : State) : Reach c gOf s → Reach c gOf s.restart

theorem Reach.inv {c : Cfg} {gOf : Id → Bool} {s : State} (h : Reach c gOf s) : SInv gOf s := by
  induction h with
  | init => exact SInv_init gOf
  | root s g ts th _ ih => exact SInv_newRoot ih g ts th
  | child s s' p ts th _ hc ih => exact SInv_newChild ih hc
  | add s i txs force _ hty ih => exact SInv_add c ih i txs force hty
  | commit s i _ ih => exact SInv_commitF (i + 1) s i ih
  | flush s _ ih => exact ⟨ih.wf, ih.ti, MInv_flushStep ih.mi⟩
  | restart s _ _ => exact SInv_restart gOf s

/-- `Holds c s i k ts`: a block on the chain ending in tracker `i` holds id `k`, and `ts` is a
    timestamp that block could have accepted.  The chain is: the unfinalized trackers reached
    from `i` by parent pointers (any thresholds, any timestamps), and every finalized list of the
    group, whether still cached, queued for flushing, or evicted to the database. -/
inductive Holds (c : Cfg) (s : State) (i : Nat) (k : Id) (ts : Int) : Prop
  | unfinalized (j : Nat) (tj : Tracker) : Anc s i j → s.trackers[j]? = some tj →
      tj.committed = false → k ∈ tj.ids → ownBound c tj ts → Holds c s i k ts
  | finalized (t : Tracker) (L : TxList) : s.trackers[i]? = some t → L ∈ s.mgr.log →
      L.normal = t.normal → k ∈ L.ids → ts ≤ L.ts + L.th → Holds c s i k ts

/-- `has_complete` for any state that satisfies the invariant and any sufficient fuel: one walk along
    the parent pointers, which finds an unfinalized holder at its own tracker and a finalized one at
    the root (the root is asked with the group of `i`) -/
theorem holds_found (c : Cfg) (hb : c.f5b = true) (hc : c.f5c = true) {gOf : Id → Bool} {s : State}
    (hs : SInv gOf s) (k : Id) (ts : Int) :
    ∀ fuel i, i + 1 ≤ fuel → Holds c s i k ts → trackerHasF c s fuel i k ts = true
  | 0, i, h, _ => absurd h (Nat.not_succ_le_zero i)
  | fuel + 1, i, hfuel, h => by
    have up := fun {t : Tracker} {p : Nat} (hi : s.trackers[i]? = some t) (hp : t.parent = some p) =>
      holds_found c hb hc hs k ts fuel p
        (Nat.le_trans (hs.wf i t p hi hp).1 (Nat.le_of_succ_le_succ hfuel))
    cases h with
    | unfinalized j tj hanc hj hnc hk hbd =>
      cases hanc with
      | refl => exact (trackerHasF_succ c hb s fuel _ k ts tj hj).mpr (.inl ⟨hbd, hnc, hk⟩)
      | step hi hp hrest =>
        refine (trackerHasF_succ c hb s fuel i k ts _ hi).mpr (.inr ?_)
        rw [hp]
        exact up hi hp (.unfinalized j tj hrest hj hnc hk hbd)
    | finalized t L hi hL hg hk hts =>
      refine (trackerHasF_succ c hb s fuel i k ts t hi).mpr (.inr ?_)
      cases hp : t.parent with
      | none => exact hg ▸ has_of_inv c hc hs.mi hL hk hts
      | some p =>
        obtain ⟨-, tp, htp, hn⟩ := hs.wf i t p hi hp
        exact up hi hp (.finalized tp L htp hL (hg.trans hn.symm) hk hts)

/-- tracker.Has is complete along the chain, in every reachable state. -/
theorem has_complete (c : Cfg) (hb : c.f5b = true) (hc : c.f5c = true) (gOf : Id → Bool)
    (s : State) (hr : Reach c gOf s) (i : Nat) (k : Id) (ts : Int) (h : Holds c s i k ts) :
    trackerHas c s i k ts = true :=
  holds_found c hb hc hr.inv k ts (i + 1) i (Nat.le_refl _) h

/-- manager.Has (= TXIDManager.HasRecent) finds every finalized id. -/
theorem finalized_found (c : Cfg) (hc : c.f5c = true) (gOf : Id → Bool) (s : State)
    (hr : Reach c gOf s) (L : TxList) (hL : L ∈ s.mgr.log) (k : Id) (hk : k ∈ L.ids) (ts : Int)
    (hts : ts ≤ L.ts + L.th) : s.mgr.has c L.normal k ts = true :=
  has_of_inv c hc hr.inv.mi hL hk hts

/-- what lies below a tracker: the chain of its parent, or (no parent) the finalized lists -/
def Below (c : Cfg) (s : State) (t : Tracker) (k : Id) (ts : Int) : Prop :=
  match t.parent with
  | some p => Holds c s p k ts
  | none => ∃ L ∈ s.mgr.log, L.normal = t.normal ∧ k ∈ L.ids ∧ ts ≤ L.ts + L.th

/-- General form: an unforced Add that succeeds holds no id twice and no id of a block below it. -/
theorem no_replay_cfg (c : Cfg) (hb : c.f5b = true) (hc : c.f5c = true) (gOf : Id → Bool)
    (s : State) (hr : Reach c gOf s) (i : Nat) (t : Tracker) (hi : s.trackers[i]? = some t)
    (txs : List (Id × Int)) (n : Nat) (hadd : (s.add c i txs false).2 = .ok n) :
    (txs.map (·.1)).Nodup ∧ ∀ x ∈ txs, ¬ Below c s t x.1 x.2 := by
  rcases add_cases c s i txs false with ⟨_, hne⟩ | ⟨t', hi', _, h2⟩
  · exact absurd hadd (hne n)
  rw [hi] at hi'; cases hi'
  have hok : (addLoop c s t false txs []).2 = true := by
    cases h : (addLoop c s t false txs []).2 with
    | true => rfl
    | false => rw [h2, h, if_neg Bool.false_ne_true] at hadd; cases hadd
  obtain ⟨pre, e, -, hall, hnd, hph⟩ := addLoop_spec c s t false txs []
  obtain rfl := hall hok
  refine ⟨(e ▸ hnd .nil : ([] ++ _).Nodup), fun x hx hbelow => ?_⟩
  have hfalse := hph rfl x hx
  unfold Below at hbelow
  unfold parentHas at hfalse
  cases hp : t.parent with
  | some p =>
    rw [hp] at hbelow hfalse
    cases (has_complete c hb hc gOf s hr p x.1 x.2 hbelow).symm.trans hfalse
  | none =>
    rw [hp] at hbelow hfalse
    obtain ⟨L, hL, hg, hk, hts⟩ := hbelow
    cases (hg ▸ has_of_inv c hc hr.inv.mi hL hk hts).symm.trans hfalse

/-- Full-strength statement, for the code with F5 repaired as well (`Cfg.repaired`): along any
    chain with any mix of unfinalized / finalized ancestors, any commit and flush timing and any
    per-block (ts, th), an accepted block holds no id twice and no id that a block below it holds,
    for every transaction timestamp up to and including that block's upper window bound. -/
theorem no_replay (gOf : Id → Bool) (s : State) (hr : Reach Cfg.repaired gOf s) (i : Nat)
    (t : Tracker) (hi : s.trackers[i]? = some t) (txs : List (Id × Int)) (n : Nat)
    (hadd : (s.add Cfg.repaired i txs false).2 = .ok n) :
    (txs.map (·.1)).Nodup ∧ ∀ x ∈ txs, ¬ Below Cfg.repaired s t x.1 x.2 :=
  no_replay_cfg Cfg.repaired rfl rfl gOf s hr i t hi txs n hadd

/-- The code in the tree (`Cfg.tree`, F5 present).  Same statement, except that for an
    *unfinalized* ancestor the timestamp must be strictly below its upper window bound
    (`ownBound Cfg.tree t ts` is `ts < t.ts + t.th`); finalized ancestors are covered up to and
    including the bound.
    Full statement (not provable for the tree, see `f5_boundary_replay_in_tree`): as `no_replay`. -/
theorem no_replay_tree_partial (gOf : Id → Bool) (s : State) (hr : Reach Cfg.tree gOf s) (i : Nat)
    (t : Tracker) (hi : s.trackers[i]? = some t) (txs : List (Id × Int)) (n : Nat)
    (hadd : (s.add Cfg.tree i txs false).2 = .ok n) :
    (txs.map (·.1)).Nodup ∧ ∀ x ∈ txs, ¬ Below Cfg.tree s t x.1 x.2 :=
  no_replay_cfg Cfg.tree rfl rfl gOf s hr i t hi txs n hadd

theorem ownBound_repaired (t : Tracker) (ts : Int) : ownBound Cfg.repaired t ts ↔ ts ≤ t.ts + t.th := by
  simp [ownBound, Cfg.repaired]

theorem ownBound_tree (t : Tracker) (ts : Int) : ownBound Cfg.tree t ts ↔ ts < t.ts + t.th := by
  simp [ownBound, Cfg.tree]

namespace Witness

/-- root (100,10); child 1 (101,10) holds id 1 with timestamp 111 = 101+10; child 2 (105,10) -/
def f5 (c : Cfg) : State :=
  let s0 := State.init.newRoot true 100 10
  let s1 := (s0.newChild 0 101 10).getD s0
  let s2 := (s1.add c 1 [(1, 111)] false).1
  (s2.newChild 1 105 10).getD s2

/-- parent (100,50) holds 1@130; child (110,10); grandchild (125,10) -/
def f5b (c : Cfg) : State :=
  let s0 := State.init.newRoot true 99 50
  let s1 := (s0.newChild 0 100 50).getD s0
  let s2 := (s1.add c 1 [(1, 130)] false).1
  let s3 := (s2.newChild 1 110 10).getD s2
  let s4 := (s3.add c 2 [(2, 110)] false).1
  (s4.newChild 2 125 10).getD s4

/-- (100,10) holds 1@110, finalized and flushed; (130,10) finalized and flushed evicts it;
    then a block (131,30) whose window (101,161] contains 110 -/
def f5c (c : Cfg) : State :=
  let s0 := State.init.newRoot true 99 10
  let s1 := (s0.newChild 0 100 10).getD s0
  let s2 := (s1.add c 1 [(1, 110)] false).1
  let s3 := (s2.commit 1).flushStep.flushStep
  let s4 := (s3.newChild 1 130 10).getD s3
  let s5 := (s4.add c 2 [(2, 130)] false).1
  let s6 := (s5.commit 2).flushStep
  (s6.newChild 2 131 30).getD s6

/-- service-style root (0,50); (100,50) holds 1@150, finalized and flushed; RESTART; root (0,10);
    (110,10) and (131,10) finalized (the second evicts the first: maxTSInDB = 120); then (140,10),
    whose window (130,150] contains 150 -/
def f5d (c : Cfg) : State :=
  let s0 := State.init.newRoot true 0 50
  let s1 := (s0.newChild 0 100 50).getD s0
  let s2 := (s1.add c 1 [(1, 150)] false).1
  let s3 := ((s2.commit 1).flushStep.flushStep).restart
  let s4 := s3.newRoot true 0 10
  let s5 := (s4.newChild 0 110 10).getD s4
  let s6 := (s5.add c 1 [(2, 110)] false).1
  let s7 := (s6.commit 1).flushStep.flushStep
  let s8 := (s7.newChild 1 131 10).getD s7
  let s9 := (s8.add c 2 [(3, 131)] false).1
  let s10 := (s9.commit 2).flushStep
  (s10.newChild 2 140 10).getD s10

end Witness

/-- F5 in the tree: id 1 (timestamp 111, inside both windows) is held by the unfinalized parent
    (101,10) at its upper bound and accepted again by the child (105,10). -/
theorem f5_boundary_replay_in_tree :
    (Witness.f5 Cfg.tree).trackers[1]?.map (·.ids) = some [1] ∧
    windowCheck 101 10 111 = .ok ∧ windowCheck 105 10 111 = .ok ∧
    ((Witness.f5 Cfg.tree).add Cfg.tree 2 [(1, 111)] false).2 = .ok 1 := by decide

/-- with F5 repaired the same history rejects the duplicate -/
theorem f5_boundary_rejected_when_repaired :
    ((Witness.f5 Cfg.repaired).add Cfg.repaired 2 [(1, 111)] false).2 = .dup 0 := by decide

/-- F5b at the pinned commit: threshold lowered from 50 to 10; id 1@130 of the grandparent is
    accepted again by the grandchild (125,10).  The tree rejects it. -/
theorem f5b_lowered_threshold_replay_pinned :
    windowCheck 100 50 130 = .ok ∧ windowCheck 125 10 130 = .ok ∧
    ((Witness.f5b Cfg.pinned).add Cfg.pinned 3 [(1, 130)] false).2 = .ok 1 ∧
    ((Witness.f5b Cfg.tree).add Cfg.tree 3 [(1, 130)] false).2 = .dup 0 := by decide

/-- F5c at the pinned commit: after eviction maxTSInDB = 110 and a lookup with ts = 110 is
    answered "absent" without looking into the database.  The tree finds it. -/
theorem f5c_evicted_boundary_replay_pinned :
    windowCheck 100 10 110 = .ok ∧ windowCheck 131 30 110 = .ok ∧
    (Witness.f5c Cfg.pinned).mgr.cacheN.maxTS = 110 ∧
    ((Witness.f5c Cfg.pinned).add Cfg.pinned 3 [(1, 110)] false).2 = .ok 1 ∧
    ((Witness.f5c Cfg.tree).add Cfg.tree 3 [(1, 110)] false).2 = .dup 0 := by decide +kernel

/-- F5d (tree, and also with F5 repaired): a transaction finalized BEFORE A RESTART is known to
    the new manager only through the database, but maxTSInDB is rebuilt from the lists evicted
    since the restart; if their windows end earlier (threshold lowered: 50 → 10), the lookup is
    answered "absent" without reading the database and 1@150 is accepted a second time. -/
theorem f5d_restart_lowered_threshold_replay_in_tree :
    windowCheck 100 50 150 = .ok ∧ windowCheck 140 10 150 = .ok ∧
    (1 ∈ (Witness.f5d Cfg.tree).mgr.db) ∧ (Witness.f5d Cfg.tree).mgr.cacheN.maxTS = 120 ∧
    ((Witness.f5d Cfg.tree).add Cfg.tree 3 [(1, 150)] false).2 = .ok 1 ∧
    ((Witness.f5d Cfg.repaired).add Cfg.repaired 3 [(1, 150)] false).2 = .ok 1 := by decide +kernel

theorem some_getD {α : Type} (o : Option α) (d : α) (h : o.isSome = true) : o = some (o.getD d) := by
  cases o <;> simp_all

/-- non-vacuity: the witness history `Witness.f5` is `Reach`able for every configuration; the two
    examples after it: the chain predicate is inhabited, and an unforced Add can succeed on a
    non-empty chain -/
theorem nonvacuous_reach (c : Cfg) : Reach c (fun _ => true) (Witness.f5 c) := by
  unfold Witness.f5
  have h0 : Reach c (fun _ => true) (State.init.newRoot true 100 10) := Reach.root _ _ _ _ Reach.init
  have h1 := Reach.child _ _ 0 101 10 h0 (some_getD _ (State.init.newRoot true 100 10) rfl)
  have h2 := Reach.add _ 1 [(1, 111)] false h1 (by
    intro t ht
    cases ht
    exact ⟨fun _ _ => rfl, fun h => absurd h (by decide)⟩)
  refine Reach.child _ _ 1 105 10 h2 (some_getD _ _ ?_)
  cases c with
  | mk a b d => cases a <;> cases b <;> cases d <;> decide

example : Holds Cfg.repaired (Witness.f5 Cfg.repaired) 1 1 111 :=
  Holds.unfinalized 1 ⟨true, 101, 10, [1], false, some 0⟩ (Anc.refl 1) (by decide) rfl (by decide)
    (by simp [ownBound, Cfg.repaired])

example : ((Witness.f5 Cfg.tree).add Cfg.tree 2 [(2, 110), (3, 112)] false).2 = .ok 2 := by decide

end Goloop.C11
