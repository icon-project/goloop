/-
  Props/C15 — "Transaction fees and transfers conserve ICX".
  Model: Model/C15.lean (Execute / DoExecute / checkBalance / PreValidate /
  TransferHandler / call frames / block fee gathering, transcribed).
  All theorems hold for every configuration (step price, costs, limits, both
  legacy revision flags), every world, every transaction / program / block and
  every interpreter fuel.
-/
import Goloop.Proofs.C15
namespace Goloop.C15
open Proofs

/-- The sum of all balances drops, per transaction, by exactly the fee the receipt
    reports (stepUsed · stepPrice) — whatever the transaction did, whether it
    succeeded, failed, or ran nested calls that failed half-way. -/
theorem tx_fee_exact {n} (cfg : Cfg n) (fuel : Nat) (wInit w : World n) (tx : Tx n) :
    total (execTx cfg fuel wInit w tx).2 =
      total w - ((execTx cfg fuel wInit w tx).1.stepUsed : Int) * (execTx cfg fuel wInit w tx).1.stepPrice :=
  (execTx_spec cfg fuel wInit w tx).1

/-- Sender side, failed transaction: charged exactly the reported fee, nobody else changes. -/
theorem tx_charge_exact_failed {n} (cfg : Cfg n) (fuel : Nat) (wInit w : World n) (tx : Tx n)
    (hf : (execTx cfg fuel wInit w tx).1.status ≠ 0) :
    (execTx cfg fuel wInit w tx).2.bal tx.frm =
      w.bal tx.frm - ((execTx cfg fuel wInit w tx).1.stepUsed : Int) * (execTx cfg fuel wInit w tx).1.stepPrice ∧
    ∀ a, a ≠ tx.frm → (execTx cfg fuel wInit w tx).2.bal a = w.bal a := by
  rw [(execTx_failed cfg fuel wInit w tx hf).1]
  exact ⟨bal_setBal_self _ _ _, fun a ha => bal_setBal_of_ne _ _ ha⟩

/-- Sender and recipient side, successful plain transfer (or message) to a
    non-contract address: the sender pays exactly fee + value, the recipient gets
    exactly value, nobody else changes.  (`transfer_credit`) -/
theorem tx_charge_exact {n} (cfg : Cfg n) (fuel : Nat) (wInit w : World n) (tx : Tx n)
    (hk : ∀ p, tx.kind ≠ .call p) (hc : cfg.isContract tx.to = false) (hne : tx.frm ≠ tx.to)
    (hs : (execTx cfg fuel wInit w tx).1.status = 0) :
    (execTx cfg fuel wInit w tx).2.bal tx.frm =
      w.bal tx.frm - ((execTx cfg fuel wInit w tx).1.stepUsed : Int) * (execTx cfg fuel wInit w tx).1.stepPrice - tx.value ∧
    (execTx cfg fuel wInit w tx).2.bal tx.to = w.bal tx.to + tx.value ∧
    (∀ a, a ≠ tx.frm → a ≠ tx.to → (execTx cfg fuel wInit w tx).2.bal a = w.bal a) ∧
    0 ≤ tx.value := by
  -- `hc` is not needed: a transfer to a contract address never succeeds (`topFrame_cases`)
  obtain ⟨hv, he⟩ := execTx_transfer cfg fuel wInit w tx hk hs
  rw [he, moved]
  refine ⟨?_, ?_, fun a h1 h2 => ?_, hv⟩
  · rw [bal_setBal_self, bal_setBal_of_ne _ _ hne, bal_setBal_self]; omega
  · rw [bal_setBal_of_ne _ _ hne.symm, bal_setBal_self, bal_setBal_of_ne _ _ hne.symm]
  · rw [bal_setBal_of_ne _ _ h1, bal_setBal_of_ne _ _ h2, bal_setBal_of_ne _ _ h1]

/-- Steps charged: at least the minimum charge, at most the (invoke-clipped) step
    limit — or the minimum itself when the limit is below it; the only exception
    is the legacy fee rule, which zeroes the steps of a sender that cannot pay. -/
theorem step_used_bounds {n} (cfg : Cfg n) (fuel : Nat) (wInit w : World n) (tx : Tx n) :
    (cfg.legacyFee = true ∧ (execTx cfg fuel wInit w tx).1.stepUsed = 0) ∨
    (cfg.dflt ≤ (execTx cfg fuel wInit w tx).1.stepUsed ∧
      (execTx cfg fuel wInit w tx).1.stepUsed ≤ max cfg.dflt (min tx.limit cfg.invoke)) := by
  obtain ⟨st, wB, su, p, he, -, -, -, hsu, -⟩ := settle_shape cfg tx.frm (good_doExecute cfg fuel wInit w tx)
  have hu := doExecute_used_le cfg fuel wInit w tx
  rw [execTx, he]
  refine hsu.imp id fun h => ?_
  subst h
  exact ⟨Nat.le_max_left _ _, Nat.max_le.mpr ⟨Nat.le_max_left _ _, Nat.le_trans hu (Nat.le_max_right _ _)⟩⟩

/-- With the limit PreValidate enforces (`stepLimit ≥ default + input`), the steps
    charged never exceed the transaction's own step limit. -/
theorem step_used_le_tx_limit {n} (cfg : Cfg n) (fuel : Nat) (wInit w : World n) (tx : Tx n)
    (hv : cfg.dflt + cfg.input * tx.inputBytes ≤ tx.limit) :
    (execTx cfg fuel wInit w tx).1.stepUsed ≤ tx.limit := by
  rcases step_used_bounds cfg fuel wInit w tx with h | h
  · exact h.2 ▸ Nat.zero_le _
  · exact Nat.le_trans h.2 (Nat.max_le.mpr ⟨Nat.le_trans (Nat.le_add_right _ _) hv, Nat.min_le_left _ _⟩)

/-- validation really enforces that limit (and non-negative values) for every transaction of an accepted block -/
theorem validated_limits {n} (cfg : Cfg n) (txs : List (Tx n)) :
    ∀ vb, validateTxs cfg vb txs = true →
      ∀ tx ∈ txs, cfg.dflt + cfg.input * tx.inputBytes ≤ tx.limit ∧ 0 ≤ tx.value := by
  intro vb
  -- the paths through `validateTxs`, in the order of its text; only the last one accepts
  fun_induction validateTxs cfg vb txs with
  | case1 => intro _ tx h; cases h
  | case2 | case3 => nofun
  | case4 vb t rest hval vb' hp ih =>
    intro hv tx hm
    rcases List.mem_cons.mp hm with rfl | m
    · refine ⟨Nat.le_of_not_lt fun hl => ?_, Int.not_lt.mp hval⟩
      rw [preValidate, if_pos hl] at hp; cases hp
    · exact ih hv tx m

/-- The receipt's step price is the configured one, or 0 when the payer could not pay. -/
theorem receipt_price {n} (cfg : Cfg n) (fuel : Nat) (wInit w : World n) (tx : Tx n) :
    (execTx cfg fuel wInit w tx).1.stepPrice = cfg.price ∨ (execTx cfg fuel wInit w tx).1.stepPrice = 0 := by
  obtain ⟨st, wB, su, p, he, -, -, -, -, hp⟩ := settle_shape cfg tx.frm (good_doExecute cfg fuel wInit w tx)
  rw [execTx, he]
  exact hp

/-- Any accepted block of any transactions: the sum of all balances, treasury
    included, is unchanged; the treasury is credited exactly the fees of the receipts. -/
theorem block_conserves {n} (cfg : Cfg n) (fuel : Nat) (w : World n) (txs : List (Tx n))
    (rs : List Receipt) (w' : World n) (h : execBlock cfg fuel w txs = some (rs, w')) :
    total w' = total w ∧
    w'.bal cfg.treasury = (execTxs cfg fuel w w txs).2.bal cfg.treasury + gatheredFee rs :=
  let s := execBlock_spec cfg fuel w txs rs w' h
  ⟨s.1, s.2.2⟩

/-- No balance ever becomes negative (invariant of transactions and of blocks). -/
theorem no_negative {n} (cfg : Cfg n) (fuel : Nat) (w : World n) (txs : List (Tx n))
    (rs : List Receipt) (w' : World n) (h : execBlock cfg fuel w txs = some (rs, w'))
    (hn : ∀ a, 0 ≤ w.bal a) : ∀ a, 0 ≤ w'.bal a :=
  (execBlock_spec cfg fuel w txs rs w' h).2.1 hn

theorem no_negative_tx {n} (cfg : Cfg n) (fuel : Nat) (wInit w : World n) (tx : Tx n)
    (hn : ∀ a, 0 ≤ w.bal a) : ∀ a, 0 ≤ (execTx cfg fuel wInit w tx).2.bal a :=
  (execTx_spec cfg fuel wInit w tx).2 hn

/-! non-vacuity: a concrete block is accepted, contains a successful transfer and a
    failing nested program, and exercises the hypotheses above -/
section Example
def exCfg : Cfg 4 :=
  { price := 2, dflt := 10, input := 1, call := 3, invoke := 1000, legacyFee := false, legacyBal := false,
    isContract := fun a => a.val = 2, hasContract := fun _ => false, treasury := 3 }
def exW : World 4 := ⟨fun a => if a.val = 0 then 1000 else 0, fun _ _ => 0, fun _ => none⟩
def exTx1 : Tx 4 := ⟨0, 1, 100, 20, 0, .transfer⟩
def exTx2 : Tx 4 := ⟨0, 1, 0, 100, 5, .call [.setv 0 7, .emit 1, .xfer 2 1 true, .emit 2]⟩

example : (execBlock exCfg 3 exW [exTx1, exTx2]).isSome = true := by decide
example : (execTx exCfg 3 exW exW exTx1).1.status = 0 ∧ (execTx exCfg 3 exW exW exTx1).1.stepUsed = 10 := by decide
example : (execTx exCfg 3 exW exW exTx2).1.status ≠ 0 := by decide
example : ∀ p, exTx1.kind ≠ .call p := by intro p h; cases h
example : validateTxs exCfg exW.bal [exTx1, exTx2] = true := by decide
end Example

end Goloop.C15
