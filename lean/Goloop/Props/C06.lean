/-
  Props/C06 — "Double-sign evidence is accepted only for genuine conflicts".

  `voteConflict` / `propConflict` / `conflict` are `dsVote.IsConflictWith`,
  `dsProposal.IsConflictWith` and the call through `module.DoubleSignData`
  (Model/C06.lean, describing the code with fix F3 applied).  "Contents differ"
  is inequality of the signed fields; the code compares SHA3 hashes of their
  encoding, the `_hash` variants make the collision-freeness assumption explicit.
-/
import Goloop.Proofs.C06
namespace Goloop.C06

/-- `matchNID`: same network, or one side unspecified. -/
theorem matchNID_exact (a b : Nat) : matchNID a b = true ↔ (a = 0 ∨ b = 0 ∨ a = b) := by
  unfold matchNID
  rw [Bool.if_true_left, Bool.or_eq_true, decide_eq_true_iff, Bool.or_eq_true, beq_iff_eq, beq_iff_eq,
    beq_iff_eq, or_assoc]

/-- Two votes are double-sign evidence exactly when: same signer, height, round, type,
    compatible networks, and different signed contents. -/
theorem vote_conflict_iff (v v2 : Vote) :
    voteConflict v v2 = true ↔
      v.signer = v2.signer ∧ v.c.h = v2.c.h ∧ v.c.r = v2.c.r ∧ v.c.t = v2.c.t ∧
      (v.c.nid = 0 ∨ v2.c.nid = 0 ∨ v.c.nid = v2.c.nid) ∧ v.c ≠ v2.c := by
  unfold voteConflict
  simp only [guard_iff, ne_eq, reduceCtorEq, not_false_eq_true, Bool.not_eq_false, Bool.not_eq_eq_eq_not,
    Bool.not_true, Bool.not_eq_true, matchNID_exact, Bool.or_eq_false_iff, bne_eq_false_iff_eq,
    beq_eq_false_iff_ne]
  constructor
  · rintro ⟨hm, ⟨⟨⟨h1, h2⟩, h3⟩, h4⟩, h5⟩
    exact ⟨h4.symm, h2.symm, h3.symm, h1.symm, hm, h5⟩
  · rintro ⟨h4, h2, h3, h1, hm, h5⟩
    exact ⟨hm, ⟨⟨⟨h1.symm, h2.symm⟩, h3.symm⟩, h4.symm⟩, h5⟩

/-- The same with the message hash the code compares, for any collision-free hash of the contents. -/
theorem vote_conflict_iff_hash {D : Type} (H : VoteC → D) (hinj : ∀ a b, H a = H b → a = b) (v v2 : Vote) :
    voteConflict v v2 = true ↔
      v.signer = v2.signer ∧ v.c.h = v2.c.h ∧ v.c.r = v2.c.r ∧ v.c.t = v2.c.t ∧
      (v.c.nid = 0 ∨ v2.c.nid = 0 ∨ v.c.nid = v2.c.nid) ∧ H v.c ≠ H v2.c := by
  rw [vote_conflict_iff]
  have : H v.c ≠ H v2.c ↔ v.c ≠ v2.c := not_congr ⟨hinj _ _, congrArg H⟩
  rw [this]

example : ∃ (H : VoteC → VoteC), ∀ a b, H a = H b → a = b := ⟨id, fun _ _ h => h⟩

/-- Proposals: same signer, height, round, compatible networks, different contents. -/
theorem proposal_conflict_iff (d d2 : Proposal) :
    propConflict d d2 = true ↔
      d.signer = d2.signer ∧ d.c.h = d2.c.h ∧ d.c.r = d2.c.r ∧
      (d.c.nid = 0 ∨ d2.c.nid = 0 ∨ d.c.nid = d2.c.nid) ∧ d.c ≠ d2.c := by
  unfold propConflict
  simp only [guard_iff, ne_eq, reduceCtorEq, not_false_eq_true, Bool.not_eq_false, Bool.not_eq_eq_eq_not,
    Bool.not_true, Bool.not_eq_true, matchNID_exact, Bool.or_eq_false_iff, bne_eq_false_iff_eq,
    beq_eq_false_iff_ne]
  constructor
  · rintro ⟨hm, ⟨⟨h1, h2⟩, h3⟩, h5⟩
    exact ⟨h3.symm, h1, h2, hm, h5⟩
  · rintro ⟨h3, h1, h2, hm, h5⟩
    exact ⟨hm, ⟨⟨h1, h2⟩, h3.symm⟩, h5⟩

theorem conflict_facts {x y : DS} (h : conflict x y = true) :
    x.signer = y.signer ∧ (x.nid = 0 ∨ y.nid = 0 ∨ x.nid = y.nid) ∧ x ≠ y ∧
    ((∃ v v2, x = DS.vote v ∧ y = DS.vote v2) ∨ (∃ p p2, x = DS.prop p ∧ y = DS.prop p2)) := by
  cases x <;> cases y
  · obtain ⟨hs, _, _, _, hn, hc⟩ := (vote_conflict_iff _ _).1 h
    exact ⟨hs, hn, fun e => hc (by cases e; rfl), Or.inl ⟨_, _, rfl, rfl⟩⟩
  · cases h
  · cases h
  · obtain ⟨hs, _, _, hn, hc⟩ := (proposal_conflict_iff _ _).1 h
    exact ⟨hs, hn, fun e => hc (by cases e; rfl), Or.inr ⟨_, _, rfl, rfl⟩⟩

/-- A message never conflicts with itself (identical messages are not evidence). -/
theorem conflict_irrefl (x : DS) : conflict x x = false :=
  Bool.eq_false_iff.2 fun h => (conflict_facts h).2.2.1 rfl

/-- Messages of two different (specified) networks are never evidence. -/
theorem conflict_never_across_networks (x y : DS)
    (hx : x.nid ≠ 0) (hy : y.nid ≠ 0) (hne : x.nid ≠ y.nid) : conflict x y = false :=
  Bool.eq_false_iff.2 fun h => (conflict_facts h).2.1.elim hx (·.elim hy hne)

example : (DS.vote ⟨1, ⟨5, 0, 1, false, 1, 3, 3, 100, 0⟩, 0⟩).nid ≠ 0 ∧
    (DS.vote ⟨1, ⟨5, 0, 1, false, 2, 3, 3, 100, 0⟩, 0⟩).nid ≠ 0 := by decide

/-- A vote and a proposal are never evidence against each other. -/
theorem conflict_cross_kind (v : Vote) (p : Proposal) :
    conflict (DS.vote v) (DS.prop p) = false ∧ conflict (DS.prop p) (DS.vote v) = false := ⟨rfl, rfl⟩

/-- The predicate is symmetric: the order in which two messages are presented does not matter. -/
theorem conflict_symm (x y : DS) : conflict x y = conflict y x := by
  have nid : ∀ {a b : Nat}, a = 0 ∨ b = 0 ∨ a = b → b = 0 ∨ a = 0 ∨ b = a :=
    fun h => h.elim (Or.inr ∘ Or.inl) (·.elim Or.inl (Or.inr ∘ Or.inr ∘ Eq.symm))
  have imp : ∀ x y, conflict x y = true → conflict y x = true := by
    intro x y h
    cases x <;> cases y
    · obtain ⟨a, b, c, d, e, f⟩ := (vote_conflict_iff _ _).1 h
      exact (vote_conflict_iff _ _).2 ⟨a.symm, b.symm, c.symm, d.symm, nid e, fun h => f h.symm⟩
    · cases h
    · cases h
    · obtain ⟨a, b, c, e, f⟩ := (proposal_conflict_iff _ _).1 h
      exact (proposal_conflict_iff _ _).2 ⟨a.symm, b.symm, c.symm, nid e, fun h => f h.symm⟩
  exact Bool.eq_iff_iff.2 ⟨imp x y, imp y x⟩

/-- F3 (code before the fix, `nid2` read from `v` instead of `v2`): two votes of the different
    networks 1 and 2 were reported as double sign. -/
theorem f3_witness : ∃ v v2 : Vote, v.c.nid ≠ 0 ∧ v2.c.nid ≠ 0 ∧ v.c.nid ≠ v2.c.nid ∧
    voteConflictF3 v v2 = true ∧ voteConflict v v2 = false :=
  ⟨⟨1, ⟨5, 0, 1, false, 1, 3, 3, 100, 0⟩, 0⟩, ⟨1, ⟨5, 0, 1, false, 2, 3, 3, 100, 0⟩, 0⟩, by decide⟩

/-- `dsmLog`: whatever sequence of messages is logged, every reported pair is a genuine conflict
    (hence, by the theorems above: same signer, height, round, type, compatible networks,
    different contents) between a message logged earlier and the message being logged. -/
theorem dsmLog_reports_only_conflicts (msgs : List DS) :
    ∀ r ∈ runLog [] msgs, conflict r.1 r.2 = true ∧ r.1 ∈ msgs ∧ r.2 ∈ msgs := by
  intro r hr
  obtain ⟨h1, h2, h3⟩ := Proofs.runLog_spec msgs [] r hr
  exact ⟨h1, h2.resolve_left (fun he => he.elim fun _ h => List.not_mem_nil h.1), h3⟩

example : runLog [] [DS.vote ⟨1, ⟨5, 0, 1, false, 1, 3, 3, 100, 0⟩, 0⟩, DS.vote ⟨1, ⟨5, 0, 1, false, 1, 4, 3, 100, 0⟩, 0⟩] ≠ [] := by
  decide


/-! ### the evidence acceptance path (report transaction → PreValidate → DSR handler)

`accepted r e`: `doubleSignReportTx.Verify` and `PreValidate` pass and `DSRHandler.DoExecuteSync`
succeeds (Model/C06.lean; handler with fix F15).  Reading of the property's network clause: "same
network (or unspecified)" is the agreement of the two messages' network ids with each other
(`conflict`); the code does not compare them with the chain's own id (`ValidateNetwork` of votes
and proposals is constantly true), so evidence whose two items both carry a foreign network id
is accepted — recorded as an observation, not as a violation. -/

/-- Exactly when a report transaction is accepted. -/
theorem report_accepted_iff (r : Report) (e : Env) :
    accepted r e = true ↔
      r.hasData = true ∧ r.sender = From.none ∧ e.revOn = true ∧ e.callOk = true ∧
      ∃ i1 i2 d1 d2 c,
        r.items = [i1, i2] ∧ r.ord ≠ 2 ∧ r.tag ≠ Tag.other ∧
        decodeItem r.tag i1 = some d1 ∧ decodeItem r.tag i2 = some d2 ∧ r.ctx = some c ∧
        conflict d1 d2 = true ∧ d1.signer ∈ c ∧ d1.height ≤ e.blockHeight ∧
        histGet e.history (d1.height - 2) = some c := by
  unfold accepted
  rw [Bool.and_eq_true, Bool.and_eq_true, beq_iff_eq, beq_iff_eq, Proofs.preValidate_ok_iff,
    Proofs.handler_ok_iff]
  constructor
  · rintro ⟨⟨hv, hrev, _⟩, hs, d1, d2, c, hd, hc, hle, hin, hh, hcall⟩
    obtain ⟨i1, i2, hit, ho, ht, h1, h2, hctx⟩ := (Proofs.decodeReport_some_iff r d1 d2 c).1 hd
    rw [verifyTx, Bool.and_eq_true, Bool.and_eq_true] at hv
    exact ⟨hv.1.1, hs, hrev, hcall, i1, i2, d1, d2, c, hit, ho, ht, h1, h2, hctx, hc, hin, hle, hh⟩
  · rintro ⟨hdata, hs, hrev, hcall, i1, i2, d1, d2, c, hit, ho, ht, h1, h2, hctx, hc, hin, hle, hh⟩
    have hd := (Proofs.decodeReport_some_iff r d1 d2 c).2 ⟨i1, i2, hit, ho, ht, h1, h2, hctx⟩
    refine ⟨⟨?_, hrev, hs, d1, d2, c, hd, hc, hin⟩, hs, d1, d2, c, hd, hc, hle, hin, hh, hcall⟩
    rw [verifyTx, hdata, hit, hs]
    rfl

/-- A report is accepted only if its two data items decode, are of one kind, and are a genuine
    conflict (then `vote_conflict_iff` / `proposal_conflict_iff` say what that means), the signer
    is a validator of the context, the evidence is not from a future height, and the context is
    the validator list recorded for height − 2. -/
theorem report_accepted_only_for_conflict (r : Report) (e : Env) (h : accepted r e = true) :
    ∃ i1 i2 d1 d2 c,
      r.items = [i1, i2] ∧ decodeItem r.tag i1 = some d1 ∧ decodeItem r.tag i2 = some d2 ∧
      ((∃ v v2, d1 = DS.vote v ∧ d2 = DS.vote v2) ∨ (∃ p p2, d1 = DS.prop p ∧ d2 = DS.prop p2)) ∧
      conflict d1 d2 = true ∧
      r.ctx = some c ∧ d1.signer ∈ c ∧ d2.signer = d1.signer ∧
      d1.height ≤ e.blockHeight ∧ histGet e.history (d1.height - 2) = some c := by
  obtain ⟨_, _, _, _, i1, i2, d1, d2, c, hit, _, _, h1, h2, hctx, hc, hin, hle, hh⟩ :=
    (report_accepted_iff r e).1 h
  exact ⟨i1, i2, d1, d2, c, hit, h1, h2, (conflict_facts hc).2.2.2, hc, hctx, hin,
    (conflict_facts hc).1.symm, hle, hh⟩

example : accepted
    { hasData := true, tag := Tag.vote, ord := 0, ctx := some [0, 1, 2], sender := From.none,
      items := [Item.msg (DS.vote ⟨1, ⟨5, 0, 1, false, 1, 3, 3, 100, 0⟩, 0⟩), Item.msg (DS.vote ⟨1, ⟨5, 0, 1, false, 1, 4, 3, 100, 0⟩, 0⟩)] }
    { revOn := true, blockHeight := 9, history := [(2, [0, 1, 2])], callOk := true } = true := by decide

/-- The handler by itself (PreValidate is skipped for already validated transitions) succeeds
    only for a genuine conflict as well — this is what fix F15 restores. -/
theorem handler_succeeds_only_for_conflict (r : Report) (e : Env) (h : handler r e = Hnd.ok) :
    ∃ d1 d2 c, decodeReport r = some (d1, d2, c) ∧ conflict d1 d2 = true ∧ d1.signer ∈ c ∧
      d1.height ≤ e.blockHeight ∧ histGet e.history (d1.height - 2) = some c := by
  obtain ⟨_, d1, d2, c, hd, hc, hle, hin, hh, _⟩ := (Proofs.handler_ok_iff r e).1 h
  exact ⟨d1, d2, c, hd, hc, hin, hle, hh⟩

/-- Identical items are never accepted (they are not a conflict). -/
theorem report_identical_items_rejected (r : Report) (e : Env) (i : Item) (h : r.items = [i, i]) :
    accepted r e = false := by
  refine Bool.eq_false_iff.2 fun ha => ?_
  obtain ⟨i1, i2, d1, d2, c, hit, h1, h2, _, hc, _⟩ := report_accepted_only_for_conflict r e ha
  cases h.symm.trans hit
  cases h1.symm.trans h2
  exact (conflict_facts hc).2.2.1 rfl


/-! ### the unsigned part of a vote is irrelevant

A `VoteMessage` also carries NTS vote bases and NTS proof parts (`Vote.u`); the signature covers
only `blockVoteBase` + `Timestamp` (`Vote.c`).  `IsConflictWith` compares the hashes of the signed
payloads, so two messages with the same signed contents are never evidence, whatever their
unsigned parts are — in particular an honest precommit re-sent with another NTS section hash. -/

/-- Votes with identical signed contents never conflict, whatever their unsigned parts. -/
theorem vote_same_signed_contents_no_conflict (v v2 : Vote) (h : v.c = v2.c) : voteConflict v v2 = false :=
  Bool.eq_false_iff.2 fun hc => ((vote_conflict_iff v v2).1 hc).2.2.2.2.2 h

/-- The verdict does not depend on the unsigned parts at all. -/
theorem vote_conflict_ignores_unsigned (v v2 : Vote) (a b : Nat) :
    voteConflict { v with u := a } { v2 with u := b } = voteConflict v v2 := rfl

/-- Hence dsmLog never reports, and the report path never accepts, a pair with equal signed contents. -/
theorem conflict_implies_signed_contents_differ (v v2 : Vote) (h : conflict (DS.vote v) (DS.vote v2) = true) :
    v.c ≠ v2.c := ((vote_conflict_iff v v2).1 h).2.2.2.2.2

example : voteConflict ⟨1, ⟨5, 0, 1, false, 1, 3, 3, 100, 1⟩, 1⟩ ⟨1, ⟨5, 0, 1, false, 1, 3, 3, 100, 1⟩, 2⟩ = false := by decide

end Goloop.C06
