/-
  Props/C27: the Merkle accumulator (common/trie/mta) works for every length.
  `H` is an arbitrary hash function with 32 byte output; nothing else is assumed about it
  for the completeness theorems (they hold even if `H` has collisions).
-/
import Goloop.Proofs.C27
namespace Goloop.C27

/-- what can be appended: `AddHash(hv)` or `AddData(d)` -/
inductive Item where
  | hash (hv : Bytes)
  | data (d : Bytes)

def Item.node (H : Bytes → Bytes) : Item → Node
  | .hash hv => .hash hv
  | .data d => mkData H d

/-- the value `Verify` is given for the item -/
def Item.leafHash (H : Bytes → Bytes) : Item → Bytes
  | .hash hv => hv
  | .data d => H d

/-- `AddHash` must be given a 32 byte hash -/
def Item.Valid : Item → Prop
  | .hash hv => hv.length = 32
  | .data _ => True

/-- the accumulator after appending `items` to `a` -/
def addAll (H : Bytes → Bytes) (a : Acc) (items : List Item) : Acc :=
  items.foldl (fun a it => (a.addNode H (it.node H)).1) a

theorem item_isTree (H : Bytes → Bytes) (it : Item) (hv : it.Valid) :
    IsTree H 0 (it.node H) [it.leafHash H] := by
  cases it with
  | hash hv' => exact IsTree.leafHash hv' hv
  | data d => exact IsTree.leafData d

theorem addAll_length (H : Bytes → Bytes) (items : List Item) :
    ∀ (a : Acc), (addAll H a items).length = a.length + items.length := by
  induction items with
  | nil => intro a; rfl
  | cons it rest ih =>
    intro a
    show (addAll H (a.addNode H (it.node H)).1 rest).length = _
    rw [ih, List.length_cons, Nat.add_comm rest.length, ← Nat.add_assoc]; rfl

theorem addAll_inv (H : Bytes → Bytes) (hlen : ∀ x, (H x).length = 32) (items : List Item)
    (hv : ∀ it ∈ items, it.Valid) :
    ∀ (a : Acc) (old : List Bytes), RootsInv H 0 a.roots old →
      RootsInv H 0 (addAll H a items).roots (old ++ items.map (Item.leafHash H)) := by
  induction items with
  | nil => intro a old h1; rw [List.map_nil, List.append_nil]; exact h1
  | cons it rest ih =>
    intro a old h1
    have := ih (fun x hx => hv x (List.mem_cons_of_mem _ hx)) (a.addNode H (it.node H)).1 (old ++ [it.leafHash H])
      (addNode_spec H hlen a.roots 0 old (it.node H) [it.leafHash H] [] h1
        (item_isTree H it (hv it List.mem_cons_self))).1
    rw [List.append_assoc] at this; exact this

theorem addAll_empty (H : Bytes → Bytes) (hlen : ∀ x, (H x).length = 32) (items : List Item)
    (hv : ∀ it ∈ items, it.Valid) : RootsInv H 0 (addAll H {} items).roots (items.map (Item.leafHash H)) :=
  addAll_inv H hlen items hv {} [] rfl

/-- `AddHash`/`AddData` never decrease what can be proved: the length is the number of items. -/
theorem length_eq (H : Bytes → Bytes) (items : List Item) (hv : ∀ it ∈ items, it.Valid) :
    (addAll H {} items).length = items.length :=
  (addAll_length H items {}).trans (Nat.zero_add _)

theorem Item.leafHash_length (H : Bytes → Bytes) (hlen : ∀ x, (H x).length = 32) (it : Item) (hv : it.Valid) :
    (it.leafHash H).length = 32 := by
  cases it with
  | hash x => exact hv
  | data d => exact hlen d

theorem verify_hashRoots (H : Bytes → Bytes) {a b : Acc} (hb : b.roots = hashRoots a.roots)
    (ws : List Witness) (h : Bytes) : b.verify H ws h = a.verify H ws h := by
  simp only [Acc.verify, hb, hashRoots, List.length_map, List.getElem?_map]
  by_cases h0 : ws.length ≥ a.roots.length
  · rw [if_pos h0, if_pos h0]
  · rw [if_neg h0, if_neg h0]
    cases a.roots[ws.length]? with
    | none => rfl
    | some o => cases o <;> rfl

/-- `WitnessFor` on the accumulator of `items`, and on any accumulator holding only its root
    hashes (what `Recover` builds) once the trees are in the bucket: the same witness. -/
theorem witness_spec (H : Bytes → Bytes) (hlen : ∀ x, (H x).length = 32) (db : DB)
    (items : List Item) (hv : ∀ it ∈ items, it.Valid) (i : Nat) (hi : i < items.length) :
    let a := addAll H {} items
    ∃ ws, a.witnessFor db i = (a, .ok ws) ∧
      a.verify H ws ((items.map (Item.leafHash H)).getD i []) = .ok ∧
      ∀ b : Acc, b.roots = hashRoots a.roots → b.length = a.length →
        (∀ t, some t ∈ a.roots → StoredAll H db t.preimages) →
        (b.witnessFor db i).2 = .ok ws ∧ b.verify H ws ((items.map (Item.leafHash H)).getD i []) = .ok := by
  intro a
  have hinv := addAll_empty H hlen items hv
  have hl := length_eq H items hv
  obtain ⟨t, ws, h1, h2, h4, h5, h6⟩ :=
    (witnessLoop_spec H hlen db a.roots a.roots 0 _ rfl hinv i).1 (by simpa using hi)
  rw [Nat.zero_add] at h1 h6
  have hver : a.verify H ws ((items.map (Item.leafHash H)).getD i []) = .ok := by
    refine verify_ok H hlen h4 ?_ h2 h5
    rw [List.getD_eq_getElem?_getD, List.getElem?_map, List.getElem?_eq_getElem hi]
    exact Item.leafHash_length H hlen _ (hv _ (List.getElem_mem hi))
  refine ⟨ws, by rw [witnessFor_lt (hl ▸ hi), h1], hver, fun b hb hbl hst => ⟨?_, ?_⟩⟩
  · rw [witnessFor_lt (hbl ▸ hl ▸ hi), hb, show (hashRoots a.roots).length = a.roots.length from List.length_map _]
    exact h6 (hst t (List.mem_of_getElem? h2))
  · rw [verify_hashRoots H hb]; exact hver

/-- **C27 (witness for every item, every length).** After appending any list of items to the
    empty accumulator, `WitnessFor(i)` succeeds for every index `i` (no error, no nil slot
    dereferenced — the repaired loop has no panic outcome), leaves the accumulator unchanged,
    and `Verify` accepts the returned witness for the item's hash against the current roots. -/
theorem witness_verifies (H : Bytes → Bytes) (hlen : ∀ x, (H x).length = 32) (db : DB)
    (items : List Item) (hv : ∀ it ∈ items, it.Valid) (i : Nat) (hi : i < items.length) :
    let a := addAll H {} items
    ∃ ws, a.witnessFor db i = (a, .ok ws) ∧
      a.verify H ws ((items.map (Item.leafHash H)).getD i []) = .ok := by
  obtain ⟨ws, h1, h2, _⟩ := witness_spec H hlen db items hv i hi
  exact ⟨ws, h1, h2⟩

/-- **C27 (the witness returned by `AddHash`/`AddData` verifies).** After any appends, the
    witness returned when one more item is appended is accepted by `Verify` for that item's
    hash against the new roots. -/
theorem add_witness_verifies (H : Bytes → Bytes) (hlen : ∀ x, (H x).length = 32)
    (items : List Item) (hv : ∀ it ∈ items, it.Valid) (it : Item) (hit : it.Valid) :
    let r := (addAll H {} items).addNode H (it.node H)
    r.1.verify H r.2 (it.leafHash H) = .ok := by
  intro r
  obtain ⟨_, wk, t', e1, e2, e3, e4⟩ := addNode_spec H hlen (addAll H {} items).roots 0 _ (it.node H)
    [it.leafHash H] [] (addAll_empty H hlen items hv) (item_isTree H it hit)
  have hw : r.2 = wk := e1
  rw [show (it.node H).hashOf = it.leafHash H by cases it <;> rfl] at e4
  rw [hw]
  exact verify_ok H hlen e2 (Item.leafHash_length H hlen it hit) e3 e4

/-- `WitnessFor` beyond the length is the `ErrNotFound` error (and nothing else). -/
theorem witness_out_of_range (H : Bytes → Bytes) (db : DB) (items : List Item)
    (hv : ∀ it ∈ items, it.Valid) (i : Nat) (hi : items.length ≤ i) :
    ∃ a', (addAll H {} items).witnessFor db i = (a', .err .notFound) :=
  ⟨_, if_pos (Nat.le_trans (Nat.le_of_eq (length_eq H items hv)) hi)⟩

theorem addAll_occupancy (H : Bytes → Bytes) (items : List Item) :
    occupancy (addAll H {} items).roots = (addAll H {} items).length :=
  List.foldlRecOn (motive := fun a : Acc => occupancy a.roots = a.length) items _ rfl
    fun a h it _ => (addNode_occupancy H a.roots _ []).trans (congrArg (· + 1) h)

/-- **C27 (binary-counter roots).** After any `n` appends, root slot `h` is occupied exactly
    when bit `h` of `n` is set (slots beyond `len(roots)` count as empty). No hypothesis on `H`
    or on the items. -/
theorem roots_shape (H : Bytes → Bytes) (items : List Item) (h : Nat) :
    (((addAll H {} items).roots.getD h none).isSome) = items.length.testBit h := by
  rw [← testBit_occupancy, addAll_occupancy, addAll_length, Nat.add_comm]; rfl

/-- **C27 (persist and recover with the same witnesses).** Append any items to the empty
    accumulator, `Flush` into any bucket `db0`, and `Recover` a fresh accumulator from what was
    stored. If `H` has no collision among the values `Flush` wrote (`allPreimages`: the item data
    and the 64 byte branch serialisations — an explicit finite list), then the recovered
    accumulator has the same length and, for every index, `WitnessFor` returns exactly the
    witness the in-memory accumulator returns, and `Verify` accepts it. Without a nil-slot
    panic for any length (the repaired `flushRoots` has no failure outcome). -/
theorem recover_same_witnesses (H : Bytes → Bytes) (hlen : ∀ x, (H x).length = 32) (db0 : DB)
    (items : List Item) (hv : ∀ it ∈ items, it.Valid)
    (hn : NoColl H (allPreimages (addAll H {} items).roots)) :
    let a := addAll H {} items
    let db := (a.flush db0).2.1
    let b := recover (some (a.flush db0).2.2)
    b.length = a.length ∧
    ∀ i, i < items.length → ∃ ws,
      (a.witnessFor db i).2 = .ok ws ∧ (b.witnessFor db i).2 = .ok ws ∧
      b.verify H ws ((items.map (Item.leafHash H)).getD i []) = .ok := by
  intro a db b
  obtain ⟨e1, e2, _⟩ := flushRoots_spec H hlen _ hn a.roots 0 _ db0 a.length (addAll_empty H hlen items hv) fun x hx => hx
  refine ⟨rfl, fun i hi => ?_⟩
  obtain ⟨ws, hw, _, hb⟩ := witness_spec H hlen db items hv i hi
  exact ⟨ws, by rw [hw], hb b e1 rfl e2⟩

/-- non-vacuity of `NoColl`: a hash without collision on what two items make `Flush` write -/
example : ∃ (H : Bytes → Bytes), (∀ x, (H x).length = 32) ∧
    NoColl H (allPreimages (addAll H {} [.data [1], .data [2]]).roots) :=
  ⟨fun x => (x.reverse ++ List.replicate 32 0).take 32, by intro x; simp,
    by unfold NoColl; decide⟩

/-- **F6, code as found (`WitnessFor`)**: with 5 items, index 4 lies in the range the old loop
    attributes to the empty slot 1, which it dereferences: a nil-pointer panic, for every `H`. -/
theorem old_witnessFor_panics (H : Bytes → Bytes) (db : DB) :
    ((addAll H {} [.data [0], .data [1], .data [2], .data [3], .data [4]]).witnessForOld db 4).2
      matches .panic := by
  simp [addAll, Acc.addNode, addNode, Acc.witnessForOld, witnessLoopOld]

/-- **F6, code as found (`Flush`)**: with 2 items slot 0 is empty and `Flush` dereferences it. -/
theorem old_flush_panics (H : Bytes → Bytes) (db : DB) :
    flushRootsOld (addAll H {} [.data [0], .data [1]]).roots db = none := by
  simp [addAll, Acc.addNode, addNode, flushRootsOld]

/-- the repaired loop on the same input succeeds (instance of `witness_verifies`) -/
theorem new_witnessFor_ok_at_5_4 (H : Bytes → Bytes) (db : DB) :
    ((addAll H {} [.data [0], .data [1], .data [2], .data [3], .data [4]]).witnessFor db 4).2
      matches .ok [] := by
  simp [addAll, Acc.addNode, addNode, Item.node, Acc.witnessFor, witnessLoop, witnessNode, mkData]

/-- non-vacuity: a hash with 32 byte output, valid items -/
example : ∃ (H : Bytes → Bytes) (items : List Item),
    (∀ x, (H x).length = 32) ∧ (∀ it ∈ items, it.Valid) ∧ 0 < items.length :=
  ⟨fun _ => List.replicate 32 0, [.data [1], .hash (List.replicate 32 7)],
    by simp, by intro it h; simp at h; rcases h with h | h <;> simp [h, Item.Valid], by simp⟩

end Goloop.C27
