/-
  Props/C31 — "The encrypted peer channel is a faithful byte stream" (network/secure.go, REPAIRED code, fix F7).

  Reading guide.  `writeMany A st writes` = the bytes put on the connection by successive
  `SecureAead.Write(b)` calls (frames of ≤ 1024 bytes, `len16 0 0 Seal(nonce, frame)`, nonce counter).
  `readMany A st wire bufs` = successive `SecureAead.Read(buf)` calls with buffers of the given sizes,
  stopping at the first error; `.outs` are the byte strings they returned.  The AEAD `A` is a parameter.
-/
import Goloop.Proofs.C31
namespace Goloop.C31
open Goloop.C31.Proofs

/-- **Faithful stream.**  For a lawful AEAD (`Open(Seal p) = p`, `|Seal p| = |p| + Overhead`), any key and
    start nonce, ANY sequence of write sizes and ANY sequence of read-buffer sizes: what the reads return,
    concatenated, is a prefix of what was written, concatenated; no error occurs before everything has been
    delivered (then EOF); and with non-empty buffers and at least as many reads as bytes, everything
    written is delivered — nothing is dropped, duplicated or reordered. -/
theorem stream_faithful (A : Aead) (hA : Aead.Lawful A) (key n0 : Bytes) (writes : List Bytes) (bufs : List Nat) :
    let wire := (writeMany A ⟨key, n0, []⟩ writes).2
    let r := readMany A ⟨key, n0, []⟩ wire bufs
    (∃ pend, r.outs.flatten ++ pend = writes.flatten ∧ (r.err = none ∨ (r.err = some .eof ∧ pend = []))) ∧
    ((∀ b ∈ bufs, 0 < b) → writes.flatten.length ≤ bufs.length → r.outs.flatten = writes.flatten) := by
  intro wire r
  have hw : wire = encFrames A key n0 (framesOf writes) := writeMany_spec A writes ⟨key, n0, []⟩
  obtain ⟨pend, e1, e2, e3⟩ := readMany_honest A hA key bufs (framesOf writes) n0 [] (framesOf_good writes)
  rw [← hw, List.nil_append, framesOf_flatten] at e1
  rw [← hw] at e2
  refine ⟨⟨pend, e1, e2⟩, fun hb hlen => ?_⟩
  rw [e3 hb (by rwa [List.nil_append, framesOf_flatten]), List.append_nil] at e1
  exact e1

/-- **Direction keys.**  `a`, `b` = the two ends' ECDH public points, `dA`, `dB` their `defaultLower`
    arguments (`p.In()`, opposite at the two ends).  If the points differ or the defaults are opposite, the
    ends compute opposite `isLower` flags, so with the common secret list `s0 :: s1 :: _` each end's write
    key is the other end's read key, and the two directions use different keys whenever `s0 ≠ s1`. -/
theorem direction_keys_match_and_differ (a b : Nat × Nat) (dA dB : Bool) (hdist : a ≠ b ∨ dA ≠ dB)
    (s0 s1 : Bytes) (more : List Bytes) :
    isLowerAfter a b dA ≠ isLowerAfter b a dB ∧
    ∃ inA outA inB outB,
      selectSecrets (s0 :: s1 :: more) (isLowerAfter a b dA) = some (inA, outA) ∧
      selectSecrets (s0 :: s1 :: more) (isLowerAfter b a dB) = some (inB, outB) ∧
      outA = inB ∧ outB = inA ∧ (s0 ≠ s1 → inA ≠ outA ∧ inB ≠ outB) := by
  have hne : isLowerAfter a b dA ≠ isLowerAfter b a dB := by
    obtain ⟨a1, a2⟩ := a; obtain ⟨b1, b2⟩ := b
    unfold isLowerAfter
    rcases Nat.lt_trichotomy a1 b1 with h | rfl | h
    · simp [h, Nat.lt_asymm h, Nat.ne_of_lt h]
    · rcases Nat.lt_trichotomy a2 b2 with g | rfl | g
      · simp [g, Nat.lt_asymm g, Nat.ne_of_lt g]
      · simpa using hdist
      · simp [g, Nat.lt_asymm g, Nat.ne_of_lt g]
    · simp [h, Nat.lt_asymm h, Nat.ne_of_lt h]
  refine ⟨hne, ?_⟩
  cases hA : isLowerAfter a b dA <;> cases hB : isLowerAfter b a dB <;> rw [hA, hB] at hne
  · exact absurd rfl hne
  · exact ⟨s1, s0, s0, s1, rfl, rfl, rfl, rfl, fun h => ⟨fun e => h e.symm, h⟩⟩
  · exact ⟨s0, s1, s1, s0, rfl, rfl, rfl, rfl, fun h => ⟨h, fun e => h e.symm⟩⟩
  · exact absurd rfl hne

/-- with a single secret (`numOfSecret = 1`) both directions share it -/
theorem single_secret_shared (s0 : Bytes) (l : Bool) : selectSecrets [s0] l = some (s0, s0) := rfl

/-- **Tampered / reordered / replayed / injected ciphertext is never delivered.**  Assume ciphertext
    integrity for the sender's frames (`Auth`: under the j-th nonce only the j-th sealed frame opens, to its
    own plaintext).  Then for ARBITRARY bytes arriving on the connection and any read-buffer sizes, what the
    reader delivers is a prefix of what the sender wrote. -/
theorem tamper_or_reorder_rejected (A : Aead) (key n0 : Bytes) (writes : List Bytes)
    (hauth : Auth A key n0 (framesOf writes)) (wire' : Bytes) (bufs : List Nat) :
    (readMany A ⟨key, n0, []⟩ wire' bufs).outs.flatten <+: writes.flatten := by
  have := readMany_prefix A key n0 (framesOf writes) hauth bufs 0 [] wire' (Nat.zero_le _)
  simpa [advance, framesOf_flatten] using this

/-- **Only the genuine next frame is accepted.**  Under the same hypothesis, when the reader (having
    accepted j frames, nothing buffered) accepts anything at all, the connection carried at that point
    exactly frame j of the sender: its two length bytes, two pad bytes, its sealed bytes.  Hence a frame
    with an altered length or sealed byte, a frame from another position (reorder), a repeated frame
    (replay) or a missing frame makes `Read` fail. -/
theorem only_genuine_frame_accepted (A : Aead)
    (hlen : ∀ k n p, (A.sealF k n p).length = p.length + A.overhead)
    (key n0 : Bytes) (writes : List Bytes) (hauth : Auth A key n0 (framesOf writes))
    (j : Nat) (hj : j ≤ (framesOf writes).length) (wire : Bytes) (buf : Nat) (r : Bytes × St × Bytes)
    (h : read A ⟨key, advance j n0, []⟩ wire buf = .ok r) :
    ∃ (hj : j < (framesOf writes).length) (pad rest : Bytes), pad.length = 2 ∧
      wire = be16 (framesOf writes)[j].length ++
        (pad ++ (A.sealF key (advance j n0) (framesOf writes)[j] ++ rest)) := by
  obtain ⟨hdr, pad, body, plain, h1, h2, rfl, hb, ho, _⟩ := read_ok A key _ wire buf r h
  obtain ⟨hj, hc, _⟩ := hauth j hj _ plain ho
  refine ⟨hj, pad, body.drop (beNat hdr + A.overhead), h2, ?_⟩
  have hl := congrArg List.length hc
  rw [hlen, List.length_take, Nat.min_eq_left hb] at hl
  have hhdr : hdr = be16 (framesOf writes)[j].length :=
    Goloop.beNat_inj h1 (by
      rw [Nat.add_right_cancel hl, beNat_be16 _ (Nat.lt_of_le_of_lt
        (framesOf_good writes _ (List.getElem_mem hj)).2 (by decide))])
  rw [← hc, ← hhdr, List.take_append_drop]

/-- NOT guaranteed (stated): header bytes 2 and 3 of a frame are ignored by `Read`, so altering them in
    transit goes unnoticed — the delivered plaintext is unaffected. -/
theorem header_pad_not_checked (A : Aead) (key n : Bytes) (hdr pad pad' body : Bytes) (h1 : hdr.length = 2)
    (h2 : pad.length = 2) (h2' : pad'.length = 2) (buf : Nat) :
    read A ⟨key, n, []⟩ (hdr ++ (pad ++ body)) buf = read A ⟨key, n, []⟩ (hdr ++ (pad' ++ body)) buf := by
  rw [read_wire A key n hdr pad body buf h1 h2, read_wire A key n hdr pad' body buf h1 h2']

/-! ### the defect repaired by fixes/F7_secure_read.diff -/

/-- the identity "AEAD" (lawful; used for non-vacuity and for the witness) -/
def idAead : Aead := { sealF := fun _ _ p => p, openF := fun _ _ c => some c, overhead := 0, nonceSize := 1 }

/-- **Witness (code before the repair).**  Write the 3 bytes 1 2 3, read with a 2-byte buffer: the old
    `Read` reports n = 3 > len(buf), hands over 1 2 and keeps nothing — the next `Read` finds an empty
    connection: byte 3 is lost.  The repaired `Read` returns 1 2 and then 3. -/
theorem short_buffer_drops_bytes_before_fix :
    let w := (write idAead ⟨[], [0], []⟩ [1, 2, 3]).2.flatten
    (readOrig idAead ⟨[], [0], []⟩ w 2 = .ok (3, [1, 2], ⟨[], [1], []⟩, [])) ∧
    (readOrig idAead ⟨[], [1], []⟩ [] 2 = .error .eof) ∧
    (readMany idAead ⟨[], [0], []⟩ w [2, 2]).outs = [[1, 2], [3]] := by
  exact ⟨by rfl, by rfl, by decide +kernel⟩

/-! ### non-vacuity of the hypotheses -/

example : Aead.Lawful idAead := ⟨fun _ _ _ => rfl, fun _ _ _ => rfl⟩

/-- an AEAD satisfying `Auth` for a concrete non-empty transmission: it opens exactly the sealed frame
    under the first nonce and nothing under the next one. -/
def lookupAead : Aead :=
  { sealF := fun _ n p => p ++ n,
    openF := fun _ n c => if n = [0] ∧ c = [7, 0] then some [7] else none,
    overhead := 1, nonceSize := 1 }

example : Auth lookupAead [] [0] (framesOf [[7]]) ∧ framesOf [[7]] = [[7]] := by
  refine ⟨?_, by decide⟩
  intro j hj c p h
  have hf : framesOf [[7]] = [[7]] := by decide
  rw [hf] at hj ⊢
  have : j = 0 ∨ j = 1 := Nat.le_one_iff_eq_zero_or_eq_one.mp hj
  rcases this with rfl | rfl
  · simp only [lookupAead, advance] at h ⊢
    split at h
    · rename_i hc
      cases h
      exact ⟨by decide, by simp [hc.2], rfl⟩
    · cases h
  · have : advance 1 ([0] : Bytes) = [1] := by decide
    simp [lookupAead, this] at h

example : ((1, 2) : Nat × Nat) ≠ (1, 3) ∨ true ≠ true := Or.inl (by decide)

end Goloop.C31
