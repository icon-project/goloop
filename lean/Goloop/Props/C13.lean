/-
  Props/C13 — "Only the sender's key can authorize a transaction".
  Proved: the byte layouts round trip for all byte strings; `Verify` accepts exactly when key
  recovery succeeds and the recovered key's address is `from`; the algebra that makes
  sign-then-recover return the signer's key and makes "verifies for Q" equivalent to
  "Q is the recovered key", in any module over a field (ZMod q for prime q in particular).
  NOT proved (assumptions): that decred's secp256k1 code implements such a group with the
  scalar field ZMod n (modelled by the executable reference `Secp`, compared by the
  correspondence run); unforgeability of ECDSA; collision resistance of SHA3.
-/
import Goloop.Proofs.C13
import Goloop.Model.C12
namespace Goloop.C13
open Goloop.C13.Proofs

/-- [R|S|V] → internal → [R|S|V] is the identity on every 65-byte string; the internal form is
    [V+27|R|S]; [V|R|S] is the rotation; [R|S] drops V. -/
theorem sig_layout_roundtrip (b : Bytes) (h : b.length = 65) :
    (parseSignature b).bind serializeRSV = some b ∧
    (parseSignature b).bind serializeVRS = some (b.getD 64 0 :: b.take 64) ∧
    (parseSignature b).bind serializeRS = some (b.take 64) ∧
    (parseSignature b).map hasV = some true := by
  rw [parse65 b h]
  have hl : (b.take 64).length = 64 := by rw [List.length_take, h]; rfl
  have := take_append_last b h
  simp only [List.getD] at this
  simp [serializeRSV, serializeVRS, serializeRS, hasV, hl, flag_there_back, this]

/-- [V|R|S] → internal → [V|R|S] is the identity on every 65-byte string, and the [R|S|V] view
    of it is the rotation. -/
theorem sig_layout_roundtrip_vrs (b : Bytes) (h : b.length = 65) :
    (parseSignatureVRS b).bind serializeVRS = some b ∧
    (parseSignatureVRS b).bind serializeRSV = some (b.drop 1 ++ [b.getD 0 0]) := by
  rcases b with _ | ⟨v, rs⟩
  · cases h
  · have hl : rs.length = 64 := Nat.succ.inj h
    simp [parseSignatureVRS, h, serializeVRS, serializeRSV, hasV, hl, flag_there_back]

/-- 64 bytes are kept as they are, have no V, and have no [R|S|V] / [V|R|S] form. -/
theorem sig_layout_64 (b : Bytes) (h : b.length = 64) :
    parseSignature b = some b ∧ hasV b = false ∧ serializeRS b = some b ∧
    serializeRSV b = none ∧ serializeVRS b = none := by
  simp [parse64 b h, hasV, serializeRS, serializeRSV, serializeVRS, h]

/-- every other length is rejected by both parsers -/
theorem sig_layout_rejects (b : Bytes) (h64 : b.length ≠ 64) (h65 : b.length ≠ 65) :
    parseSignature b = none ∧ parseSignatureVRS b = none :=
  ⟨parse_other b h64 h65, by simp [parseSignatureVRS, h65]⟩

/-- internal form → [R|S|V] → internal form is the identity for signatures with V -/
theorem sig_internal_roundtrip (s : Bytes) (h : hasV s = true) :
    (serializeRSV s).bind parseSignature = some s := by
  have hl : s.length = 65 := by simpa [hasV] using h
  rcases s with _ | ⟨v, rs⟩
  · cases hl
  · have hr : rs.length = 64 := Nat.succ.inj hl
    simp [serializeRSV, hasV, hl, parseSignature, hr, flag_back_there]

/-- the length hypotheses above can be met: 3 bytes for `sig_layout_rejects` (only its `≠ 64` is stated here),
    65 bytes for the round trips -/
example : ([1, 2, 3] : Bytes).length ≠ 64 ∧ (List.replicate 65 (7 : UInt8)).length = 65 := by
  decide

/-- `verifySignature` passes iff there is a signature, it has V, the id has a usable length,
    key recovery succeeds and the address of the recovered key equals `from`. -/
theorem verify_iff (rc : Bytes → Bytes → Option Bytes) (H : Bytes → Bytes)
    (sig : Option Bytes) (id from_ : Bytes) :
    verifySignature rc H sig id from_ = true ↔
      ∃ s pk, sig = some s ∧ hasV s = true ∧ 0 < id.length ∧ id.length ≤ 32 ∧
        rc s id = some pk ∧ addrEqual (addressOf H pk) from_ = true := by
  -- one case per path of `verifySignature`, as they stand in Model/C13: no signature, no key recovered, a key `pk`
  fun_cases verifySignature rc H sig id from_ with
  | case1 =>
    refine ⟨Bool.false_ne_true.elim, ?_⟩
    rintro ⟨_, _, ⟨⟩, _⟩
  | case2 s hpk =>
    refine ⟨Bool.false_ne_true.elim, ?_⟩
    rintro ⟨s', pk, ⟨⟩, hv, h0, h32, hrc, _⟩
    rw [(recoverPublicKey_eq_some rc s id pk).mpr ⟨hv, h0, h32, hrc⟩] at hpk
    cases hpk
  | case3 s pk hpk =>
    obtain ⟨hv, h0, h32, hrc⟩ := (recoverPublicKey_eq_some rc s id pk).mp hpk
    refine ⟨fun h => ⟨s, pk, rfl, hv, h0, h32, hrc, h⟩, ?_⟩
    rintro ⟨s', pk', ⟨⟩, _, _, _, hrc', ha⟩
    cases hrc.symm.trans hrc'
    exact ha

/-- a signature without V (64 bytes), or no signature, never verifies -/
theorem no_v_never_verifies (rc : Bytes → Bytes → Option Bytes) (H : Bytes → Bytes)
    (s id from_ : Bytes) (h : hasV s = false) :
    verifySignature rc H (some s) id from_ = false ∧
    verifySignature rc H none id from_ = false := by
  simp [verifySignature, recoverPublicKey, h]

/-- a contract address as sender never verifies (the recovered address is an account) -/
theorem contract_sender_never_verifies (rc : Bytes → Bytes → Option Bytes) (H : Bytes → Bytes)
    (sig : Option Bytes) (id : Bytes) (fid : Bytes) :
    verifySignature rc H sig id (1 :: fid) = false := by
  fun_cases verifySignature rc H sig id (1 :: fid) <;> rfl

/-- full `Verify`: the sign checks and data checks are necessary too -/
theorem txVerify_iff (rc : Bytes → Bytes → Option Bytes) (H : Bytes → Bytes)
    (value : Option Int) (stepLimit : Int) (dataOk : Bool) (sig : Option Bytes)
    (id from_ : Bytes) :
    txVerify rc H value stepLimit dataOk sig id from_ = true ↔
      (∀ v, value = some v → 0 ≤ v) ∧ 0 ≤ stepLimit ∧ dataOk = true ∧
      verifySignature rc H sig id from_ = true := by
  have hv : ¬ valueNeg value = true ↔ ∀ v, value = some v → 0 ≤ v := by
    cases value with
    | none => exact ⟨nofun, fun _ => nofun⟩
    | some v => simp only [valueNeg, decide_eq_true_eq, Int.not_lt, Option.some.injEq, forall_eq']
  unfold txVerify
  simp only [guard_iff, ne_eq, reduceCtorEq, not_false_eq_true, hv, Int.not_lt, Bool.not_eq_true',
    Bool.not_eq_false]

/-- corollary (the "only if" of the property): whatever the dataType-specific checks say, an
    accepted transaction has a signature with V that recovers, on the transaction id, to a key
    whose address is `from`.  `dataOk` can only reject. -/
theorem txVerify_ok_implies_signature (rc : Bytes → Bytes → Option Bytes) (H : Bytes → Bytes)
    (value : Option Int) (stepLimit : Int) (dataOk : Bool) (sig : Option Bytes)
    (id from_ : Bytes)
    (h : txVerify rc H value stepLimit dataOk sig id from_ = true) :
    dataOk = true ∧
    ∃ s pk, sig = some s ∧ hasV s = true ∧ 0 < id.length ∧ id.length ≤ 32 ∧
      rc s id = some pk ∧ addrEqual (addressOf H pk) from_ = true := by
  have h' := (txVerify_iff rc H value stepLimit dataOk sig id from_).mp h
  exact ⟨h'.2.2.1, (verify_iff rc H sig id from_).mp h'.2.2.2⟩

/-- a failing data check rejects regardless of the signature -/
theorem txVerify_dataOk_false (rc : Bytes → Bytes → Option Bytes) (H : Bytes → Bytes)
    (value : Option Int) (stepLimit : Int) (sig : Option Bytes) (id from_ : Bytes) :
    txVerify rc H value stepLimit false sig id from_ = false := by
  exact Bool.eq_false_iff.mpr fun h =>
    nomatch ((txVerify_iff rc H value stepLimit false sig id from_).mp h).2.2.1

/-- A transaction whose id cannot be computed never verifies: `TxHash()` yields the EMPTY id
    when `calcHash` fails (model: `C12.txID` = `[]`), and `RecoverPublicKey` refuses an empty
    hash.  (With a non-empty placeholder id, e.g. 32 zero bytes, the signature
    (P.x, P.x, parity P.y) built from the sender's PUBLIC key would recover P.) -/
theorem unhashable_never_verifies (rc : Bytes → Bytes → Option Bytes) (H : Bytes → Bytes)
    (e : C12.Env) (tx : C12.TxV3) (hc : tx.txHash = none) (hf : C12.calcHash e tx = none)
    (value : Option Int) (stepLimit : Int) (dataOk : Bool) (sig : Option Bytes) (from_ : Bytes) :
    C12.txID e tx = [] ∧
    txVerify rc H value stepLimit dataOk sig (C12.txID e tx) from_ = false := by
  have hid : C12.txID e tx = [] := by simp [C12.txID, hc, hf]
  refine ⟨hid, ?_⟩
  cases h : txVerify rc H value stepLimit dataOk sig (C12.txID e tx) from_ with
  | false => rfl
  | true =>
    obtain ⟨_, s, pk, _, _, hpos, _⟩ :=
      txVerify_ok_implies_signature rc H value stepLimit dataOk sig _ from_ h
    rw [hid] at hpos
    simp at hpos

/-- In a module over `ZMod q` (q prime) with generator `G`: for every private key `d`, message
    hash `z`, nonce `k ≠ 0`, with `R = k • G`, any `r ≠ 0` (in ECDSA: x(R) mod q) and
    `s = k⁻¹ (z + r d)`, the recovery formula returns the public key `d • G`. -/
theorem ecdsa_recover_sign (q : ℕ) [Fact q.Prime] {M : Type*} [AddCommGroup M] [Module (ZMod q) M]
    (G : M) (d z k r : ZMod q) (hk : k ≠ 0) (hr : r ≠ 0) :
    let R := k • G
    let s := k⁻¹ * (z + r * d)
    r⁻¹ • (s • R - z • G) = d • G :=
  recover_of_sign G d z k r hk hr

/-- For `r ≠ 0`, `s ≠ 0`: a key `Q` passes the ECDSA verification equation for `(z, r, s)` with
    nonce point `R` exactly when it is the key the recovery formula returns.  Hence a signature
    verifies for one key only (per candidate `R`), and `Verify` = "recovered address is `from`". -/
theorem ecdsa_verify_iff_recovered (q : ℕ) [Fact q.Prime] {M : Type*} [AddCommGroup M]
    [Module (ZMod q) M] (G R Q : M) (z r s : ZMod q) (hr : r ≠ 0) (hs : s ≠ 0) :
    (z * s⁻¹) • G + (r * s⁻¹) • Q = R ↔ Q = r⁻¹ • (s • R - z • G) :=
  verify_iff_recovered G R Q z r s hr hs

/-- non-vacuity: ZMod 7 acting on itself, G = 1, d = 3, z = 2, k = 5, r = 4 -/
example : (5 : ZMod 7) ≠ 0 ∧ (4 : ZMod 7) ≠ 0 := by decide

end Goloop.C13
