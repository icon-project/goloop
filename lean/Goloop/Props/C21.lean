/-
  Props/C21 — "Contract storage containers do not collide".

  Parts are byte strings (`ToBytes` already applied) unless a theorem is about `ToBytes`
  itself.  `Small p` / `AllSmall ps`: every part fits a Go slice (length ≤ 2^63-1).
  The hash is a parameter `H`; where it matters the statement is "or H collides"
  (`HInjOn H P` = no collision among the pre-hash keys in `P`).
-/
import Goloop.Proofs.C21
namespace Goloop.C21
open Goloop.C21.Proofs

/-- under one prefix the part list is determined by the key. -/
theorem appendKeys_injective (key : Bytes) (ps qs : List Bytes) (hp : AllSmall ps) (hq : AllSmall qs)
    (h : appendKeysB key ps = appendKeysB key qs) : ps = qs :=
  appendKeysB_injective key ps qs hp hq h

/-- on the typed level: equal keys ⇒ the parts have pairwise equal `ToBytes` -/
theorem appendKeys_injective_parts (key : Bytes) (ps qs : List Part)
    (hp : AllSmall (ps.map toBytes)) (hq : AllSmall (qs.map toBytes))
    (h : appendKeys key ps = appendKeys key qs) : ps.map toBytes = qs.map toBytes :=
  appendKeysB_injective key _ _ hp hq h

example : AllSmall [[1, 2], [], [0x80]] := by
  intro p hp; simp at hp; rcases hp with rfl | rfl | rfl <;> exact Nat.le_of_ble_eq_true rfl

/-- composite keys decode back to their parts. -/
theorem splitKeys_appendKeys (ps : List Bytes) (hs : AllSmall ps) :
    splitKeys (appendKeysB [] ps) = some ps := by
  simpa [appendKeysB] using splitKeys_encodeParts ps hs

/-- one coded part is self-delimiting (prefix-free): this is what makes nesting safe -/
theorem part_prefix_free (p q r1 r2 : Bytes) (hp : Small p) (hq : Small q)
    (h : rlpEncodeBytes p ++ r1 = rlpEncodeBytes q ++ r2) : p = q ∧ r1 = r2 := by
  have e1 := parse_enc p r1 hp
  have e2 := parse_enc q r2 hq
  rw [h, e2] at e1
  simp only [Option.some.injEq, Prod.mk.injEq] at e1
  exact ⟨e1.1.symm, e1.2.symm⟩

/-- `Append` after `Append` is `Append` of the concatenation (all four builders) -/
theorem append_append (kb : KB) (a b : List Bytes) : (kb.append a).append b = kb.append (a ++ b) := by
  have hc : ∀ (x y : List Bytes), concatParts (x ++ y) = concatParts x ++ concatParts y := by
    intro x y; induction x with
    | nil => simp [concatParts]
    | cons p ps ih => simp [concatParts, ih]
  cases kb with
  | raw x => simp [KB.append, appendRawKeysB, hc]
  | _ => simp [KB.append, appendKeysB_append]

/-! ### container paths (scoredb layout, any nesting depth, any `NewHashKey` prefix) -/

/-- two container paths have the same pre-hash key iff
    their part lists are the same list of byte strings. -/
theorem distinct_paths_distinct_prekeys (pre : Bytes) (p q : Path)
    (hp : AllSmall p.parts) (hq : AllSmall q.parts) :
    p.preKey pre = q.preKey pre ↔ p.parts = q.parts := by
  constructor
  · intro h; exact appendKeysB_injective pre _ _ hp hq h
  · intro h; simp [Path.preKey, h]

/-- hence: same storage key ⇒ same part list, or an explicit hash collision -/
theorem distinct_paths_distinct_keys (H : Bytes → Bytes) (pre : Bytes) (p q : Path)
    (hp : AllSmall p.parts) (hq : AllSmall q.parts) (h : p.key H pre = q.key H pre) :
    p.parts = q.parts ∨ (p.preKey pre ≠ q.preKey pre ∧ H (p.preKey pre) = H (q.preKey pre)) :=
  (eq_or_collision H h).imp_left (distinct_paths_distinct_prekeys pre p q hp hq).mp

/-- the part lists of different container kinds never coincide; within a kind they coincide only
    for equal keys (and equal index / name) — the complete case list -/
theorem parts_eq_cases (p q : Path) (h : p.parts = q.parts) :
    match p, q with
    | .var a, .var b => a = b
    | .dictEntry n a, .dictEntry m b => n = m ∧ a = b
    | .arrSize a, .arrSize b => a = b
    | .arrElem a i, .arrElem b j => a ++ [int64ToBytes (i : Int)] = b ++ [int64ToBytes (j : Int)]
    | .arrElem a i, .arrSize b => b = a ++ [int64ToBytes (i : Int)]
    | .arrSize b, .arrElem a i => b = a ++ [int64ToBytes (i : Int)]
    | _, _ => False := by
  -- every part list is `tag :: rest` with tag `[2]`, `[0]` or `[1]`
  cases p <;> cases q <;> obtain ⟨ht, hr⟩ := List.cons.inj h <;>
    first | exact hr | exact hr.symm | exact List.cons.inj hr | exact absurd ht (by decide)

/-- the one by-design alias: element `i` of array `ks` is the size slot of array `ks ++ [i]`
    (witness; not excluded by the code) -/
theorem array_elem_aliases_longer_array_size (ks : List Bytes) (i : Nat) :
    (Path.arrElem ks i).parts = (Path.arrSize (ks ++ [int64ToBytes (i : Int)])).parts := rfl

/-- scoredb's builders produce exactly these pre-keys -/
theorem scoredb_builders (ks : List Bytes) (name : Bytes) (i : Nat) :
    (toKey .hash [[0]]).map (fun kb => kb.append ks) = some (.hash ((Path.arrSize ks).preKey [])) ∧
    (toKey .hash [[0]]).map (fun kb => (kb.append ks).append [int64ToBytes (i : Int)]) =
      some (.hash ((Path.arrElem ks i).preKey [])) ∧
    (toKey .hash [[1], name]).map (fun kb => kb.append ks) = some (.hash ((Path.dictEntry name ks).preKey [])) ∧
    (toKey .hash [[2]]).map (fun kb => kb.append ks) = some (.hash ((Path.var ks).preKey [])) := by
  simp [toKey, KB.append, Path.preKey, Path.parts, appendKeysB_append]

theorem hash_builder_distinct (H : Bytes → Bytes) (a b : Bytes) (h : (KB.hash a).build H = (KB.hash b).build H) :
    a = b ∨ (a ≠ b ∧ H a = H b) :=
  eq_or_collision H h

theorem prefixed_hash_builder_distinct (H : Bytes → Bytes) (rp a b : Bytes) (hlen : ∀ x, Small (H x))
    (h : (KB.phash rp a).build H = (KB.phash rp b).build H) : a = b ∨ (a ≠ b ∧ H a = H b) :=
  eq_or_collision H (appendKeysB_single_inj rp _ _ (hlen a) (hlen b) h)

example : ∀ x : Bytes, Small ((fun _ => ([] : Bytes)) x) := fun _ => Nat.zero_le _

/-- `ToBytes` identifies values of different Go types: int 1 / bool true / byte 1 / "\x01" -/
theorem toBytes_collisions :
    toBytes (.int 1) = toBytes (.bool true) ∧ toBytes (.bool true) = toBytes (.byte 1) ∧
    toBytes (.byte 1) = toBytes (.str [1]) ∧ toBytes (.str [1]) = toBytes (.value [1]) ∧
    toBytes (.int 0) = toBytes (.bool false) ∧ toBytes (.bool false) = toBytes (.byte 0) ∧
    toBytes (.int 0x61) = toBytes (.str [0x61]) ∧ toBytes (.int 0x61) = toBytes (.byte 0x61) ∧
    toBytes (.big 1) = toBytes (.int 1) ∧ toBytes (.big 0) = toBytes (.int 0) ∧
    toBytes (.int (-1)) = toBytes (.byte 0xff) ∧
    toBytes (.addr false [0,0,0,0,0,0,0,0,0,0,0,0,0,0,0,0,0,0,0,0]) =
      toBytes (.str [0,0,0,0,0,0,0,0,0,0,0,0,0,0,0,0,0,0,0,0,0]) := by
  decide

/-- within one Go type `ToBytes` is injective (so the collisions above are all cross-type);
    `int`: non-negative values only (array indices, sizes); `*big.Int` is not covered here —
    see `toBytes_injective_within_type` for the full statement. -/
theorem toBytes_injective_within_type_partial :
    (∀ a b : Bool, toBytes (.bool a) = toBytes (.bool b) → a = b) ∧
    (∀ a b : UInt8, toBytes (.byte a) = toBytes (.byte b) → a = b) ∧
    (∀ a b : Bytes, toBytes (.str a) = toBytes (.str b) → a = b) ∧
    (∀ a b : Bytes, toBytes (.value a) = toBytes (.value b) → a = b) ∧
    (∀ (c c' : Bool) (a b : Bytes), toBytes (.addr c a) = toBytes (.addr c' b) → c = c' ∧ a = b) ∧
    (∀ i j : Nat, i < 2 ^ 63 → j < 2 ^ 63 → toBytes (.int i) = toBytes (.int j) → i = j) := by
  refine ⟨?_, ?_, ?_, ?_, ?_, ?_⟩
  · intro a b h; cases a <;> cases b <;> simp [toBytes] at h ⊢
  · intro a b h; simpa [toBytes] using h
  · intro a b h; simpa [toBytes] using h
  · intro a b h; simpa [toBytes] using h
  · intro c c' a b h
    simp only [toBytes, List.cons.injEq] at h
    refine ⟨?_, h.2⟩
    cases c <;> cases c' <;> simp at h ⊢
  · intro i j hi hj h; exact int64ToBytes_inj_nonneg i j hi hj h

/-- within every Go type that `ToBytes` accepts it is
    injective — bool, byte, string/[]byte, Value, Address, `int`/`int16`/`int32`/`int64` on the
    whole int64 range (negative values included) and `*big.Int`/`*HexInt` for every integer.
    The integer cases are the round-trip theorems of C24 (`SafeBytesToInt64 ∘ Int64ToBytes`,
    `BigIntSetBytes ∘ BigIntToBytes`) on the same encoders. -/
theorem toBytes_injective_within_type :
    (∀ a b : Bool, toBytes (.bool a) = toBytes (.bool b) → a = b) ∧
    (∀ a b : UInt8, toBytes (.byte a) = toBytes (.byte b) → a = b) ∧
    (∀ a b : Bytes, toBytes (.str a) = toBytes (.str b) → a = b) ∧
    (∀ a b : Bytes, toBytes (.value a) = toBytes (.value b) → a = b) ∧
    (∀ (c c' : Bool) (a b : Bytes), toBytes (.addr c a) = toBytes (.addr c' b) → c = c' ∧ a = b) ∧
    (∀ i j : Int, -(2:Int)^63 ≤ i ∧ i < (2:Int)^63 → -(2:Int)^63 ≤ j ∧ j < (2:Int)^63 →
      toBytes (.int i) = toBytes (.int j) → i = j) ∧
    (∀ i j : Int, toBytes (.big i) = toBytes (.big j) → i = j) := by
  obtain ⟨h1, h2, h3, h4, h5, _⟩ := toBytes_injective_within_type_partial
  exact ⟨h1, h2, h3, h4, h5, fun i j hi hj h => int64ToBytes_inj i j hi hj h,
    fun i j h => bigIntToBytes_inj i j h⟩

/-- non-vacuity: negative int64 values (incl. the most negative one) satisfy the range
    hypothesis and have distinct, non-trivial codings; so do big integers beyond int64 -/
example : (-(2:Int)^63 ≤ -(2:Int)^63 ∧ -(2:Int)^63 < (2:Int)^63) ∧ (-(2:Int)^63 ≤ -129 ∧ (-129:Int) < (2:Int)^63) ∧
    toBytes (.int (-(2:Int)^63)) = [0x80, 0, 0, 0, 0, 0, 0, 0] ∧ toBytes (.int (-129)) = [0xff, 0x7f] ∧
    toBytes (.int (-128)) = [0x80] ∧ toBytes (.int 128) = [0, 0x80] ∧
    toBytes (.big (-(2:Int)^64)) = [0xff, 0, 0, 0, 0, 0, 0, 0, 0] ∧
    toBytes (.big ((2:Int)^63)) = [0, 0x80, 0, 0, 0, 0, 0, 0, 0] := by decide

/-- an `int` and a `*big.Int` of the same int64 value have the same `ToBytes` (the cross-type
    collision `big n / int n` of `toBytes_collisions`, for every n) -/
theorem toBytes_int_eq_big (v : Int) (h : -(2:Int)^63 ≤ v ∧ v < (2:Int)^63) :
    toBytes (.int v) = toBytes (.big v) := by
  rw [toBytes, toBytes, int64ToBytes_eq_c24, bigIntToBytes_eq_c24]; exact Goloop.C24.int64_eq_big v h

example : (-(2:Int)^63 ≤ -300 ∧ (-300:Int) < (2:Int)^63) ∧ toBytes (.int (-300)) = [0xfe, 0xd4] ∧
    toBytes (.big (-300)) = [0xfe, 0xd4] := by decide

/-- the raw builder does not delimit parts: distinct part lists, same key (witness) -/
theorem raw_builder_collides :
    ([[1], [2, 3]] : List Bytes) ≠ [[1, 2], [3]] ∧
    (toKey .raw [[1], [2, 3]]).map (KB.build id) = (toKey .raw [[1, 2], [3]]).map (KB.build id) := by
  decide

/-- different `NewHashKey` prefixes are not separated: prefix "a" + no part = no prefix + part "a" -/
theorem cross_prefix_collides :
    (newHashKey [0x61] []) = (newHashKey [] [[0x61]]) := by decide

/-- for every history of Put / Pop / Set on an array whose keys do
    not collide, starting from a store that holds the list `l`: the results (ok / error /
    popped value; never a panic) are those of the same operations on a plain list, the store
    holds the resulting list, and no key outside the array changes. -/
theorem arraydb_refines_list (H : Bytes → Bytes) (kb : KB) (ops : List ArrOp) (s : Store) (l : List Bytes)
    (hk : ArrKeysOk H kb) (hr : ArrRep H kb s l) (hb : l.length + ops.length < 2 ^ 63) :
    (arrRun H kb s ops).2 = (listRun l ops).2 ∧
    ArrRep H kb (arrRun H kb s ops).1 (listRun l ops).1 ∧
    ∀ k, ArrForeign H kb k → sget (arrRun H kb s ops).1 k = sget s k := by
  induction ops generalizing s l with
  | nil => exact ⟨by simp [arrRun, listRun], hr, by simp [arrRun]⟩
  | cons o r ih =>
    simp only [List.length_cons] at hb
    obtain ⟨h1, h2, h3⟩ := arr_step H kb s l o hk hr (by omega)
    have hlen := listStep_length l o
    obtain ⟨g1, g2, g3⟩ := ih (arrStep H kb s o).1 (listStep l o).1 h2 (by omega)
    simp only [arrRun, listRun]
    refine ⟨by rw [h1, g1], g2, fun k hf => by rw [g3 k hf, h3 k hf]⟩

/-- an empty store holds the empty array -/
theorem arrRep_empty (H : Bytes → Bytes) (kb : KB) : ArrRep H kb [] [] := by
  constructor
  · simp [arrSize, sget, safeBytesToInt64]
  · intro i hi; simp at hi

/-- `ArrRep` gives `Size()` and `Get(i)` -/
theorem arraydb_observe (H : Bytes → Bytes) (kb : KB) (s : Store) (l : List Bytes) (hr : ArrRep H kb s l) :
    arrSize H s kb = some (l.length : Int) ∧ ∀ i : Nat, i < l.length → arrGet H s kb (i : Int) = l[i]? := hr

/-- the key hypothesis holds for the RLP and raw builders outright, and for the hash
    builders unless `H` collides on the array's own pre-keys -/
theorem arrKeysOk_builders (H : Bytes → Bytes) :
    (∀ b, ArrKeysOk H (.rlp b)) ∧ (∀ b, ArrKeysOk H (.raw b)) ∧
    (∀ pre, HInjOn H (ArrPre pre) → ArrKeysOk H (.hash pre)) ∧
    (∀ rp hp, HInjOn H (ArrPre hp) → (∀ x, Small (H x)) → ArrKeysOk H (.phash rp hp)) :=
  ⟨fun b => arrKeysOk_of_inj H _ b id rfl (fun _ => rfl) (fun _ _ _ _ h => h), arrKeysOk_raw H,
   fun pre hH => arrKeysOk_of_inj H _ pre H rfl (fun _ => rfl) hH,
   fun rp hp hH hlen => arrKeysOk_of_inj H _ hp (fun x => appendKeysB rp [H x]) rfl (fun _ => rfl)
     (fun x y hx hy h => hH x y hx hy (appendKeysB_single_inj rp _ _ (hlen x) (hlen y) h))⟩

example : HInjOn id (ArrPre [1, 2]) := fun _ _ _ _ h => h

/-- for every history of Set / Delete with well-formed key tuples
    (as many keys as the depth) on a dictionary whose entry keys do not collide, `Get` of any
    well-formed tuple equals the lookup in the plain map updated by the same history. -/
theorem dictdb_refines_map (H : Bytes → Bytes) (d : Dict) (P : List Bytes → Prop) (ops : List DictOp)
    (s : Store) (hk : DictKeysOk H d P) (hok : ∀ o ∈ ops, DictOpOk d P o)
    (ks : List Bytes) (h2 : P ks) (hl : (ks.length : Int) = d.depth) :
    dictGet H (ops.foldl (dictStep H d) s) d ks = (ops.foldl mapStep (fun k => dictGet H s d k)) ks :=
  dictGet_foldl H d P hk ops s _ hok (fun _ _ _ => rfl) ks h2 hl

/-- a wrong number of keys is refused and changes nothing -/
theorem dict_wrong_depth (H : Bytes → Bytes) (d : Dict) (s : Store) (ks : List Bytes) (v : Bytes)
    (h : (ks.length : Int) ≠ d.depth) :
    dictGet H s d ks = none ∧ dictSet H s d ks v = (s, false) ∧ dictDel H s d ks = (s, false) := by
  have h' : (ks.length : Int) + 1 ≠ d.depth + 1 := fun e => h ((Int.add_left_inj 1).mp e)
  simp [dictGet, dictSet, dictDel, h, h']

/-- `GetDB(k1..).Get(k2..)` is `Get(k1.., k2..)` -/
theorem dict_getdb (H : Bytes → Bytes) (s : Store) (d d2 : Dict) (ks1 ks2 : List Bytes)
    (h : dictGetDB d ks1 = some d2) :
    dictGet H s d2 ks2 = dictGet H s d (ks1 ++ ks2) := by
  revert h
  fun_cases dictGetDB d ks1 with
  | case1 => nofun
  | case2 =>
    rintro ⟨⟩
    simp only [dictGet, append_append, List.length_append, Int.natCast_add]
    -- the two tests on the number of keys say the same
    exact ite_congr (propext ⟨fun h e => h (by omega), fun h e => h (by omega)⟩) (fun _ => rfl) (fun _ => rfl)

/-- the entry-key hypothesis: outright for the RLP builder, for the hash builder unless `H`
    collides on the dictionary's own pre-keys -/
theorem dictKeysOk_builders (H : Bytes → Bytes) (depth : Int) :
    (∀ b, DictKeysOk H ⟨.rlp b, depth⟩ AllSmall) ∧
    (∀ pre, HInjOn H (fun x => ∃ ks, AllSmall ks ∧ x = appendKeysB pre ks) →
      DictKeysOk H ⟨.hash pre, depth⟩ AllSmall) :=
  ⟨fun b ks ks' h1 h2 h => appendKeysB_injective b ks ks' h1 h2 h,
   fun pre hH ks ks' h1 h2 h => appendKeysB_injective pre ks ks' h1 h2 (hH _ _ ⟨ks, h1, rfl⟩ ⟨ks', h2, rfl⟩ h)⟩

end Goloop.C21
