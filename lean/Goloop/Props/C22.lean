/-
  Props/C22 — "Transaction and receipt lists preserve order and index".

  The list is a trie keyed by `intToKey idx` (the RLP coding of the index).  The trie
  iterates in ascending order of the key's nibble string (`klt`), so what the code relies
  on is that `intToKey` is strictly monotone from (ℕ, <) into that order — for every index,
  across every key-length boundary (2^7, 2^15, 2^23, …, 2^63).
-/
import Goloop.Proofs.C22
namespace Goloop.C22
open Goloop.C22.Proofs

/-- `intToKey` is strictly monotone into the trie's iteration order, for all 64-bit indices. -/
theorem intToKey_strict_mono (i j : Nat) (hij : i < j) (hj : j < 2 ^ 64) :
    klt (intToKey i) (intToKey j) = true := (klt_iff_lt _ _).mpr (intToKey_mono i j hij hj)

example : (127 : Nat) < 128 ∧ (128 : Nat) < 2 ^ 64 ∧ intToKey 127 = [0x7f] ∧ intToKey 128 = [0x82, 0x00, 0x80] ∧
    intToKey 32768 = [0x83, 0x00, 0x80, 0x00] := by decide

/-- the iteration order is a strict order (so "ascending" determines the sequence) -/
theorem klt_strict (a b : Bytes) : klt a a = false ∧ (klt a b = true → klt b a = false) :=
  ⟨Bool.eq_false_iff.mpr (mt (klt_iff_lt a a).mp (List.lt_irrefl a)),
   fun h => Bool.eq_false_iff.mpr (mt (klt_iff_lt b a).mp (List.lt_asymm ((klt_iff_lt a b).mp h)))⟩

theorem intToKey_injective (i j : Nat) (hi : i < 2 ^ 64) (hj : j < 2 ^ 64)
    (h : intToKey i = intToKey j) : i = j := Proofs.intToKey_injective i j hi hj h

/-- no key is a proper prefix of another key (no list item sits on an inner trie node) -/
theorem intToKey_prefix_free (i j : Nat) (hi : i < 2 ^ 64) (hj : j < 2 ^ 64)
    (h : intToKey i <+: intToKey j) : i = j := Proofs.intToKey_prefix_free i j hi hj h

/-- decoding an iterator key gives back the index -/
theorem keyToInt_intToKey (v : Nat) (h : v < 2 ^ 64) : keyToInt (intToKey v) = some v :=
  Proofs.keyToInt_intToKey v h

/-- For every list of items (any contents, any length a Go slice
    can have): iterating the list built from the slice yields the items in their original
    order, each with its original index. -/
theorem list_iter_is_identity {α : Type} (l : List α) (h : l.length ≤ 2 ^ 64) :
    iterate (fromSlice l) = l.zipIdx.map (fun p => (p.1, some p.2)) := by
  rw [fromSlice_eq l h]
  exact iterate_entries l 0 (by omega)

/-- the receipt iterator (no index reported): items in original order -/
theorem list_iter_items {α : Type} (l : List α) (h : l.length ≤ 2 ^ 64) :
    iterateItems (fromSlice l) = l := by
  rw [fromSlice_eq l h]; exact iterateItems_entries l 0

/-- `Get(i)` returns item `i` of the slice, and nothing for an index past the end. -/
theorem get_i {α : Type} (l : List α) (h : l.length ≤ 2 ^ 64) (i : Nat) (hi : i < 2 ^ 64) :
    get (fromSlice l) i = l[i]? := by
  rw [get, fromSlice_eq l h, ← tget_entries l 0 i (by omega) ((Nat.zero_add i).symm ▸ hi), Nat.zero_add]

example : iterate (fromSlice ["a", "b", "c"]) = [("a", some 0), ("b", some 1), ("c", some 2)] ∧
    get (fromSlice ["a", "b", "c"]) 1 = some "b" ∧ get (fromSlice ["a", "b", "c"]) 3 = none := by decide

end Goloop.C22
