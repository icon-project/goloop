/-
  Props/C12 — "A transaction keeps its identity across all representations".
  SHA3 is the parameter `e.H`; "different preimage ⇒ different id" is its collision
  resistance (assumption, not a theorem).
-/
import Goloop.Proofs.C12
namespace Goloop.C12
open Goloop.C12.Proofs

/-- JSON submission (`NewTransactionFromJSON`, raw = false): whether the struct-order hash agreed
    (binary form kept) or not (raw fallback), the id of the resulting transaction is
    `H("icx_sendTransaction." ++ serializeDict(json minus signature, txHash))`. -/
theorem id_preimage_is_map_serialisation (e : Env) (js : Bytes) (tx : TxV3)
    (h : parseV3JSON e js false = some tx) :
    ∃ kvs body, e.pj js = some (.dict kvs) ∧ serDictTop kvs exclV3 = some body ∧
      txID e tx = e.H (saltBytes ++ body) := by
  obtain ⟨d, id, -, hid, htx⟩ := Proofs.parseV3JSON_false h
  obtain ⟨p, hp, rfl⟩ := Option.map_eq_some_iff.mp hid
  obtain ⟨kvs, body, hpj, hbody, rfl⟩ := Proofs.mapPreimage_some hp
  refine ⟨kvs, body, hpj, hbody, ?_⟩
  rcases htx with ⟨rfl, -⟩ | rfl <;> rfl

/-- stored JSON form (`newTransaction` on bytes starting with '{', raw = true): the id is again
    the map hash of that JSON (empty when it cannot be computed). -/
theorem id_of_raw_is_map_serialisation (e : Env) (js : Bytes) (tx : TxV3)
    (h : parseV3JSON e js true = some tx) :
    txID e tx = ((mapPreimage (e.pj js)).map e.H).getD [] := by
  rw [Proofs.parseV3JSON_true] at h
  obtain ⟨d, -, rfl⟩ := Option.map_eq_some_iff.mp h
  rfl

/-- A transaction accepted from JSON, written with `Bytes()` and read back with
    `NewTransaction`, has the same fields, the same id and the same bytes; and the transaction
    read back is a fixed point of that round trip (so any number of further rounds changes
    nothing).  Hypotheses: the compacted JSON of an object starts with '{'; the codec decodes
    what it encoded for this transaction's fields (`hcodec`, discharged by `codec_roundtrip`
    below for well-formed fields); version 3. -/
theorem binary_roundtrip (e : Env) (js0 : Bytes) (tx : TxV3)
    (h : newTransactionFromJSON e js0 false = some tx)
    (hbrace : ∀ js, e.compact js0 = some js → ∃ r, js = cLBc :: r)
    (hcodec : ∀ b, encodeTx tx.d = some b → decodeTx b = some tx.d)
    (hver : tx.d.version = 3)
    (b : Bytes) (hb : txBytes tx = some b) :
    ∃ tx', reparse e tx = some tx' ∧ tx'.d = tx.d ∧ txID e tx' = txID e tx ∧
      txBytes tx' = some b ∧ reparse e tx' = some tx' :=
  Proofs.binary_roundtrip e js0 tx h hbrace hcodec hver b hb

/-- The codec hypothesis of `binary_roundtrip`, proved: the RLP framing of the 11 fields
    (`codec.MarshalToBytes` / `UnmarshalFromBytes` on transactionV3Data) decodes what it
    encoded, for every well-formed field record (`WFTx`: version 3, 21-byte addresses with type
    0/1, signature absent or 65 bytes, every item shorter than 2^64 bytes; the round trip of the
    integer byte encodings themselves is property C24 and enters as a hypothesis inside `WFTx`). -/
theorem codec_roundtrip (d : TxData) (wf : Proofs.WFTx d) (b : Bytes) (h : encodeTx d = some b) :
    decodeTx b = some d :=
  Proofs.codec_roundtrip d wf b h

/-- `binary_roundtrip` with the codec hypothesis discharged for well-formed fields -/
theorem binary_roundtrip_wf (e : Env) (js0 : Bytes) (tx : TxV3)
    (h : newTransactionFromJSON e js0 false = some tx)
    (hbrace : ∀ js, e.compact js0 = some js → ∃ r, js = cLBc :: r)
    (wf : Proofs.WFTx tx.d)
    (b : Bytes) (hb : txBytes tx = some b) :
    ∃ tx', reparse e tx = some tx' ∧ tx'.d = tx.d ∧ txID e tx' = txID e tx ∧
      txBytes tx' = some b ∧ reparse e tx' = some tx' :=
  binary_roundtrip e js0 tx h hbrace (fun b hb => codec_roundtrip tx.d wf b hb) wf.ver b hb

/-- non-vacuity of the framing lemmas: an item of 56..2^64-1 bytes uses the long form -/
example : rlpReadItem (rlpBytes (List.replicate 60 7) ++ [1, 2]) = some (some (List.replicate 60 7), [1, 2]) :=
  Proofs.rlpReadItem_bytes _ _ (by decide)

/-- any number (≥ 1) of round trips gives the same transaction as one round trip -/
theorem binary_roundtrip_iter (e : Env) (tx tx' : TxV3) (h1 : reparse e tx = some tx')
    (h2 : reparse e tx' = some tx') (n : Nat) :
    reparseN e (n + 1) tx = some tx' := by
  simp [reparseN, h1, Proofs.reparseN_fix e tx' h2 n]

/-- `unser` (an explicit parser, Model/C12) inverts `serializeValue` on every canonical value:
    no numbers, no bools, no list starting with the empty string, dict keys listed in
    increasing order (Go maps have no order of their own). -/
theorem serialize_inverse (v : JV) (hc : canon v = true) (f : Bytes)
    (hs : serValue v = some f) : unser f = some v := by
  -- `unser_ok` twice: at fuel `sz v` only for the size bound, which does not depend on the fuel but is stated
  -- under `sz v ≤ fuel`; then at the fuel `unser` starts with
  have hsz := ((Proofs.unser_ok (sz v)).1 v f hc hs (Nat.le_refl _)).1
  have h := ((Proofs.unser_ok (2 * f.length + 2)).1 v f hc hs (Nat.le_succ_of_le hsz)).2 [] .nil
  rw [List.append_nil] at h
  simp [unser, h]

/-- hence `serializeValue` is injective on canonical values.  `_partial`: the full statement
    "injective on all values" is false, exactly because of the collisions proved below. -/
theorem serialize_injective_partial (v w : JV) (hv : canon v = true) (hw : canon w = true)
    (f : Bytes) (h1 : serValue v = some f) (h2 : serValue w = some f) : v = w :=
  Option.some.inj ((serialize_inverse v hv f h1).symm.trans (serialize_inverse w hw f h2))

/-- the hypotheses of `serialize_inverse` can be met: a canonical value with a string holding `.`, a `null`,
    an empty string that is not first, and an empty dict; its first entry alone is written `{a.[b\..\0.]}` -/
example : canon (.dict [([0x61], .list [.str [0x62, 0x2e], .null, .str []]),
    ([0x62], .dict [])]) = true := by decide
example : serValue (.dict [([0x61], .list [.str [0x62, 0x2e], .null, .str []])])
    = some [0x7b, 0x61, 0x2e, 0x5b, 0x62, 0x5c, 0x2e, 0x2e, 0x5c, 0x30, 0x2e, 0x5d, 0x7d] := rfl

/-- Exception 1: a JSON number and the string of its decimal value serialise identically
    (and so do two numbers with the same `int64(float64)` value, which the value tree already
    identifies). -/
theorem collision_number_string (n : Int) : serValue (.num n) = serValue (.str (intDec n)) := by
  simp only [serValue]
  rw [Proofs.serString_plain _ (Proofs.intDec_plain n)]

/-- Exception 2: empty strings at the front of a list vanish. -/
theorem collision_leading_empty_string (xs : List JV) :
    serValue (.list (.str [] :: xs)) = serValue (.list xs) := by
  simp only [serValue, serFrags, serString]
  cases serFrags xs with
  | none => rfl
  | some fs => simp [Proofs.joinListFrom_nil_empty]

/-- in particular `[""]` and `[]` collide -/
theorem collision_empty_list : serValue (.list [.str []]) = serValue (.list []) :=
  collision_leading_empty_string []

/-- Exception 3 (not a value collision): a bool anywhere makes the value unserialisable. -/
theorem bool_unserialisable (b : Bool) : serValue (.bool b) = none := rfl

/-- NOT an exception: `null` (written `\0`) collides with no string, because a backslash inside
    a string is always escaped. -/
theorem null_collides_with_no_string (s : Bytes) : serValue (.str s) ≠ serValue .null := by
  intro h
  have hs : serValue (.str s) = some [cBsl, cZero] := by rw [h]; rfl
  have := serialize_injective_partial (.str s) .null rfl rfl _ hs rfl
  cases this

/-- NOT exceptions: the empty string, the empty list and the empty dict are pairwise distinct -/
theorem empty_containers_distinct :
    serValue (.str []) ≠ serValue (.list []) ∧ serValue (.str []) ≠ serValue (.dict []) ∧
    serValue (.list []) ≠ serValue (.dict []) := by decide

/-- fields excluded from the id (`signature`, `txHash`) do not influence the preimage -/
theorem excluded_fields_ignored (k : Bytes) (v : JV) (kvs : List (Bytes × JV))
    (hk : exclV3.contains k = true) :
    serDictTop ((k, v) :: kvs) exclV3 = serDictTop kvs exclV3 := by
  have : (!exclV3.contains k) = false := by rw [hk]; rfl
  simp only [serDictTop, List.filter, this]

/-- every other field is signed: two canonical top-level maps with the same id preimage agree
    on all fields other than `signature`/`txHash` (keys and values, nested data included). -/
theorem preimage_determines_signed_fields (a b : List (Bytes × JV)) (p : Bytes)
    (ha : canon (.dict (a.filter (fun kv => !exclV3.contains kv.1))) = true)
    (hb : canon (.dict (b.filter (fun kv => !exclV3.contains kv.1))) = true)
    (h1 : serDictTop a exclV3 = some p) (h2 : serDictTop b exclV3 = some p) :
    a.filter (fun kv => !exclV3.contains kv.1) = b.filter (fun kv => !exclV3.contains kv.1) := by
  have key : ∀ l : List (Bytes × JV), serDictTop l exclV3 = some p →
      serValue (.dict (l.filter (fun kv => !exclV3.contains kv.1))) = some (cLBc :: (p ++ [cRBc])) := by
    intro l
    -- the two paths of `serDictTop`: `serPairs` of the filtered list gives `ps`, or fails
    fun_cases serDictTop l exclV3 with
    | case1 ps hps => rintro ⟨⟩; rw [serValue, hps]
    | case2 => nofun
  have := serialize_injective_partial _ _ ha hb _ (key a h1) (key b h2)
  injection this

end Goloop.C12
