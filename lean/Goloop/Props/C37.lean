/-
  Props/C37 — "Proposed transactions are valid for the block being proposed".
-/
import Goloop.Proofs.C37
import Goloop.Proofs.C11
namespace Goloop.C37
open Goloop.C37.Proofs

/-- Every candidate list re-validates as a block from the same state: for any pool content
    (any order, timestamps, balances, duplicates of ids already included), any limits and any
    world state, the transactions returned by `Candidate`
    * pass `validateTxs` from the state Candidate started in (each inside the window
      (bts − th, bts + th], each passing PreValidate with the cumulative balance effect of the
      ones before it),
    * are accepted by the tx-id logger (`idsFresh`: no id twice, none included before) provided
      the pool holds no id twice (transactionList.Add refuses duplicates — `poolOf_nodup`),
    * and are a sublist of the pool.
    `has` is the "already included" test, the same for proposer and validator when the proposal
    builds on the finalized block (C11: manager.Has). -/
theorem candidates_revalidate (e : Env) (has : Nat → Int → Bool) (maxBytes maxCount : Int)
    (pool : List Tx) (b : Bal) :
    let sel := (candidate e has maxBytes maxCount pool b).1
    (validateTxs e sel b).isSome = true ∧
    (∀ tx ∈ sel, inWindow e tx = true ∧ has tx.id tx.ts = false) ∧
    sel.Sublist pool ∧
    ((pool.map (·.id)).Nodup → idsFresh has sel [] = true) := by
  obtain ⟨s, h1, h2, h3, h4⟩ := candidate_spec e has maxBytes maxCount pool b
  rw [show (candidate e has maxBytes maxCount pool b).1 = s from h1]
  exact ⟨h2, h3, h4, fun hnd => idsFresh_of has s [] (fun tx h => (h3 tx h).2) ((h4.map _).nodup hnd)⟩

/-- the pool never holds an id twice, whatever is offered to it in whatever order -/
theorem poolOf_nodup (txs : List Tx) : ((poolOf txs []).map (·.id)).Nodup :=
  Proofs.poolOf_nodup txs [] .nil

/-- hence: for every sequence of transactions offered to the pool, the candidates pass the
    tx-id logger as well -/
theorem candidates_fresh (e : Env) (has : Nat → Int → Bool) (maxBytes maxCount : Int)
    (offered : List Tx) (b : Bal) :
    idsFresh has (candidate e has maxBytes maxCount (poolOf offered []) b).1 [] = true :=
  (candidates_revalidate e has maxBytes maxCount (poolOf offered []) b).2.2.2 (poolOf_nodup offered)

/-- the window test of `inWindow` is the window of C11 -/
theorem inWindow_iff (e : Env) (tx : Tx) :
    inWindow e tx = true ↔ (e.bts - e.th < tx.ts ∧ tx.ts ≤ e.bts + e.th) :=
  beq_iff_eq.trans (Goloop.C11.Proofs.window_iff e.bts e.th tx.ts)

/-- PreValidate succeeds exactly when the step limit covers the minimum and the sender's
    balance covers fee + value; it then debits / credits exactly that -/
theorem preValidate_some_iff (e : Env) (b : Bal) (tx : Tx) :
    (preValidate e b tx).isSome = true ↔
      (e.minStep ≤ tx.stepLimit ∧ tx.stepLimit * e.price + tx.value ≤ balOf b tx.from_) := by
  fun_cases preValidate e b tx with
  | case1 h1 => exact iff_of_false Bool.false_ne_true fun h => Nat.not_le.mpr h1 h.1
  | case2 _ _ _ h2 => exact iff_of_false Bool.false_ne_true fun h => Nat.not_le.mpr h2 h.2
  | case3 h1 _ _ h2 => exact iff_of_true rfl ⟨Nat.not_lt.mp h1, Nat.not_lt.mp h2⟩

/-- non-vacuity / exhaustion example: three transfers of 60 from an account holding 150 at
    price 0: the pool yields the first two, the third fails the cumulative check -/
example :
    let e : Env := ⟨1000, 10, 0, 0⟩
    let pool : List Tx := [⟨1, 1000, 0, 1, 60, 0, 100⟩, ⟨2, 1010, 0, 1, 60, 0, 100⟩, ⟨3, 995, 0, 1, 60, 0, 100⟩]
    ((candidate e (fun _ _ => false) 0 0 pool [(0, 150)]).1.map (·.id) = [1, 2]) ∧
    (validateTxs e pool [(0, 150)]).isSome = false := by decide

end Goloop.C37
