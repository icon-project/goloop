/-
  Props/C08 — "Block encoding round-trips and binds body to header".
  Model: Model/C08.lean (V2HeaderFormat / V2BodyFormat over the RLP dialect of Base/Rlp,
  NewBlockDataFromReader with its hash checks; components outside block/ are fields of `Env`).
  "Decoding arbitrary bytes never crashes" is not a theorem about Go: the model is a total
  function, and the harness feeds the same bytes to the real decoder (testing).
-/
import Goloop.Proofs.C08
namespace Goloop.C08
open Goloop Goloop.Rlp

def okBytes (ob : OBytes) : Prop := ∀ b, ob = some b → b.length ≤ maxSB
def okInt (v : Int) : Prop := -(2:Int)^63 ≤ v ∧ v < (2:Int)^63

/-- a header a node can hold: int64 fields, byte strings within codec.MaxSizeForBytes, and an
    encoding shorter than 2^63 bytes -/
structure Header.Ok (h : Header) : Prop where
  version : okInt h.version
  height : okInt h.height
  timestamp : okInt h.timestamp
  proposer : okBytes h.proposer
  prevID : okBytes h.prevID
  votesHash : okBytes h.votesHash
  nextValidatorsHash : okBytes h.nextValidatorsHash
  patchTxHash : okBytes h.patchTxHash
  normalTxHash : okBytes h.normalTxHash
  logsBloom : okBytes h.logsBloom
  result : okBytes h.result
  nsFilter : okBytes h.nsFilter
  size : (encodeItems h.items).length ≤ maxInt

def okBss (l : Option (List OBytes)) : Prop :=
  ∀ xs, l = some xs → (∀ ob ∈ xs, okBytes ob) ∧ (encodeItems (xs.map itemOfBytes)).length ≤ maxInt

structure Body.Ok (b : Body) : Prop where
  patchTxs : okBss b.patchTxs
  normalTxs : okBss b.normalTxs
  votes : okBytes b.votes
  btpDigest : okBytes b.btpDigest
  size : (encodeItems b.items).length ≤ maxInt

/-- decode ∘ encode = id for headers, in both forms (11 items when `NSFilter` is nil, 12 otherwise),
    with any bytes following the header left untouched. -/
theorem header_roundtrip (h : Header) (rest : Bytes) (ok : h.Ok) :
    decodeHeader (encodeHeader h ++ rest) = some (h, rest) := by
  unfold decodeHeader encodeHeader
  rw [Proofs.openList_encode _ _ ok.size]
  simp only [Header.items, List.cons_append, List.nil_append, encodeItems, Rd.bind,
    Proofs.readInt_encode _ _ ok.version, Proofs.readInt_encode _ _ ok.height,
    Proofs.readInt_encode _ _ ok.timestamp, Proofs.readBytes_encode _ _ ok.proposer,
    Proofs.readBytes_encode _ _ ok.prevID, Proofs.readBytes_encode _ _ ok.votesHash,
    Proofs.readBytes_encode _ _ ok.nextValidatorsHash, Proofs.readBytes_encode _ _ ok.patchTxHash,
    Proofs.readBytes_encode _ _ ok.normalTxHash, Proofs.readBytes_encode _ _ ok.logsBloom,
    Proofs.readBytes_encode _ _ ok.result]
  exact Proofs.readBytes_last _ _ ok.nsFilter

/-- decode ∘ encode = id for bodies (3 items when `BTPDigest` is nil, 4 otherwise; nil and empty
    transaction lists are distinguished). -/
theorem body_roundtrip (b : Body) (rest : Bytes) (ok : b.Ok) :
    decodeBody (encodeBody b ++ rest) = some (b, rest) := by
  unfold decodeBody encodeBody
  rw [Proofs.openList_encode _ _ ok.size]
  simp only [Body.items, List.cons_append, List.nil_append, encodeItems, Rd.bind,
    Proofs.readBss_encode _ _ ok.patchTxs, Proofs.readBss_encode _ _ ok.normalTxs,
    Proofs.readBytes_encode _ _ ok.votes]
  exact Proofs.readBytes_last _ _ ok.btpDigest

/-- non-vacuity: a 12-item header and a 4-item body satisfy the side conditions -/
example :
    Header.Ok { version := 2, height := 5, timestamp := -1, proposer := some [0, 1], prevID := none,
                votesHash := some [], nextValidatorsHash := none, patchTxHash := none,
                normalTxHash := some [0x80], logsBloom := some [], result := none,
                nsFilter := some [1] } ∧
    Body.Ok { patchTxs := none, normalTxs := some [some [1, 2], none], votes := some [0xc0],
              btpDigest := some [] } := by
  constructor
  · constructor <;> first | (unfold okInt; decide) | (intro b hb; cases hb; decide) | (intro b hb; cases hb) | decide
  · constructor
    · intro xs h; cases h
    · intro xs h; cases h
      refine ⟨?_, by decide⟩
      intro ob hob b hb
      simp at hob
      rcases hob with rfl | rfl
      · cases hb; decide
      · cases hb
    · intro b hb; cases hb; decide
    · intro b hb; cases hb; decide
    · decide

variable {Tx V D : Type}

/-- the facts established by the hash checks of `NewBlockDataFromReader`; the block's `proposer`, `logsBloom`
    and `nsFilter` are not among them: they are the header's fields after `proposerFromBytes`, `bloomCanon`,
    `filterCanon` -/
structure Bound (env : Env Tx V D) (hf : Header) (bf : Body) (blk : Block Tx V D) : Prop where
  patchTxs : txsFromBss env bf.patchTxs = some blk.patchTxs
  patchHash : bytesEqual (env.txListHash blk.patchTxs) hf.patchTxHash = true
  normalTxs : txsFromBss env bf.normalTxs = some blk.normalTxs
  normalHash : bytesEqual (env.txListHash blk.normalTxs) hf.normalTxHash = true
  votes : env.votesFromBytes bf.votes = some blk.votes
  votesHash : bytesEqual (env.votesHash blk.votes) hf.votesHash = true
  digest : env.digestFromBytes bf.btpDigest = some blk.digest
  digestHash : ∃ bdh, env.digestHashFromResult hf.result = some bdh ∧
    bytesEqual bdh (env.digestHash blk.digest) = true
  nsFilter : bytesEqual hf.nsFilter (env.digestFilter blk.digest) = true
  height : blk.height = hf.height
  timestamp : blk.timestamp = hf.timestamp
  prevID : blk.prevID = hf.prevID
  result : blk.result = hf.result
  nextValidatorsHash : blk.nextValidatorsHash = hf.nextValidatorsHash

theorem checkFormats_bound (env : Env Tx V D) (hf : Header) (bf : Body) (blk : Block Tx V D)
    (h : checkFormats env hf bf = some blk) : Bound env hf bf blk := by
  revert h
  -- eleven ways to fail; `case12` builds the block
  fun_cases checkFormats env hf bf with
  | case12 patches hp hph normals hn hnh votes hv hvh bd hd bdh hr hdh hnf proposer hpr =>
    rintro ⟨⟩
    simp only [Bool.not_eq_true', Bool.not_eq_false] at hph hnh hvh hdh hnf
    exact { patchTxs := hp, patchHash := hph, normalTxs := hn, normalHash := hnh, votes := hv, votesHash := hvh,
            digest := hd, digestHash := ⟨bdh, hr, hdh⟩, nsFilter := hnf,
            height := rfl, timestamp := rfl, prevID := rfl, result := rfl, nextValidatorsHash := rfl }
  | _ => nofun

/-- If decoding succeeds, the decoded transactions, votes and BTP digest are the ones in the body
    on the wire and their hashes (and the NS filter) equal the ones in the header on the wire
    (`bytes.Equal`, i.e. nil = empty). -/
theorem decode_binds_body (env : Env Tx V D) (input : Bytes) (blk : Block Tx V D)
    (h : newBlockData env input = some blk) :
    ∃ hf r1 bf r2, decodeHeader input = some (hf, r1) ∧ decodeBody r1 = some (bf, r2) ∧
      Bound env hf bf blk := by
  revert h
  fun_cases newBlockData env input with
  | case1 | case2 => nofun
  | case3 hf r1 hh bf r2 hb => exact fun h => ⟨hf, r1, bf, r2, hh, hb, checkFormats_bound env hf bf blk h⟩

theorem bytesEqual_iff {a b : OBytes} : bytesEqual a b = true ↔ a.getD [] = b.getD [] := beq_iff_eq

theorem bytesEqual_trans {a b c : OBytes} (h1 : bytesEqual a b = true) (h2 : bytesEqual c b = true) :
    bytesEqual a c = true :=
  bytesEqual_iff.2 ((bytesEqual_iff.1 h1).trans (bytesEqual_iff.1 h2).symm)

theorem bytesEqual_trans' {a b c : OBytes} (h1 : bytesEqual b a = true) (h2 : bytesEqual b c = true) :
    bytesEqual a c = true :=
  bytesEqual_iff.2 ((bytesEqual_iff.1 h1).symm.trans (bytesEqual_iff.1 h2))

/-- A body cannot be swapped under a header: two inputs that start with the same header bytes and
    both decode have the same committed transaction-list, vote and digest hashes (so, unless the
    hash functions collide, the same contents). -/
theorem body_swap_same_hashes (env : Env Tx V D) (hdr body1 body2 : Bytes) (b1 b2 : Block Tx V D)
    (hf : Header) (hdec : ∀ rest, decodeHeader (hdr ++ rest) = some (hf, rest))
    (h1 : newBlockData env (hdr ++ body1) = some b1) (h2 : newBlockData env (hdr ++ body2) = some b2) :
    bytesEqual (env.txListHash b1.patchTxs) (env.txListHash b2.patchTxs) = true ∧
    bytesEqual (env.txListHash b1.normalTxs) (env.txListHash b2.normalTxs) = true ∧
    bytesEqual (env.votesHash b1.votes) (env.votesHash b2.votes) = true ∧
    bytesEqual (env.digestHash b1.digest) (env.digestHash b2.digest) = true ∧
    bytesEqual (env.digestFilter b1.digest) (env.digestFilter b2.digest) = true := by
  obtain ⟨hf1, r1, bf1, _, hh1, _, bd1⟩ := decode_binds_body env _ b1 h1
  obtain ⟨hf2, r2, bf2, _, hh2, _, bd2⟩ := decode_binds_body env _ b2 h2
  rw [hdec] at hh1 hh2
  cases hh1; cases hh2
  refine ⟨bytesEqual_trans bd1.patchHash bd2.patchHash, bytesEqual_trans bd1.normalHash bd2.normalHash,
    bytesEqual_trans bd1.votesHash bd2.votesHash, ?_, ?_⟩
  · obtain ⟨x1, hx1, e1⟩ := bd1.digestHash
    obtain ⟨x2, hx2, e2⟩ := bd2.digestHash
    rw [hx1] at hx2; cases hx2
    exact bytesEqual_trans' e1 e2
  · exact bytesEqual_trans' bd1.nsFilter bd2.nsFilter

/-- The id of a block is the hash of its serialized header, nothing else (in particular not the body). -/
theorem id_is_header_hash (env : Env Tx V D) (b : Block Tx V D) :
    blockID env b = env.hash (encodeHeader (headerOf env b)) := rfl

/-- Blocks with the same header format have the same id. -/
theorem id_of_header (env : Env Tx V D) (b1 b2 : Block Tx V D) (h : headerOf env b1 = headerOf env b2) :
    blockID env b1 = blockID env b2 := by
  unfold blockID; rw [h]

/-- the components' own round trips and conventions, as far as `NewBlockDataFromReader` relies on
    them (each is a property of another package) -/
structure EnvOk (env : Env Tx V D) : Prop where
  tx : ∀ t, env.txFromBytes (some (env.txBytes t)) = some t
  votes : ∀ v, env.votesFromBytes (env.votesBytes v) = some v
  digest : ∀ d, env.digestFromBytes (env.digestBytes d) = some d

/-- what the node guarantees about a block it serializes (fields produced by its own code) -/
structure Block.Ok (env : Env Tx V D) (b : Block Tx V D) : Prop where
  header : (headerOf env b).Ok
  body : (bodyOf env b).Ok
  /-- the result in the header commits to the block's BTP digest -/
  result : ∃ bdh, env.digestHashFromResult b.result = some bdh ∧ bytesEqual bdh (env.digestHash b.digest) = true
  /-- the NS filter is the digest's filter, in `Bytes()` form (nil when empty) -/
  filter : b.nsFilter = env.digestFilter b.digest ∧ filterCanon b.nsFilter = b.nsFilter
  proposer : env.proposerFromBytes b.proposer = some b.proposer
  bloom : env.bloomCanon b.logsBloom = b.logsBloom

theorem txsFromBss_bssOf (env : Env Tx V D) (ok : EnvOk env) (txs : List Tx) :
    txsFromBss env (bssOf env txs) = some txs := by
  unfold txsFromBss bssOf
  cases txs with
  | nil => simp
  | cons t ts =>
    simp only [Option.getD_some]
    induction (t :: ts) with
    | nil => simp
    | cons a as ih =>
      simp only [List.map_cons, List.mapM_cons, ok.tx a, ih]
      rfl

theorem bytesEqual_refl (a : OBytes) : bytesEqual a a = true := bytesEqual_iff.2 rfl

/-- Any block serialized by a node decodes back to the same block, hence the same id and contents. -/
theorem block_roundtrip (env : Env Tx V D) (eok : EnvOk env) (b : Block Tx V D) (ok : b.Ok env)
    (rest : Bytes) :
    newBlockData env (marshal env b ++ rest) = some b ∧
    factoryDecode env (marshal env b ++ rest) = some b := by
  have hh : decodeHeader (marshal env b ++ rest) = some (headerOf env b, encodeBody (bodyOf env b) ++ rest) := by
    unfold marshal
    rw [List.append_assoc, header_roundtrip _ _ ok.header]
  have hnb : newBlockData env (marshal env b ++ rest) = some b := by
    unfold newBlockData
    rw [hh]
    simp only
    rw [body_roundtrip _ _ ok.body]
    simp only
    obtain ⟨bdh, hr, hdh⟩ := ok.result
    unfold checkFormats
    simp only [bodyOf, headerOf, txsFromBss_bssOf env eok, bytesEqual_refl, eok.votes, eok.digest, hr,
      hdh, ok.proposer, ok.bloom, ok.filter.2, Bool.not_true, Bool.false_eq_true, if_false]
    have : bytesEqual b.nsFilter (env.digestFilter b.digest) = true := by
      rw [← ok.filter.1]; exact bytesEqual_refl _
    simp only [this, Bool.not_true, Bool.false_eq_true, if_false]
  refine ⟨hnb, ?_⟩
  unfold factoryDecode
  rw [hh]
  simp only [headerOf, if_true]
  exact hnb

/-- non-vacuity of `block_roundtrip`: an environment whose components are identities/constants and
    a block with one transaction, votes and a 12-item header satisfy `EnvOk` and `Block.Ok`. -/
def exEnv : Env Bytes Bytes Bytes where
  txFromBytes := fun b => b
  txBytes := fun t => t
  txListHash := fun l => match l with | [] => none | t :: _ => some t
  votesFromBytes := fun b => some (b.getD [])
  votesBytes := fun v => some v
  votesHash := fun v => some v
  digestFromBytes := fun b => some (b.getD [])
  digestBytes := fun d => some d
  digestHash := fun d => some d
  digestFilter := fun d => match d with | [] => none | _ => some d
  digestHashFromResult := fun r => some r
  proposerFromBytes := fun p => some p
  bloomCanon := fun b => b
  hash := fun b => b

def exBlock : Block Bytes Bytes Bytes :=
  { height := 3, timestamp := 7, proposer := some [0, 9], prevID := some [1, 2, 3], logsBloom := some [],
    result := some [5, 5], patchTxs := [], normalTxs := [[0x81, 0x82]], nextValidatorsHash := none,
    votes := [0xc0], nsFilter := some [5, 5], digest := [5, 5] }

example : EnvOk exEnv ∧ exBlock.Ok exEnv := by
  refine ⟨⟨fun _ => rfl, fun _ => rfl, fun _ => rfl⟩, ?_⟩
  refine { header := ?_, body := ?_, result := ⟨some [5, 5], rfl, by decide⟩, filter := ⟨rfl, rfl⟩,
           proposer := rfl, bloom := rfl }
  · constructor <;> first | (unfold okInt; decide) | (intro b hb; cases hb; decide) | (intro b hb; cases hb) | decide
  · constructor
    · intro xs h; simp [bodyOf, bssOf, exBlock] at h
    · intro xs h
      simp [bodyOf, bssOf, exBlock, exEnv] at h
      subst h
      refine ⟨?_, by decide⟩
      intro ob hob b hb
      simp at hob
      subst hob
      cases hb; decide
    · intro b hb; cases hb; decide
    · intro b hb; cases hb; decide
    · decide

theorem block_roundtrip_id (env : Env Tx V D) (eok : EnvOk env) (b : Block Tx V D) (ok : b.Ok env) :
    ∃ b', factoryDecode env (marshal env b) = some b' ∧ blockID env b' = blockID env b := by
  have := (block_roundtrip env eok b ok []).2
  rw [List.append_nil] at this
  exact ⟨b, this, rfl⟩

end Goloop.C08
