/-
  Props/C04 — "Vote tallies report a 2/3 majority exactly when one exists".

  `VS`, `add`, `getDecision`, `hasOverTwoThirds` are `voteSet`, `voteSet.add`,
  `getOverTwoThirdsRoundDecisionDigest` (= `getOverTwoThirdsPartSetID` with the digest) and
  `hasOverTwoThirds` of consensus/voteset.go (Model/C04.lean).  `Reachable n s`: `s` is the state
  after *any* sequence of `add`s (any slots, any votes: duplicates, re-votes, nil votes, other
  rounds/types, out-of-range slots) and decision queries on `newVoteSet(n)`, for any `n`.
  `countSlots s.slots d` is the independent recount: the number of validator slots that
  currently hold a vote with round decision digest `d`.

  About the nil decision: the Go code guards the sticky rule with `rdd != nil`.  `rdd` is the
  SHA3 digest of the round decision and is never a nil slice — also for a *nil vote* — so the
  guard is always true when a decision exists and the model has no such case distinction.
  `sticky` therefore holds for every digest, including the digest of nil votes; the
  correspondence run confirms this on the real code with nil-vote decisions.
-/
import Goloop.Proofs.C04
namespace Goloop.C04
open Proofs

/-- Go's `count > len(msgs)*2/3` (integer division) is exactly "more than two thirds". -/
theorem threshold_exact (k n : Nat) : k > n * 2 / 3 ↔ 3 * k > 2 * n := over_two_thirds_iff k n

/-- The bookkeeping equals a recount of the slots in every reachable state: distinct digests,
    each counter positive and equal to the number of slots holding its digest, every held digest
    has a counter, `count` = filled slots, the mask marks the filled slots, the cached `maxIndex`
    is unset or the index the argmax loop would compute. -/
theorem counters_recount {n : Nat} {s : VS} (h : Reachable n s) :
    s.slots.length = n ∧
    (s.counters.map (·.d)).Nodup ∧
    (∀ c ∈ s.counters, 0 < c.cnt ∧ c.cnt = countSlots s.slots c.d) ∧
    (∀ d, 0 < countSlots s.slots d → ∃ c ∈ s.counters, c.d = d) ∧
    s.count = filled s.slots ∧
    s.mask = s.slots.map (·.isSome) ∧
    (s.maxIndex = none ∨ s.maxIndex = (argmaxLoop s.counters 0 none 0).1) := by
  obtain ⟨hi, hl⟩ := reachable_inv h
  exact ⟨hl, hi.good.nodup, hi.good.sound, hi.good.complete, hi.count, hi.mask, hi.cache⟩

example : Reachable 4 (run (C04.new 4) [Op.add 0 ⟨5, 0, 1, 7, 100⟩, Op.get, Op.add 0 ⟨5, 0, 1, 8, 100⟩]) := ⟨_, rfl⟩

/-- The +2/3 decision is reported exactly when more than two thirds of the validator slots hold
    a vote for that decision (and the query never hits an index panic). -/
theorem decision_iff {n : Nat} {s : VS} (h : Reachable n s) (d : Nat) :
    decision s = Dec.decided d ↔ 3 * countSlots s.slots d > 2 * n := by
  obtain ⟨hi, hl⟩ := reachable_inv h
  rw [← hl]
  exact (decision_spec hi).2 d

theorem decision_no_panic {n : Nat} {s : VS} (h : Reachable n s) : decision s ≠ Dec.panic :=
  (decision_spec (reachable_inv h).1).1

/-- No decision is reported iff no digest has more than two thirds. -/
theorem no_decision_iff {n : Nat} {s : VS} (h : Reachable n s) :
    decision s = Dec.no ↔ ∀ d, ¬ 3 * countSlots s.slots d > 2 * n := by
  constructor
  · intro hno d hd
    rw [← decision_iff h d, hno] at hd
    cases hd
  · intro hall
    cases hdec : decision s with
    | no => rfl
    | panic => exact absurd hdec (decision_no_panic h)
    | decided d => exact absurd ((decision_iff h d).1 hdec) (hall d)

/-- At most one decision can have +2/3 support: a counting fact about any slot array. -/
theorem decision_unique (slots : List (Option Vote)) (d d' : Nat)
    (h1 : 3 * countSlots slots d > 2 * slots.length)
    (h2 : 3 * countSlots slots d' > 2 * slots.length) : d = d' :=
  countSlots_unique slots h1 h2

/-- Sticky: once a decision `d` (for a block *or* for nil) has +2/3, every later sequence of adds
    and queries still reports `d`, and the number of slots supporting `d` never decreases. -/
theorem sticky {n : Nat} {s : VS} (h : Reachable n s) (d : Nat)
    (hd : decision s = Dec.decided d) (ops : List Op) :
    decision (run s ops) = Dec.decided d ∧
    countSlots s.slots d ≤ countSlots (run s ops).slots d := by
  obtain ⟨hi, hl⟩ := reachable_inv h
  have hmaj := (decision_iff h d).1 hd
  have hle := (run_later hi ops).support d (hl.symm ▸ hmaj)
  exact ⟨(decision_iff (reachable_run h ops) d).2 (Nat.lt_of_lt_of_le hmaj (Nat.mul_le_mul_left 3 hle)), hle⟩

example : decision (run (C04.new 4) [Op.add 0 ⟨5, 0, 1, 7, 100⟩, Op.add 1 ⟨5, 0, 1, 7, 100⟩,
    Op.add 2 ⟨5, 0, 1, 7, 100⟩]) = Dec.decided 7 := by decide

/-- A vote that is refused (`add` returns false) changes no slot; an accepted vote is stored. -/
theorem add_result {n : Nat} {s s' : VS} (h : Reachable n s) (i : Nat) (v : Vote) (b : Bool)
    (ha : add s i v = some (s', b)) :
    (b = false → s'.slots = s.slots) ∧ (b = true → s'.slots = s.slots.set i (some v)) :=
  add_slots (reachable_inv h).1 ha

/-- `add` on an existing slot never panics. -/
theorem add_total {n : Nat} {s : VS} (h : Reachable n s) (i : Nat) (v : Vote) (hi : i < n) :
    ∃ r, add s i v = some r := by
  obtain ⟨hinv, rfl⟩ := reachable_inv h
  refine add_cases (∃ r, · = some r) hinv ?_ ?_ ?_
  · exact fun hs => absurd (List.getElem?_eq_none_iff.1 hs) (Nat.not_le.2 hi)
  · exact fun _ _ _ => ⟨_, rfl⟩
  · exact fun _ _ _ _ _ _ => ⟨_, rfl⟩

/-- `hasOverTwoThirds` is exactly "more than two thirds of the slots are filled". -/
theorem hasOverTwoThirds_iff {n : Nat} {s : VS} (h : Reachable n s) :
    hasOverTwoThirds s = true ↔ 3 * filled s.slots > 2 * n := by
  obtain ⟨hi, hl⟩ := reachable_inv h
  unfold hasOverTwoThirds
  rw [decide_eq_true_iff, hi.count, hl]
  exact threshold_exact _ _

end Goloop.C04
