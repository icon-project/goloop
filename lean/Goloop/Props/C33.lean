/-
  Props/C33 — "Flooded messages are delivered once and only from authorized origins".

  `onPacket pool e` is the decision of `PeerToPeer.onPacket` for a packet of a
  non-control protocol (`Ev` = everything the function reads), `put`/`clear`/`newPool`
  the `PacketPool` with `nb` buckets of `bl` entries (20 × 500 in p2p.go).
  A message is identified by `hashOfPacket` (FNV-64 of header and payload, see C30).
-/
import Goloop.Proofs.C33
namespace Goloop.C33
open Goloop.C33.Proofs

/-- complete decision table: a packet is handed to the registered callback iff the peer
    registered the protocol, its connection type is determined, the source is not this node,
    one-hop packets (ttl ≠ 0 or dest = peer) come from their source, an originator's
    broadcast comes from a peer holding the root (validator) role, a callback exists, and —
    for flooded packets — the hash is new to the pool. -/
theorem deliver_iff (pool : Pool) (e : Ev) :
    (onPacket pool e).2 = .deliver ↔
      e.peerHasProto = true ∧ e.connNone = false ∧ e.self ≠ e.src ∧
      (e.isOneHop = true → e.peerId = e.src) ∧
      (e.isBroadcast = true → e.peerId = e.src → e.hasRoot = true) ∧
      e.hasCb = true ∧
      (e.isOneHop = false → (put pool e.hash).2 = true) := by
  rcases onPacket_spec pool e with ⟨hn, _, hd⟩ | ⟨⟨a, b, c, d, f, g⟩, ho, he⟩ |
    ⟨⟨a, b, c, d, f, g⟩, ho, _, hd⟩
  · exact iff_of_false hd (fun ⟨a, b, c, d, f, g, _⟩ => hn ⟨a, b, c, d, f, g⟩)
  · rw [he]
    exact iff_of_true rfl ⟨a, b, c, d, f, g, fun h => by rw [ho] at h; cases h⟩
  · rw [hd]
    exact ⟨fun h => ⟨a, b, c, d, f, g, fun _ => h⟩, fun h => h.2.2.2.2.2.2 ho⟩

/-- one-hop packets (ttl ≠ 0 or dest = 0xFF) are accepted only from their originating peer. -/
theorem onehop_only_from_source (pool : Pool) (e : Ev)
    (hd : (onPacket pool e).2 = .deliver) (h1 : e.ttl ≠ 0 ∨ e.dest = destPeer) :
    e.peerId = e.src :=
  ((deliver_iff pool e).mp hd).2.2.2.1
    (Bool.or_eq_true_iff.mpr (h1.imp bne_iff_ne.mpr beq_iff_eq.mpr))

example : (onPacket (newPool 20 500)
    { peerHasProto := true, connNone := false, self := [0], peerId := [1], peerRole := 0,
      src := [1], dest := destPeer, ttl := 1, hasCb := true, hash := 7 }).2 = .deliver := by decide
example : (onPacket (newPool 20 500)
    { peerHasProto := true, connNone := false, self := [0], peerId := [1], peerRole := 2,
      src := [2], dest := destPeer, ttl := 1, hasCb := true, hash := 7 }).2 = .dropOneHopSrc := by decide

/-- a broadcast (dest = any, ttl = 0) received from its originator is accepted only when that
    peer holds the root (validator) role. -/
theorem broadcast_origin_needs_root_role (pool : Pool) (e : Ev)
    (hd : (onPacket pool e).2 = .deliver) (hdest : e.dest = destAny) (httl : e.ttl = 0)
    (hsrc : e.peerId = e.src) : e.peerRole &&& roleRoot = roleRoot :=
  beq_iff_eq.mp (((deliver_iff pool e).mp hd).2.2.2.2.1
    (Bool.and_eq_true_iff.mpr ⟨beq_iff_eq.mpr hdest, beq_iff_eq.mpr httl⟩) hsrc)

example : (onPacket (newPool 20 500)
    { peerHasProto := true, connNone := false, self := [0], peerId := [1], peerRole := 2,
      src := [1], dest := destAny, ttl := 0, hasCb := true, hash := 7 }).2 = .deliver := by decide
example : (onPacket (newPool 20 500)
    { peerHasProto := true, connNone := false, self := [0], peerId := [1], peerRole := 1,
      src := [1], dest := destAny, ttl := 0, hasCb := true, hash := 7 }).2 = .dropNotAuthorized := by decide

/-- packets claiming this node as source are never delivered. -/
theorem self_source_never_delivered (pool : Pool) (e : Ev)
    (hd : (onPacket pool e).2 = .deliver) : e.self ≠ e.src :=
  ((deliver_iff pool e).mp hd).2.2.1

/-- **PacketPool retention**: in any state reachable from `NewPacketPool(nb, bl)` (`nb, bl ≥ 1`)
    by `Put`/`Clear`, once `Put(h)` has been accepted, and however `Put`s continue (`xs`, no
    `Clear`), a later `Put(h)` is accepted only after at least `(nb − 1)·bl` other accepted
    `Put`s: within any window of `(nb−1)·bl` accepted packets a hash is accepted at most once. -/
theorem pool_put_once (nb bl : Nat) (h1 : 1 ≤ nb) (h2 : 1 ≤ bl) (p : Pool) (r : Reach nb bl p)
    (h : UInt64) (hacc : (put p h).2 = true) (xs : List UInt64) (n : Nat)
    (hre : reaccept (put p h).1 h xs = some n) : (nb - 1) * bl ≤ n := by
  obtain ⟨wf, e1, e2⟩ := reach_wf nb bl h1 h2 p r
  have hc := (put_flag_iff p h).mp hacc
  have hs := safe_new p wf h hc
  rw [e1, e2] at hs
  exact reaccept_ge h xs (put p h).1 _ n (wf_put p wf h) hs hre

/-- non-vacuity and tightness: with 3 buckets of 2, a hash put as the second entry of a bucket
    is accepted again after exactly (3−1)·2 = 4 other accepted puts, not earlier. -/
example : let p := (put (newPool 3 2) 100).1
    (put p 7).2 = true ∧ reaccept (put p 7).1 7 [1, 2, 7, 3, 7, 4, 7] = some 4 := by decide

/-- the bound is tight (the code forgets a hash after exactly `(nb−1)·bl` accepted puts when the
    hash was the entry that filled its bucket). -/
theorem pool_bound_tight_witness :
    reaccept (put (put (newPool 3 2) 100).1 7).1 7 [1, 2, 3, 4, 7] = some 4 := by decide

/-- `flood_delivered_once` for any receive function that uses the pool as `onPacket` does: the
    deliveries it counts are accepted `Put`s, so `pool_put_once` applies. -/
theorem poolStep_delivered_once {f : Pool → Ev → Pool × Outcome} (hf : PoolStep f) (nb bl : Nat)
    (h1 : 1 ≤ nb) (h2 : 1 ≤ bl) (p : Pool) (r : Reach nb bl p) (e : Ev) (hoh : e.isOneHop = false)
    (hd : (f p e).2 = .deliver) (es : List Ev) (n : Nat)
    (hre : redeliverG f (f p e).1 e.hash es = some n) : (nb - 1) * bl ≤ n := by
  rcases hf p e with ⟨_, hx⟩ | ⟨_, hp, hq⟩
  · rw [hx hd] at hoh; cases hoh
  · obtain ⟨xs, hxs⟩ := hf.redeliverG_eq e.hash es (put p e.hash).1
    rw [hp, hxs] at hre
    exact pool_put_once nb bl h1 h2 p r e.hash (hq.mp hd) xs n hre

/-- **delivered once**: for a node whose pool is in any reachable state, after a flooded packet
    with hash `h` has been delivered, and whatever packets arrive from whatever peers (`es`),
    a flooded packet with the same hash is delivered again only after at least `(nb−1)·bl`
    other flooded packets have been delivered in between. -/
theorem flood_delivered_once (nb bl : Nat) (h1 : 1 ≤ nb) (h2 : 1 ≤ bl) (p : Pool)
    (r : Reach nb bl p) (e : Ev) (hoh : e.isOneHop = false)
    (hd : (onPacket p e).2 = .deliver) (es : List Ev) (n : Nat)
    (hre : redeliver (onPacket p e).1 e.hash es = some n) : (nb - 1) * bl ≤ n := by
  rw [redeliver_eq] at hre
  exact poolStep_delivered_once onPacket_poolStep nb bl h1 h2 p r e hoh hd es n hre

/-- the pool of a node stays in a reachable state along any packet history. -/
theorem onPacket_reach (nb bl : Nat) (p : Pool) (r : Reach nb bl p) (e : Ev) :
    Reach nb bl (onPacket p e).1 :=
  onPacket_poolStep.reach nb bl p r e

/-- one-hop packets bypass the pool: they are delivered every time they arrive. -/
theorem onehop_not_deduplicated (pool : Pool) (e : Ev) (h : e.isOneHop = true) :
    (onPacket pool e).1 = pool := by
  rcases onPacket_poolStep pool e with ⟨hx, _⟩ | ⟨hn, _, _⟩
  · exact hx
  · rw [h] at hn; cases hn

/-- a relayed broadcast arriving through two different peers: delivered once. -/
def exRelay (peer : Bytes) : Ev :=
  { peerHasProto := true, connNone := false, self := [0], peerId := peer,
    peerRole := 0, src := [9], dest := destAny, ttl := 0, hasCb := true, hash := 7 }

example : (onPacket (newPool 20 500) (exRelay [1])).2 = .deliver ∧
    (onPacket (onPacket (newPool 20 500) (exRelay [1])).1 (exRelay [2])).2 = .dropDuplicate := by
  decide

/-- control-protocol packets (protocol id 0) never reach an application callback and never touch
    the pool, whatever their sub protocol, source, ttl or destination. -/
theorem control_never_delivered (pool : Pool) (e : Ev) (h : e.protoId = 0) :
    (onPacketFull pool e).2 ≠ .deliver ∧ (onPacketFull pool e).1 = pool := by
  -- `case5` is the application branch
  fun_cases onPacketFull pool e with
  | case1 | case2 | case3 | case4 => exact ⟨nofun, rfl⟩
  | case5 _ h0 => exact absurd (beq_iff_eq.mpr h) h0

/-- for every other protocol the full function is the application branch, so the complete
    decision table `deliver_iff` applies to it. -/
theorem full_deliver_iff (pool : Pool) (e : Ev) :
    (onPacketFull pool e).2 = .deliver ↔ e.protoId ≠ 0 ∧ (onPacket pool e).2 = .deliver := by
  by_cases h0 : e.protoId = 0
  · exact iff_of_false (control_never_delivered pool e h0).1 (fun h => h.1 h0)
  · rw [onPacketFull_of_ne pool e h0]
    exact ⟨fun h => ⟨h0, h⟩, fun h => h.2⟩

theorem onPacketFull_poolStep : PoolStep onPacketFull := by
  intro p e
  by_cases h0 : e.protoId = 0
  · exact .inl ⟨(control_never_delivered p e h0).2,
      fun hd => absurd hd (control_never_delivered p e h0).1⟩
  · rw [onPacketFull_of_ne p e h0]; exact onPacket_poolStep p e

example : (onPacketFull (newPool 20 500)
    { peerHasProto := true, connNone := false, self := [0], peerId := [1], peerRole := 2,
      src := [1], dest := destAny, ttl := 0, hasCb := true, hash := 7,
      protoId := 0, protoVer := 0, sub := 0x0700 }).2 = .control .queryReq := by decide

/-- **delivered once, full onPacket**: same statement as `flood_delivered_once` for the complete
    function: whatever mixture of control and application packets arrives from whatever peers,
    a flooded packet with the same hash is handed to the application again only after at least
    `(nb−1)·bl` other flooded packets were delivered. -/
theorem flood_delivered_once_full (nb bl : Nat) (h1 : 1 ≤ nb) (h2 : 1 ≤ bl) (p : Pool)
    (r : Reach nb bl p) (e : Ev) (hoh : e.isOneHop = false)
    (hd : (onPacketFull p e).2 = .deliver) (es : List Ev) (n : Nat)
    (hre : redeliverG onPacketFull (onPacketFull p e).1 e.hash es = some n) : (nb - 1) * bl ≤ n :=
  poolStep_delivered_once onPacketFull_poolStep nb bl h1 h2 p r e hoh hd es n hre

theorem onPacketFull_reach (nb bl : Nat) (p : Pool) (r : Reach nb bl p) (e : Ev) :
    Reach nb bl (onPacketFull p e).1 :=
  onPacketFull_poolStep.reach nb bl p r e

theorem relayWanted_flood {isRelay : Bool} {e : Ev} (h : relayWanted isRelay e = true) :
    isRelay = true ∧ e.isOneHop = false := by
  unfold relayWanted at h
  rw [Bool.and_eq_true, Bool.and_eq_true] at h
  exact ⟨h.1.1, Bool.or_eq_false_iff.mpr ⟨congrArg not h.1.2, Eq.mp (Bool.not_eq_true' _) h.2⟩⟩

/-- relaying is a consequence of a flooded delivery and nothing else: the node relays only a
    packet it has just delivered, with ttl 0 and not addressed to a single peer (hence not
    one-hop), and the receive step is the only place the pool and the callback are touched —
    the relay itself neither delivers nor changes the pool. -/
theorem relay_only_after_flood_delivery (n : Node) (frm : Nat) (e : Ev) (isRelay : Bool) :
    (nodeStep n frm e isRelay).1.pool = (onPacketFull n.pool e).1 ∧
    (nodeStep n frm e isRelay).2.1 = (onPacketFull n.pool e).2 ∧
    ((nodeStep n frm e isRelay).2.2 ≠ [] →
      (onPacketFull n.pool e).2 = .deliver ∧ isRelay = true ∧ e.isOneHop = false) := by
  refine ⟨rfl, rfl, fun hne => ?_⟩
  unfold nodeStep at hne
  dsimp only at hne
  by_cases hc : (onPacketFull n.pool e).2 = .deliver ∧ relayWanted isRelay e = true
  · exact ⟨hc.1, relayWanted_flood hc.2⟩
  · rw [if_neg hc] at hne; exact absurd rfl hne

/-- whom a relayed packet goes to: only connected peers that registered the protocol, never the
    packet's source, never the peer it was received from, never a peer whose history already
    contains the hash. -/
theorem relay_targets_exclude (selfRole : UInt8) (peers : List PeerInfo) (e : Ev) (sender : Bytes)
    (x : Bytes) (hx : x ∈ relaySend selfRole peers e sender) :
    ∃ p ∈ peers, p.id = x ∧ p.hasProto = true ∧ p.closed = false ∧
      p.id ≠ e.src ∧ p.id ≠ sender ∧ e.hash ∉ p.known := by
  revert hx
  fun_cases relaySend selfRole peers e sender with
  | case1 => nofun
  | case2 =>
    intro hx
    obtain ⟨p, hpf, rfl⟩ := List.mem_map.mp hx
    obtain ⟨hpc, hd⟩ := List.mem_filter.mp hpf
    obtain ⟨hp, hc⟩ := List.mem_filter.mp hpc
    unfold dupToSend at hd
    have hd1 := Bool.or_eq_false_iff.mp (Eq.mp (Bool.not_eq_true' _) hd)
    have hd2 := Bool.or_eq_false_iff.mp hd1.1
    rw [Bool.and_eq_true, Bool.and_eq_true] at hc
    exact ⟨p, hp, rfl, hc.1.1, Eq.mp (Bool.not_eq_true' _) hc.1.2, beq_eq_false_iff_ne.mp hd2.1,
      beq_eq_false_iff_ne.mp hd2.2,
      fun hm => Bool.false_ne_true (hd1.2.symm.trans (List.contains_iff_mem.mpr hm))⟩

/-- in particular the packet never goes back to the peer that sent it: `nodeStep` records the
    hash in that peer's history before relaying, and passes it as `sender`. -/
theorem relay_not_back_to_sender (n : Node) (frm : Nat) (e : Ev) (isRelay : Bool) :
    e.peerId ∉ (nodeStep n frm e isRelay).2.2 ∧ e.src ∉ (nodeStep n frm e isRelay).2.2 := by
  unfold nodeStep
  dsimp only
  split
  · constructor
    · intro hx
      obtain ⟨p, _, h1, _, _, _, h5, _⟩ := relay_targets_exclude _ _ e e.peerId _ hx
      exact h5 h1
    · intro hx
      obtain ⟨p, _, h1, _, _, h4, _, _⟩ := relay_targets_exclude _ _ e e.peerId _ hx
      exact h4 h1
  · exact ⟨List.not_mem_nil, List.not_mem_nil⟩

def exPeers : List PeerInfo :=
  [ { id := [1], connType := ctChildren, hasProto := true, known := [] },
    { id := [2], connType := ctChildren, hasProto := true, known := [] },
    { id := [3], connType := ctOther, hasProto := true, known := [7] },
    { id := [4], connType := ctParent, hasProto := true, known := [] } ]

/-- non-vacuity: a broadcast from source 9 received through child 1 is relayed to child 2 only
    (not back to 1, not to 3 which already has it, not upwards to the parent 4). -/
example : (nodeStep { pool := newPool 20 500, selfRole := 0, peers := exPeers } 0 (exRelay [1]) true).2
    = (.deliver, [[2]]) := by decide

end Goloop.C33
