/-
  Props/C25 — "Header compression is lossless and format-stable".
  Model: Goloop/Model/C25.lean (legacy LZW writer/reader of /repo/common/lzw, MSB, litWidth 8,
  no leading clear code, clear code when the table fills, width growth; bit packing).
  Helper lemmas and the simulation invariant: Goloop/Proofs/C25.lean (core Lean only).
  `Mathlib.Algebra.Group.Nat.Defs` is imported so that `^` on `Nat` in the statements below is
  Mathlib's monoid power, the form it has wherever Mathlib is loaded; the core-only lemmas apply
  to it by unfolding the instance.
-/
import Goloop.Proofs.C25
import Mathlib.Algebra.Group.Nat.Defs
namespace Goloop.C25

/-- reads codes of the given widths one after the other (`readMSB` with a width schedule). -/
def readAll : List Nat → List Bool → Option (List Nat)
  | [], _ => some []
  | w :: ws, bits =>
    match readCode w bits with
    | none => none
    | some (c, rest) => (readAll ws rest).map (c :: ·)

theorem readAll_bitsOf (cs : List (Nat × Nat)) (h : ∀ cw ∈ cs, cw.1 < 2 ^ cw.2) (pad : List Bool) :
    readAll (cs.map (·.2)) (bitsOf cs ++ pad) = some (cs.map (·.1)) := by
  induction cs with
  | nil => rfl
  | cons cw cs ih =>
    have h1 := h cw List.mem_cons_self
    have h2 : ∀ c ∈ cs, c.1 < 2 ^ c.2 := fun c hc => h c (List.mem_cons_of_mem _ hc)
    simp only [List.map_cons, readAll, Proofs.bitsOf_cons, List.append_assoc,
      Proofs.readCode_bits _ _ _ h1, ih h2]
    rfl

/-- Bit packing round trip for variable widths: any sequence of codes, each written MSB-first at
    its own width (whatever the widths are), flushed to bytes with zero padding, is read back
    code by code with the same width schedule. -/
theorem bitpack_roundtrip (cs : List (Nat × Nat)) (h : ∀ cw ∈ cs, cw.1 < 2 ^ cw.2) :
    readAll (cs.map (·.2)) (bitsOfBytes (bytesOfBits (bitsOf cs))) = some (cs.map (·.1)) := by
  obtain ⟨k, hk⟩ := Proofs.bitsOfBytes_bytesOfBits (bitsOf cs)
  rw [hk]
  exact readAll_bitsOf cs h _

example : (∀ cw ∈ [(97, 9), (258, 9), (256, 12), (257, 9)], cw.1 < 2 ^ cw.2) := by decide

/-- Format stability: the first code emitted for any non-empty input is the literal code of the
    first input byte at width 9, never the clear code 256 (the legacy format has no leading
    clear code; a writer that sent one would change every stored header hash). -/
theorem first_code_is_literal (x : UInt8) (xs : Bytes) :
    ∃ rest, encCodes (x :: xs) = (x.toNat, 9) :: rest ∧ x.toNat ≠ 256 := by
  obtain ⟨rest, h⟩ := Proofs.encLoop_init_head x xs
  exact ⟨rest, h, Nat.ne_of_lt x.toNat_lt⟩

/-- The same at byte level: the first bit of the compressed form is 0 (a leading clear code
    `1_0000_0000` would make it 1), hence the first output byte is below 0x80. -/
theorem first_byte_lt_128 (x : UInt8) (xs : Bytes) :
    ∃ b t, compress (x :: xs) = b :: t ∧ b.toNat < 128 := by
  obtain ⟨t, ht⟩ := Proofs.bitsOf_encCodes_cons x xs
  refine ⟨_, _, by rw [Proofs.compress_eq_bits, ht, Proofs.bytesOfBits_cons], ?_⟩
  -- the first byte is `false :: u` with `u` of length 7
  have hl := Proofs.length_pad8 (List.take 8 (false :: t)) (List.length_take_le _ _)
  obtain ⟨u, hu⟩ : ∃ u, pad8 (List.take 8 (false :: t)) = false :: u := ⟨_, rfl⟩
  rw [hu] at hl ⊢
  have := Proofs.natOfBits_lt u
  rw [Nat.succ.inj hl] at this
  rw [Proofs.toNat_byteOfBits _ (Nat.le_of_eq hl), natOfBits, Bool.toNat_false, Nat.zero_mul,
    Nat.zero_add]
  exact this

/-- The transcribed 32 bit accumulator writer (`writeMSB`, drain loop, final partial byte in
    `Close`) produces exactly the zero padded MSB-first bit string of the code sequence, for all
    code sequences whose codes fit their widths (widths up to 24 bits). -/
theorem accumulator_writer_is_bitstring (cs : List (Nat × Nat))
    (h : ∀ cw ∈ cs, cw.1 < 2 ^ cw.2 ∧ cw.2 ≤ 24) : packAcc cs = bytesOfBits (bitsOf cs) :=
  Proofs.packAcc_eq cs h

example : ∀ cw ∈ [(97, 9), (258, 9), (256, 12), (257, 9)], cw.1 < 2 ^ cw.2 ∧ cw.2 ≤ 24 := by decide

/-- every code the writer emits fits the width it is emitted at (widths 9..12). -/
theorem emitted_codes_fit (s : Bytes) : ∀ cw ∈ encCodes s, cw.1 < 2 ^ cw.2 ∧ cw.2 ≤ 24 :=
  Proofs.encCodes_fit_acc s

/-- `Compress(empty) = empty` and a non-empty input never compresses to the empty string
    (so the empty-input special case of `Decompress` cannot be confused with real data). -/
theorem compress_empty_iff (s : Bytes) : compress s = [] ↔ s = [] := by
  constructor
  · intro h
    cases s with
    | nil => rfl
    | cons x xs =>
      obtain ⟨b, t, hbt, _⟩ := first_byte_lt_128 x xs
      rw [hbt] at h; cases h
  · rintro rfl
    rfl

/-- Lossless for EVERY byte string, of any length: also across any number of dictionary resets
    (clear code when code 4094 has been assigned), code-width changes, the KwKwK case, and the
    case where the table fills inside `Close` (clear code directly before eof).  Proved by a
    simulation invariant between writer and reader (`Proofs.Inv`, `Proofs.decOf`): same
    `hi`/width/overflow, and the reader's dictionary is the writer's minus its newest entry. -/
theorem lzw_roundtrip (s : Bytes) : decompress (compress s) = s := Proofs.roundtrip s

end Goloop.C25
