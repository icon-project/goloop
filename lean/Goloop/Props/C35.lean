/-
  Props/C35 — "Rewards never exceed the term's reward budget" (IISS-4 calculator).
  `sumInt` is the sum of a list of integers.
-/
import Goloop.Proofs.C35
import Goloop.Proofs.C35Input
import Goloop.Proofs.C35Voters
namespace Goloop.C35
open Proofs

/-- Σ ⌊aᵢ·R/A⌋ ≤ R whenever Σ aᵢ ≤ A (any list, any signs of the aᵢ), R ≥ 0, A > 0. -/
theorem floor_shares_le_total (as : List Int) (R A : Int) (hR : 0 ≤ R) (hA : 0 < A)
    (hs : sumInt as ≤ A) : sumInt (as.map (fun a => a * R / A)) ≤ R :=
  Proofs.floor_shares_le_total as R A hR hA hs

example : (0:Int) ≤ 10 ∧ (0:Int) < 7 ∧ sumInt [3, 3, 1] ≤ 7 ∧ sumInt ([3, 3, 1].map (fun a => a * 10 / 7)) = 9 := by decide

/-- Each term of `Voter.CalculateReward` is the voter's proportional share of the P-Rep's voter
    reward, rounded down: r ≤ av·VR/AV < r+1 (stated without fractions). -/
theorem voter_share_is_proportional (av VR AV : Int) (hAV : 0 < AV) :
    (av * VR / AV) * AV ≤ av * VR ∧ av * VR < (av * VR / AV + 1) * AV :=
  ⟨Int.ediv_mul_le _ (Int.ne_of_gt hAV), Int.lt_ediv_add_one_mul_self _ hAV⟩

example : (0:Int) < 7 ∧ ((5:Int) * 10 / 7) = 7 := by decide

/-- `PRepInfo.CalculateReward`: commissions plus voter rewards of all P-Reps stay within the
    P-Rep fund of the term, wages within the wage fund.  `PRepWF` = no P-Rep has a negative
    accumulated power, commission rates are in [0,100%], `totalAccumulatedPower` is what
    `UpdateTotalAccumulatedPower` computes, at most `electedPRepCount` entries are ranked below it. -/
theorem prep_rewards_le_fund (pi : PRepInfo) (wf : PRepWF pi) (fundPRep fundWage minBond : Int)
    (hP : 0 ≤ fundPRep) (hW : 0 ≤ fundWage) :
    let pi' := pi.calculateReward fundPRep fundWage minBond
    sumInt (pi'.preps.map (fun p => p.commission + p.voterReward)) ≤ fundToPeriodIScore fundPRep pi.termPeriod ∧
    sumInt (pi'.preps.map PRep.wage) ≤ fundToPeriodIScore fundWage pi.termPeriod := by
  simp only [calculateReward_eq]
  exact ⟨prepRewards_le pi wf _ minBond _ (fund_nonneg fundPRep pi.offsetLimit hP),
    wages_le pi wf _ minBond _ (fund_nonneg fundWage pi.offsetLimit hW)⟩

/-- For one P-Rep: whatever list of accumulated votes the voters hold for it, if they add up to at
    most the P-Rep's `accumulatedVoted`, the floor shares add up to at most its voter reward. -/
theorem voter_rewards_le_prep_voter_reward (avs : List Int) (VR AV : Int) (hVR : 0 ≤ VR) (hAV : 0 < AV)
    (hsum : sumInt avs ≤ AV) : sumInt (avs.map (fun av => av * VR / AV)) ≤ VR :=
  Proofs.floor_shares_le_total avs VR AV hVR hAV hsum

/-- Summed over all voters and all P-Reps (maps keyed by address, any number of entries):
    the voters' rewards are bounded by the sum of the P-Reps' voter rewards. -/
theorem voters_total_le_voter_rewards (elected : Nat) (ps : List PRep) (E : Votes)
    (hnd : (ps.map (·.owner)).Nodup)
    (hpos : ∀ p ∈ ps, p.isRewardable elected = true → 0 < p.accVoted ∧ 0 ≤ p.voterReward)
    (hsum : ∀ p ∈ ps, p.isRewardable elected = true → sumInt ((votesFor E p.owner).map (·.2)) ≤ p.accVoted) :
    sumInt (E.map (shareIn ps elected)) ≤
      sumInt (ps.map (fun p => if p.isRewardable elected then p.voterReward else 0)) :=
  voter_side elected ps E hnd hpos hsum

/-- Accumulation identities for one P-Rep over its vote events `(isBond, amount, offset)`,
    `runVotes` = repeated `PRep.ApplyVote` with period `offsetLimit − offset`:
    `accumulatedVoted` grows by Σ amount·(L − offset), and `accumulatedPower` stays non-negative
    as long as offsets do not decrease, stay in the term and the power is never negative
    (start: `InitAccumulated`, i.e. `power·(L+1) = power·(L − (−1))`). -/
theorem accumulation_identities (L br : Int) (evs : List (Bool × Int × Int)) (p : PRep)
    (hL : -1 ≤ L) (hp : 0 ≤ p.power) (hinit : p.accPower = p.power * (L + 1))
    (hv : ValidFrom L br (-1) p evs) :
    0 ≤ (runVotes L br p evs).accPower ∧
    (runVotes L br p evs).accVoted = p.accVoted + sumInt (evs.map (fun e => e.2.1 * (L - e.2.2))) := by
  refine ⟨runVotes_accPower_nonneg L br evs p (-1) hL hp ?_ hv, runVotes_accVoted L br evs p⟩
  rw [hinit, Int.sub_neg]; exact Int.le_refl _

/-- Accumulation identity, voter side (`Voter.ApplyVoting` + `Voter.ApplyEvent` as driven by
    `processVoterReward`), for every input, voter `v` and P-Rep `k`: the accumulated votes `v` holds for
    `k` are (base delegation + base bond to `k`)·(L+1) + Σ over v's vote events of (votes to k)·(L − offset)
    — the same terms `PRep.ApplyVote` adds to `accumulatedVoted` (`accumulation_identities`). -/
theorem voter_accumulation_identity (i : Input) (v k : Nat) :
    votesTo k (voterAV i v) =
      (votesTo k (lookupVotes i.delegating v) + votesTo k (lookupVotes i.bonding v)) * ((i.offsetLimit : Int) + 1) +
      evSum k (i.offsetLimit : Int) (eventsOf i.events v) :=
  voterAV_votesTo i v k

/-- The bound under hypotheses on the state *after* `processEvents` (`TermWF`: non-negative
    accumulated power of the elected, valid commission rates, distinct owners, at most
    `electedPRepCount` ranked entries, non-negative funds, and for every rewardable P-Rep the voters'
    accumulated votes add up to at most its `accumulatedVoted > 0`).  `TermWF` is *derived* from the
    raw input by `state_wf_of_input_wf`; the end-to-end statement is `total_credited_le_budget`. -/
theorem total_credited_le_budget_of_state_wf (i : Input) (r : Result) (hcalc : calculate i = some r)
    (wf : TermWF i) : r.totalCredited ≤ i.budget := by
  have hT := fund_nonneg i.iprepFund i.offsetLimit wf.funds.1
  have hW := fund_nonneg i.iwageFund i.offsetLimit wf.funds.2
  rw [(calculate_spec i r hcalc).2]
  -- no elected P-Rep: nothing is credited
  refine ite_both (· ≤ _) (Int.add_nonneg hT hW) ?_
  obtain ⟨hel, hlim, _⟩ := cfg_fields (cfg_after i)
  have hol : (prepInfoAfterEvents i).termPeriod = (i.offsetLimit : Int) + 1 := by
    rw [PRepInfo.termPeriod, hlim]
  have hp : sumInt ((finalPRepInfo i).preps.map fun p => p.commission + p.voterReward) ≤ _ ∧
      sumInt ((finalPRepInfo i).preps.map PRep.wage) ≤ _ :=
    prep_rewards_le_fund (prepInfoAfterEvents i) wf.prep i.iprepFund i.iwageFund i.minBond wf.funds.1 wf.funds.2
  rw [hol] at hp
  obtain ⟨hp1, hp2⟩ := hp
  have hv := voters_le _ wf.prep wf.nodup _ hel i.iprepFund i.iwageFund i.minBond wf.funds.1
    (allVotes i) wf.votedPos wf.votesLe
  rw [allVotes, sumInt_flatten_map] at hv
  -- credited = Σ (commission + wage) + Σ voters ≤ Σ (commission + voter reward) + Σ wage
  rw [sumInt_map_add]
  rw [sumInt_map_add] at hp1
  refine Int.le_trans (Int.add_le_add_left hv _) ?_
  rw [Int.add_right_comm]
  exact Int.add_le_add hp1 hp2

/-- **(i) P-Rep side bookkeeping through the map `preps[owner]`** (`setPRep`/`getPRep`), for every
    input and every address `k`, no hypotheses: after `processEvents` the entry of `k` (`entryOf`: the
    entry stored for `k`, or the zero entry `ApplyVote` would create) is — up to its status, which
    only `SetStatus` touches — the entry `loadPRepInfo` had for `k` with `PRep.ApplyVote` applied once
    per vote to `k` in the event list, in order, with period `offsetLimit − offset`
    (`voteEvents k` = those votes as `(isBond, amount, offset)`).  In particular
    `accumulatedVoted(k) = accumulatedVoted₀(k) + Σ amount·(L − offset)`. -/
theorem prep_side_bookkeeping (i : Input) (k : Nat) :
    (∃ s, entryOf (prepInfoAfterEvents i) k =
      setSt s (runVotes (i.offsetLimit : Int) i.br (entryOf (loadPRepInfo i) k) (voteEvents k i.events))) ∧
    (entryOf (prepInfoAfterEvents i) k).accVoted = (entryOf (loadPRepInfo i) k).accVoted +
      sumInt ((voteEvents k i.events).map (fun e => e.2.1 * ((i.offsetLimit : Int) - e.2.2))) := by
  obtain ⟨s, hs⟩ := entryOf_after i k
  refine ⟨⟨s, hs⟩, ?_⟩
  rw [hs]
  exact runVotes_accVoted _ _ _ _

/-- **(ii) summation over the voter set**: if the Delegating and the Bonding records have one entry
    per voter, then for every address `k` the accumulated votes of all voters `processVoterReward`
    visits (`allVotes`) add up to `baseVotes k · (L+1)` (the voters' base delegation + bond to `k`)
    plus Σ amount·(L − offset) over *all* votes to `k` in the event list — every event is counted for
    exactly one voter, its sender — i.e. exactly what (i) adds to `accumulatedVoted(k)`. -/
theorem voters_total_eq_events (i : Input) (k : Nat) (hd : (i.delegating.map (·.1)).Nodup)
    (hb : (i.bonding.map (·.1)).Nodup) :
    votesTo k (allVotes i) = baseVotes i k * ((i.offsetLimit : Int) + 1) +
      sumInt ((voteEvents k i.events).map (fun e => e.2.1 * ((i.offsetLimit : Int) - e.2.2))) :=
  votesTo_allVotes i k hd hb

/-- (i)+(ii): for every address `k` the gap between the P-Rep's `accumulatedVoted` and what all
    voters together accumulated for `k` is the same after the events as in the loaded state — every
    vote event adds the same amount·(L − offset) on both sides.  So Σ_voters = `accumulatedVoted(k)`
    exactly when the loaded state is exactly consistent, and Σ_voters ≤ `accumulatedVoted(k)` whenever
    `baseVotes k·(L+1) ≤ accumulatedVoted₀(k)`. -/
theorem voted_minus_voters_conserved (i : Input) (k : Nat) (hd : (i.delegating.map (·.1)).Nodup)
    (hb : (i.bonding.map (·.1)).Nodup) :
    (entryOf (prepInfoAfterEvents i) k).accVoted - votesTo k (allVotes i) =
      (entryOf (loadPRepInfo i) k).accVoted - baseVotes i k * ((i.offsetLimit : Int) + 1) := by
  rw [(prep_side_bookkeeping i k).2, voters_total_eq_events i k hd hb]
  exact Int.add_sub_add_right ..

/-- **(iii) the state after `processEvents` is well-formed whenever the raw input is**: all of
    `TermWF` — clean reward fields, non-negative accumulated power of the elected, commission rates
    in range, distinct owners, at most `electedPRepCount` entries ranked below it, non-negative funds,
    `accumulatedVoted > 0` and Σ_voters accumulated votes ≤ `accumulatedVoted` for every rewardable
    P-Rep — follows from the decidable predicate `InputWF` on the reward database and the event list
    (see its definition in Proofs/C35Input.lean). -/
theorem state_wf_of_input_wf (i : Input) (wf : InputWF i) : TermWF i := by
  have hel := (cfg_fields (cfg_after i)).1
  have hnd := wf.2.2.2.2.1
  have hinE : ∀ p : PRep, p.inElected i.elected = true → p.rank < i.elected := by
    intro p h
    simp only [PRep.inElected, Bool.and_eq_true, decide_eq_true_eq] at h
    exact h.2
  have hrw : ∀ p : PRep, p.isRewardable i.elected = true → p.rank < i.elected ∧ 0 < p.accPower := by
    intro p h
    simp only [PRep.isRewardable, Bool.and_eq_true, decide_eq_true_eq] at h
    exact ⟨h.1.2, h.2⟩
  refine ⟨⟨?_, ?_, ?_, ?_, ?_⟩, ?_, ?_, ?_, ?_⟩
  · intro p hp; exact (final_facts i wf p hp).1
  · intro p hp hin
    rw [hel] at hin
    exact ((final_facts i wf p hp).2.2 (hinE p hin)).1
  · intro p hp; exact (final_facts i wf p hp).2.1
  · rfl
  · rw [hel]
    exact count_after i hnd
  · exact nodup_after i hnd
  · exact ⟨rateMul_nonneg _ _ wf.2.2.1 wf.2.1, rateMul_nonneg _ _ wf.2.2.2.1 wf.2.1⟩
  · intro p hp hr
    obtain ⟨h1, h2⟩ := hrw p hr
    exact Int.lt_of_lt_of_le h2 ((final_facts i wf p hp).2.2 h1).2.1
  · intro p hp hr
    obtain ⟨h1, _⟩ := hrw p hr
    -- `votesTo`, in which `final_facts` concludes, unfolds to the sum `votesLe` is stated with
    exact ((final_facts i wf p hp).2.2 h1).2.2

/-- **Rewards never exceed the term's budget.**  For every input (base reward database + event
    list of one term) that satisfies `InputWF` and for which `iiss4Reward.Calculate` succeeds, the
    total I-Score credited to P-Reps and voters is at most
    `fundToPeriodIScore(Iprep) + fundToPeriodIScore(Iwage)`.
    `InputWF i` is a decidable condition on the RAW input only:
    `0 ≤ br`, `0 ≤ iglobal`, `0 ≤ iprep`, `0 ≤ iwage`; one Voted record per owner, commission rate in
    [0, 10000]; one Delegating / one Bonding record per voter; vote-event offsets non-decreasing and
    ≤ `offsetLimit`; for every possible P-Rep address the running totals `bonded` and
    `delegated+bonded` (Voted record + the votes of the event list, in order) never go negative;
    Σ_voters (base delegation + bond to `k`) ≤ `delegated+bonded` of `k`'s Voted record (0 if none).
    (The last two are conditions on the aggregated vote data; `input_wf_of_database_wf` derives them
    from per-voter conditions and the success of `UpdateVoting`, giving
    `total_credited_le_budget_consistent_db`.) -/
theorem total_credited_le_budget (i : Input) (r : Result) (hcalc : calculate i = some r)
    (wf : InputWF i) : r.totalCredited ≤ i.budget :=
  total_credited_le_budget_of_state_wf i r hcalc (state_wf_of_input_wf i wf)

/-- `Delegating.ApplyVotes` / `Bonding.ApplyVotes` on well-formed records (one entry per target, no
    negative amount; deltas name each target once): when it succeeds the result is well-formed and for
    every target the new amount is the old amount plus the delta. -/
theorem apply_votes_adds_deltas (cur ds res : Votes) (hc : VotesOk cur) (hds : (ds.map (·.1)).Nodup)
    (h : applyVotes cur ds = some res) :
    VotesOk res ∧ ∀ k, votesTo k res = votesTo k cur + votesTo k ds :=
  applyVotes_spec cur ds res hc hds h

example : VotesOk [(0, 100), (1, 50)] ∧ ([((0:Nat), (-40:Int)), (1, 40)].map (·.1)).Nodup ∧
    applyVotes [(0, 100), (1, 50)] [(0, -40), (1, 40)] = some [(0, 60), (1, 90)] :=
  ⟨⟨by decide, by decide⟩, by decide, by decide⟩

/-- The aggregated conditions of `InputWF` (running Voted totals never negative; Voted ≥ what the
    voters hold) follow from `DatabaseWF` — per-voter conditions on the raw reward database: every
    Delegating / Bonding record has one entry per target and no negative amount, every vote event
    names each target once, and per address Σ_voters delegation ≤ `delegated`, Σ_voters bond ≤ `bonded`
    of the Voted record — together with the success of `VoteEvents.UpdateVoting` for every event
    sender (which `Calculate` checks itself: it returns an error otherwise). -/
theorem input_wf_of_database_wf (i : Input) (wf : DatabaseWF i)
    (hs : (eventSenders i.events).all (updateVotingOk i) = true) : InputWF i := by
  obtain ⟨h1, h2, h3, h4, h5, h6, hdn, hbn, hdr, hbr, hev, hoff, hcons⟩ := wf
  refine ⟨h1, h2, h3, h4, h5, h6, hdn, hbn, hoff, ?_, ?_⟩
  · intro k hk
    have hV := voterSet_nodup i hdn hbn
    apply totals_of_voters k (voterSet i) hV i.events
      (fun v => (lookupVotes i.delegating v, lookupVotes i.bonding v))
    · intro v; exact ⟨lookupVotes_ok _ hdr v, lookupVotes_ok _ hbr v⟩
    · exact hev
    · intro bb o f vs hm
      exact ⟨sender_mem_voterSet i bb o f vs hm,
        (updateVotingOk_eq i f).symm.trans (List.all_eq_true.mp hs f (mem_eventSenders hm))⟩
    · exact (hcons k hk).1
    · exact (hcons k hk).2
  · intro k hk
    have := hcons k hk
    unfold baseVotes
    rw [sumInt_map_add]
    exact Int.add_le_add this.1 this.2

/-- **Rewards never exceed the term's budget, for every well-formed reward database.**  If the base
    reward database and the event list of the term satisfy `DatabaseWF` (decidable, raw input only,
    per-record conditions — see `input_wf_of_database_wf`) and `iiss4Reward.Calculate` succeeds, the
    total I-Score credited is at most the term's budget. -/
theorem total_credited_le_budget_consistent_db (i : Input) (r : Result) (hcalc : calculate i = some r)
    (wf : DatabaseWF i) : r.totalCredited ≤ i.budget :=
  total_credited_le_budget_of_state_wf i r hcalc
    (state_wf_of_input_wf i (input_wf_of_database_wf i wf (calculate_spec i r hcalc).1))


/-! ### non-vacuity: a concrete term satisfying all hypotheses, with non-zero rewards -/

def exInput : Input :=
  { elected := 2, offsetLimit := 9, br := 500, iglobal := 3000000000, iprepRate := 7700, iwageRate := 1300,
    minBond := 10,
    voteds := [ { owner := 0, status := 0, delegated := 100, bonded := 20, rate := 1000, pubkey := true },
                { owner := 1, status := 0, delegated := 50, bonded := 0, rate := 0, pubkey := true } ],
    delegating := [(2, [(0, 100), (1, 50)])],
    bonding := [(0, [(0, 20)])],
    events := [Event.vote false 3 2 [(0, -40), (1, 40)]] }

example : (calculate exInput).isSome = true := by decide
example : ((calculate exInput).map Result.totalCredited) = some 19328702 ∧ exInput.budget = 20833333 := by decide

example : PRepWF (prepInfoAfterEvents exInput) :=
  ⟨by decide, by decide, by decide, by decide, by decide⟩

example : TermWF exInput :=
  ⟨⟨by decide, by decide, by decide, by decide, by decide⟩, by decide, by decide, by decide, by decide⟩

/-- non-vacuity of `InputWF`: the raw input above (two P-Reps, a delegator, a bonder, one
    re-delegation event; non-zero rewards) satisfies it -/
example : InputWF exInput := by decide

/-- non-vacuity of `DatabaseWF` -/
example : DatabaseWF exInput := by decide

example : (exInput.delegating.map (·.1)).Nodup ∧ (exInput.bonding.map (·.1)).Nodup := by decide

example : ValidFrom 9 500 (-1)
    { owner := 0, status := 0, delegated := 100, bonded := 20, rate := 0, pubkey := true, power := 120, accPower := 1200 }
    [(false, -40, 3), (true, 5, 3), (false, 7, 9)] := by
  simp only [ValidFrom]; decide

end Goloop.C35
