/-
  Props/C23 — property theorems for "The RLP codec round-trips every supported value and
  rejects malformed input".

  `WfTy ty`   : integer widths ≤ 64, map keys string/int/uint, no pointer to a type that has
                its own nil encoding ([]byte, slice, map, pointer).
  `HasTy ty v`: v is a Go value of type ty (ints within the width, [n]byte of length n, struct
                with one value per field, map entries strictly sorted by key = canonical form of
                a Go map).
-/
import Goloop.Proofs.C23
namespace Goloop.C23
open Goloop Goloop.Rlp

/-- Decoding the encoding of any well-typed value yields exactly that value and leaves any
    trailing bytes untouched (`UnmarshalFromBytes(MarshalToBytes(v) ++ rest) = (v, rest)`). -/
theorem decode_encode (ty : Ty) (v : Val) (rest : Bytes) (hw : WfTy ty) (ht : HasTy ty v)
    (hl : (marshal v).length ≤ maxInt) :
    unmarshal ty (marshal v ++ rest) = some (v, rest) := by
  unfold unmarshal marshal at *
  rw [dec_enc.1 ty v ht hw _ rest ⟨hl, adm_top _ _⟩]

/-- The same inside any enclosing list reader that still has the bytes of the encoding
    (elements of lists, struct fields, map keys/values are decoded through such readers). -/
theorem decode_encode_nested (ty : Ty) (v : Val) (r : Rd) (rest : Bytes) (hw : WfTy ty) (ht : HasTy ty v)
    (hl : (enc v).length ≤ maxInt) (ha : Adm r (enc v).length rest) :
    dec ty r (enc v ++ rest) = .ok v rest := dec_enc.1 ty v ht hw r rest ⟨hl, ha⟩

/-- non-vacuity: a nested struct type (ints, strings, slice, pointer, big int, byte array, map) and a
    value of it satisfy the hypotheses. -/
example :
    let ty : Ty := .struct [.uint 8, .int 16, .slice .str, .ptr (.int 64), .ptr .big, .barr 2,
      .map .str .bytes, .bytes, .arr 2 .bool]
    let v : Val := .list [.uint 200, .int (-300), .list [.str [0x61], .str []], .ptr (.int (-1)), .nil,
      .bytes [1, 2], .map [(.str [0x61], .bytes []), (.str [0x61, 0], .nil)], .nil, .list [.bool true, .bool false]]
    WfTy ty ∧ HasTy ty v := by
  simp only [WfTy, WfTys, HasTy, HasTys, nullable, isKeyTy, keyLt, bytesLt, List.pairwise_cons, List.mem_cons,
    List.not_mem_nil, forall_eq_or_imp, List.Pairwise.nil, false_imp_iff, implies_true]
  decide

/-- Corollary: encoding is injective on well-typed values (two values with the same bytes are equal). -/
theorem encode_injective (ty : Ty) (v w : Val) (hw : WfTy ty) (hv : HasTy ty v) (hw' : HasTy ty w)
    (hl : (marshal v).length ≤ maxInt) (h : marshal v = marshal w) : v = w := by
  have h1 := decode_encode ty v [] hw hv hl
  have h2 := decode_encode ty w [] hw hw' (h ▸ hl)
  rw [h, h2] at h1
  simpa using h1.symm

/-- nil (`f8 00`), the empty byte string / string (`80`) and the empty list / struct / map (`c0`)
    have three different encodings. -/
theorem nil_vs_empty_encodings :
    enc .nil = [0xf8, 0] ∧ enc (.bytes []) = [0x80] ∧ enc (.str []) = [0x80] ∧
      enc (.list []) = [0xc0] ∧ enc (.map []) = [0xc0] :=
  ⟨rfl, rfl, rfl, rfl, rfl⟩

/-- and the decoder gives them back as different values: nil vs empty `[]byte`, nil vs empty slice,
    nil vs empty map, nil pointer vs pointer to a value. -/
theorem nil_vs_empty_decoded (e : Ty) (he : WfTy e) :
    unmarshal .bytes (marshal .nil) = some (.nil, []) ∧
    unmarshal .bytes (marshal (.bytes [])) = some (.bytes [], []) ∧
    unmarshal (.slice e) (marshal .nil) = some (.nil, []) ∧
    unmarshal (.slice e) (marshal (.list [])) = some (.list [], []) ∧
    unmarshal (.map .str e) (marshal .nil) = some (.nil, []) ∧
    unmarshal (.map .str e) (marshal (.map [])) = some (.map [], []) ∧
    unmarshal (.ptr .str) (marshal .nil) = some (.nil, []) ∧
    unmarshal (.ptr .str) (marshal (.ptr (.str []))) = some (.ptr (.str []), []) := by
  have key : ∀ ty v, WfTy ty → HasTy ty v → (marshal v).length ≤ maxInt →
      unmarshal ty (marshal v) = some (v, []) := fun ty v hw ht hl => by
    have := decode_encode ty v [] hw ht hl
    rwa [List.append_nil] at this
  exact ⟨key _ _ trivial trivial (by decide), key _ _ trivial trivial (by decide),
    key _ _ he trivial (by decide), key _ _ he (fun _ h => nomatch h) (by decide),
    key _ _ ⟨rfl, trivial, he⟩ trivial (by decide),
    key _ _ ⟨rfl, trivial, he⟩ ⟨fun _ h => (nomatch h), List.Pairwise.nil⟩ (by decide),
    key _ _ ⟨rfl, trivial⟩ trivial (by decide), key _ _ ⟨rfl, trivial⟩ trivial (by decide)⟩

/-- "where the format allows": a pointer to a type with its own nil encoding is the one place where
    the distinction is lost — a nil `*[]byte` comes back as a pointer to a nil slice.  (This is why
    `WfTy` excludes such pointers; the hypothesis of `decode_encode` is necessary.) -/
theorem ptr_to_nullable_loses_nil :
    unmarshal (.ptr .bytes) (marshal .nil) = some (.ptr .nil, []) := by
  have := readBytes_encodeNil (adm_top encodeNil [])
  simp only [List.append_nil] at this
  simp only [unmarshal, marshal, enc, dec, this]

/-- The encoding of a map does not depend on the order in which its entries are enumerated: any
    two enumerations of the same entries (distinct keys of one key kind) give the same bytes. -/
theorem encode_deterministic (c : KeyClass) (kvs kvs' : List (Val × Val)) (hp : kvs.Perm kvs')
    (hnd : kvs.Pairwise (fun a b => a.1 ≠ b.1)) (hc : ∀ p ∈ kvs, classOf p.1 = some c) :
    marshal (.map kvs) = marshal (.map kvs') := by
  simp only [marshal, enc, encKVs_eq_map]
  rw [sortKVs_perm c (hp.map fun p => (p.1, enc p.1 ++ enc p.2)) (List.pairwise_map.mpr hnd) (List.forall_mem_map.mpr hc)]

/-- the hypotheses of `encode_deterministic` can be met: two entries with string keys, in the two orders -/
example : [(Val.str [2], Val.uint 1), (Val.str [1], Val.uint 2)].Perm [(Val.str [1], Val.uint 2), (Val.str [2], Val.uint 1)] ∧
    [(Val.str [2], Val.uint 1), (Val.str [1], Val.uint 2)].Pairwise (fun a b => a.1 ≠ b.1) ∧
    (∀ p ∈ [(Val.str [2], Val.uint 1), (Val.str [1], Val.uint 2)], classOf p.1 = some KeyClass.s) := by
  exact ⟨List.Perm.swap _ _ _, List.pairwise_pair.mpr fun h => absurd (Val.str.inj h) (by decide),
    List.forall_mem_cons.mpr ⟨rfl, List.forall_mem_cons.mpr ⟨rfl, nofun⟩⟩⟩

/-- ... and it is the concatenation of `key value` in strictly increasing key order. -/
theorem encode_map_sorted (kvs : List (Val × Val))
    (h : kvs.Pairwise (fun a b => keyLt a.1 b.1 = true)) :
    marshal (.map kvs) = encodeList (encPairs kvs) := enc_map_sorted kvs h

private theorem top_readBytes (x rest : Bytes) (hx : x.length ≤ 55) :
    readBytes { lim := 0, hard := 0, maxSB := (encodeBytes x ++ rest).length } (encodeBytes x ++ rest) = .ok x rest :=
  readBytes_encodeBytes x
    ⟨Nat.le_trans (encodeBytes_short x hx) (Nat.le_trans (Nat.succ_le_succ hx) (by decide)), adm_top _ _⟩

/-- An unsigned integer that does not fit the target width is rejected. -/
theorem decode_rejects_uint_overflow (w n : Nat) (rest : Bytes) (hn : 2 ^ w ≤ n) (h64 : n < 2 ^ 64) :
    unmarshal (.uint w) (marshal (.uint n) ++ rest) = none := by
  simp only [unmarshal, marshal, enc, dec, top_readBytes _ _ (Nat.le_trans (C24.uint64_length n h64).2 (by decide))]
  rw [C24.uint64_roundtrip n h64]
  dsimp only
  rw [if_neg (Nat.not_lt.mpr hn)]

/-- A signed integer that does not fit the target width is rejected. -/
theorem decode_rejects_int_overflow (w : Nat) (i : Int) (rest : Bytes)
    (hi : i < -(2 : Int) ^ (w - 1) ∨ (2 : Int) ^ (w - 1) ≤ i)
    (h64 : -(2 : Int) ^ 63 ≤ i ∧ i < (2 : Int) ^ 63) :
    unmarshal (.int w) (marshal (.int i) ++ rest) = none := by
  have hnot : ¬ inIntRange w i = true := fun h =>
    hi.elim (Int.not_lt.mpr (inIntRange_iff.mp h).1) (Int.not_le.mpr (inIntRange_iff.mp h).2)
  simp only [unmarshal, marshal, enc, dec, top_readBytes _ _ (Nat.le_trans (C24.int64_length i h64).2 (by decide))]
  rw [C24.int64_roundtrip i h64]
  dsimp only
  rw [if_neg hnot]

/-- width 8: 256 meets both hypotheses of `decode_rejects_uint_overflow`, 128 meets `hi` of
    `decode_rejects_int_overflow` (its `h64` is not stated here) -/
example : (2 : Nat) ^ 8 ≤ 256 ∧ 256 < 2 ^ 64 ∧ ((2 : Int) ^ (8 - 1) ≤ 128) := by decide

/-- Whatever bytes are decoded into an integer/bool target, an accepted value is within the width. -/
theorem decoded_scalar_in_range (b rest : Bytes) (v : Val) (w : Nat) :
    (unmarshal (.uint w) b = some (v, rest) → ∃ n, v = .uint n ∧ n < 2 ^ w) ∧
    (unmarshal (.int w) b = some (v, rest) → ∃ i, v = .int i ∧ -(2 : Int) ^ (w - 1) ≤ i ∧ i < (2 : Int) ^ (w - 1)) ∧
    (unmarshal .bool b = some (v, rest) → ∃ x, v = .bool x) := by
  refine ⟨fun h => ?_, fun h => ?_, fun h => ?_⟩
  all_goals
    have hd := unmarshal_eq_some h
    unfold dec at hd
    generalize readBytes _ b = y at hd
    rcases y with ⟨bs, i⟩ | _ | _ | _ <;> try cases hd
    dsimp only at hd
  · generalize C24.safeBytesToUint64 bs = z at hd
    rcases z with _ | n <;> dsimp only at hd
    · cases hd
    · by_cases hn : n < 2 ^ w
      · rw [if_pos hn] at hd; cases hd; exact ⟨n, rfl, hn⟩
      · rw [if_neg hn] at hd; cases hd
  · generalize C24.safeBytesToInt64 bs = z at hd
    rcases z with _ | n <;> dsimp only at hd
    · cases hd
    · by_cases hn : inIntRange w n = true
      · rw [if_pos hn] at hd; cases hd; exact ⟨n, rfl, inIntRange_iff.mp hn⟩
      · rw [if_neg hn] at hd; cases hd
  · generalize C24.safeBytesToUint64 bs = z at hd
    rcases z with _ | n <;> dsimp only at hd
    · cases hd
    · by_cases h0 : n = 0
      · rw [if_pos h0] at hd; cases hd; exact ⟨_, rfl⟩
      · by_cases h1 : n = 1
        · rw [if_neg h0, if_pos h1] at hd; cases hd; exact ⟨_, rfl⟩
        · rw [if_neg h0, if_neg h1] at hd; cases hd

/-- A string item whose declared size is larger than the remaining input is rejected, for every
    target type that is read as a byte string (canonical header, any size up to MaxInt). -/
theorem decode_rejects_string_size_beyond_input (n : Nat) (q : Bytes) (hn : n ≤ maxInt) (hq : q.length < n) (w k : Nat) :
    unmarshal .str (encodeLen 0x80 n ++ q) = none ∧
    unmarshal .bytes (encodeLen 0x80 n ++ q) = none ∧
    unmarshal (.uint w) (encodeLen 0x80 n ++ q) = none ∧
    unmarshal (.int w) (encodeLen 0x80 n ++ q) = none ∧
    unmarshal .bool (encodeLen 0x80 n ++ q) = none ∧
    unmarshal (.barr k) (encodeLen 0x80 n ++ q) = none ∧
    unmarshal (.ptr .big) (encodeLen 0x80 n ++ q) = none := by
  have hra : readAll { lim := 0, hard := 0, maxSB := (encodeLen 0x80 n ++ q).length } n q = .err :=
    if_neg (Nat.not_le.mpr (Nat.lt_of_le_of_lt (Nat.sub_le _ _) hq))
  have := (readBytes_header n hn (adm_top _ q) (.inr hra)).trans hra
  refine ⟨?_, ?_, ?_, ?_, ?_, ?_, ?_⟩ <;> simp only [unmarshal, dec, this]

/-- A list item (slice, array, struct, map target) whose declared size is larger than the
    remaining input is rejected — whatever its content is. -/
theorem decode_rejects_list_size_beyond_input (n : Nat) (q : Bytes) (hn : n ≤ maxInt) (hq : q.length < n)
    (e k : Ty) (fs : List Ty) (m : Nat) :
    unmarshal (.slice e) (encodeLen 0xC0 n ++ q) = none ∧
    unmarshal (.arr m e) (encodeLen 0xC0 n ++ q) = none ∧
    unmarshal (.struct fs) (encodeLen 0xC0 n ++ q) = none ∧
    unmarshal (.map k e) (encodeLen 0xC0 n ++ q) = none := by
  obtain ⟨h1, h2, h3, h4⟩ := dec_list_beyond_input n hn (adm_top (encodeLen 0xC0 n) q) hq e k fs m
  exact ⟨by rw [unmarshal, h1], by rw [unmarshal, h2], by rw [unmarshal, h3], by rw [unmarshal, h4]⟩

/-- `hn` and `hq` of the two theorems above can be met: a declared size of 56 in front of 3 bytes -/
example : (56 : Nat) ≤ maxInt ∧ ([1, 2, 3] : Bytes).length < 56 := by decide

/-- The decoder is a total function: every byte string is mapped to a value with the remaining
    bytes or to an error; there is no third outcome (the Go counterpart: no panic). -/
theorem decode_total (ty : Ty) (b : Bytes) :
    unmarshal ty b = none ∨ ∃ v rest, unmarshal ty b = some (v, rest) := by
  cases h : unmarshal ty b with
  | none => left; rfl
  | some p => right; exact ⟨p.1, p.2, rfl⟩

/-- Readers are limited to the enclosing list's size: decoding through any chain of list readers
    (arbitrary input, any type) never consumes bytes beyond the end of the innermost list (`lim`) nor
    beyond any outer list or the buffer (`hard`), also when the result is the nil class. -/
theorem decode_within_enclosing_lists (ty : Ty) (r : Rd) (inp inp' : Bytes) (v : Val)
    (h : dec ty r inp = .ok v inp' ∨ dec ty r inp = .nil inp') :
    inp'.length < inp.length ∧ (∃ pre, inp = pre ++ inp') ∧ r.lim.toNat ≤ inp'.length ∧ r.hard ≤ inp'.length := by
  have hg := dec_good ty r inp
  have hp : Prog r.floor inp inp' := by
    rcases h with h | h <;> rw [h] at hg <;> cases hg <;> assumption
  exact ⟨hp.1, hp.2.1.imp fun _ => Eq.symm, Nat.le_trans (Nat.le_max_left _ _) hp.2.2, Nat.le_trans (Nat.le_max_right _ _) hp.2.2⟩

/-- Whatever the input, an accepted decode consumed a non-empty prefix of it and returns exactly
    the remaining bytes: the decoder never reads beyond (or invents) input. -/
theorem decode_consumes_prefix (ty : Ty) (b rest : Bytes) (v : Val) (h : unmarshal ty b = some (v, rest)) :
    ∃ pre, pre ≠ [] ∧ b = pre ++ rest := by
  obtain ⟨hlt, ⟨pre, rfl⟩, -⟩ := decode_within_enclosing_lists ty _ b rest v (.inl (unmarshal_eq_some h))
  refine ⟨pre, ?_, rfl⟩
  rintro rfl
  exact Nat.lt_irrefl _ hlt

/-- The iteration bounds used by the model for the slice and map loops (`len(input)+1`) never cut
    a decode short: any larger bound gives the same result. -/
theorem loop_bounds_never_bind (e k : Ty) (c : Rd) (inp : Bytes) (fuel : Nat) (hf : inp.length < fuel) :
    decElems (fun i => dec e c i) (zero e) (inp.length + 1) inp = decElems (fun i => dec e c i) (zero e) fuel inp ∧
    decEntries (fun i => dec k c i) (fun i => dec e c i) (zero e) (inp.length + 1) inp =
      decEntries (fun i => dec k c i) (fun i => dec e c i) (zero e) fuel inp :=
  ⟨decElems_fuel (dec_good e c) (zero e) _ _ inp (Nat.lt_succ_self _) hf,
   decEntries_fuel (dec_good k c) (dec_good e c) (zero e) _ _ inp (Nat.lt_succ_self _) hf⟩

end Goloop.C23
