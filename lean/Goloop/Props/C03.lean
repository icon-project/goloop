/-
  Props/C03 — "Write-ahead log recovers exactly the durable prefix after any crash"
  (consensus/wal.go, repaired by fixes/F2_wal_repair.diff, F2b_wal_torn_header_eof.diff and
  F2c_wal_repair_crash_safe_order.diff).

  Vocabulary (Model/C03.lean):
    `Op`        write p | sync | shift | housekeep | crashRecover k | restart | crashAt p js
                `crashAt p js`: the writer dies at crash point `p` (while appending, or INSIDE Shift
                after j of its file-system effects); then one recovery attempt per element of `js`
                dies INSIDE CloseAndRepair after that many effects; then a recovery completes.
                `Op.isCrash c` = c is crashRecover or crashAt: "any crash".
    `stepOp`    one step of the byte-exact model; for crash ops/restart the second
                component is the record list the recovery loop returned
    `runG`      runs a history and, next to it, the bookkeeping `Ghost`:
                `log` = records appended and not lost by an earlier crash,
                `durable` = the prefix of `log` that was synced (or survived a crash)
    `Op.plain`  the histories covered: all ops (housekeeping rounds with their retention included),
                payloads < 2^32-8 bytes; `Ghost.retired` counts the records retention removed
  `crc` is an arbitrary function: the crash theorems need no assumption about the checksum (a crash only
  truncates); the theorems about altered bytes carry theirs as the hypothesis `CrcRejects`.
-/
import Goloop.Proofs.C03
namespace Goloop.C03
open Goloop.C03.Proofs

/-- The bookkeeping is observable: a clean shutdown followed by a read returns exactly `log`. -/
theorem log_is_clean_read (crc : Bytes → UInt32) (cfg : Cfg) (ops : List Op)
    (hplain : ∀ op ∈ ops, op.plain) :
    let st := runG crc (Sys.init cfg) {} ops
    (stepOp crc st.1 .restart).2 = st.2.log := by
  intro st
  have hinv := runG_inv (init_inv crc cfg) hplain
  obtain ⟨h1, h2, _⟩ := recoverReopen_spec st.1.cfg 0 (close_pre hinv) hinv.small
  rw [List.take_length] at h1
  exact h2.eq_of_length_le h1.length_le

/-- … and right after a `sync` (or `shift`) everything appended so far is durable. -/
theorem durable_after_sync (crc : Bytes → UInt32) (cfg : Cfg) (ops : List Op) :
    (runG crc (Sys.init cfg) {} (ops ++ [.sync])).2.durable = (runG crc (Sys.init cfg) {} (ops ++ [.sync])).2.log
    ∧ (runG crc (Sys.init cfg) {} (ops ++ [.shift])).2.durable = (runG crc (Sys.init cfg) {} (ops ++ [.shift])).2.log := by
  -- `stepGhost` sets `nsynced := log.length` on `sync` and `shift`, and `durable` is `log.take nsynced`
  simp [runG_append, runG, stepGhost, Ghost.durable]

/-- After any history (earlier crashes of every kind included) and ANY crash `c` —
    while appending with an arbitrary `k`-byte prefix of the unsynced bytes kept, inside Shift after
    any number of its effects, followed by any number of recovery attempts that die inside
    CloseAndRepair after any number of its effects — the recovery that completes returns a prefix of
    the appended records that contains every durable record, and only records that were appended. -/
theorem recover_prefix (crc : Bytes → UInt32) (cfg : Cfg) (ops : List Op) (c : Op) (hc : c.isCrash)
    (hplain : ∀ op ∈ ops, op.plain) :
    let st := runG crc (Sys.init cfg) {} ops
    let r := (stepOp crc st.1 c).2
    r <+: st.2.log ∧ st.2.durable <+: r ∧ ∀ x ∈ r, Op.write x ∈ ops := by
  intro st r
  obtain ⟨h1, h2, _⟩ := recovery_spec (runG_inv (init_inv crc cfg) hplain) (.inl hc)
  exact ⟨h2, h1, fun x hx => (runG_log_sub (init_inv crc cfg) hplain x (h2.subset hx)).resolve_left List.not_mem_nil⟩

example : ∀ op ∈ [Op.write [1, 2], .sync, .shift, .housekeep, .write [], .crashRecover 3, .write [7], .restart,
    .crashAt (.inShift 2 0) [0, 1], .write [8], .crashAt (.appending 5) [3]], op.plain := by
  simp only [List.forall_mem_cons, List.not_mem_nil, false_imp_iff, implies_true, Op.plain, List.length_cons,
    List.length_nil]
  decide

example : (Op.crashAt (.inShift 1 4) [1, 0, 2]).isCrash ∧ (Op.crashRecover 7).isCrash :=
  ⟨trivial, trivial⟩

/-- After recovery the files hold exactly the frames of the returned records (the torn tail is gone)
    and nothing is buffered: the log is ready for appending. -/
theorem recover_leaves_whole_frames (crc : Bytes → UInt32) (cfg : Cfg) (ops : List Op) (c : Op) (hc : c.isCrash)
    (hplain : ∀ op ∈ ops, op.plain) :
    let st := runG crc (Sys.init cfg) {} ops
    let s := stepOp crc st.1 c
    s.1.files.flatten = frames crc s.2 ∧ s.1.buf = [] := by
  intro st s
  obtain ⟨_, _, hinv'⟩ := recovery_spec (runG_inv (init_inv crc cfg) hplain) (.inl hc)
  rw [stepGhost_recovery (.inl hc)] at hinv'
  have hbuf : s.1.buf = [] := crashOp_buf crc st.1 c hc
  refine ⟨?_, hbuf⟩
  rw [Writer.files, List.flatten_concat, ← hinv'.stream, hbuf, List.append_nil]

/-- Records appended (and synced) after a recovery are returned, after the
    recovered ones, by the next recovery — whatever the second crash point. -/
theorem recover_then_append (crc : Bytes → UInt32) (cfg : Cfg) (ops : List Op) (c c' : Op)
    (hc : c.isCrash) (hc' : c'.isCrash)
    (ps : List Bytes) (hplain : ∀ op ∈ ops, op.plain) (hps : ∀ p ∈ ps, p.length + 8 < 2 ^ 32) :
    let st := runG crc (Sys.init cfg) {} ops
    let s1 := stepOp crc st.1 c
    let w2 := run crc s1.1 (ps.map Op.write ++ [.sync])
    (stepOp crc w2 c').2 = s1.2 ++ ps := by
  intro st s1 w2
  obtain ⟨_, _, hinv1⟩ := recovery_spec (runG_inv (init_inv crc cfg) hplain) (.inl hc)
  have hpl : ∀ op ∈ ps.map Op.write ++ [.sync], op.plain :=
    List.forall_mem_append.mpr ⟨List.forall_mem_map.mpr hps, List.forall_mem_singleton.mpr trivial⟩
  have hinv2 := runG_inv hinv1 hpl
  rw [runG_fst, runG_append, runG_writes, stepGhost_recovery (.inl hc)] at hinv2
  obtain ⟨h1, h2, _⟩ := recovery_spec hinv2 (.inl hc')
  have h1' : (s1.2 ++ ps).take (s1.2 ++ ps).length <+: (stepOp crc w2 c').2 := h1
  rw [List.take_length] at h1'
  exact h2.eq_of_length_le h1'.length_le

example : ∀ p ∈ [[1, 2, 3], ([] : Bytes)], p.length + 8 < 2 ^ 32 := by decide

/-- **cycles.** A record that was durable at any point of a history is returned by every later
    recovery, after any number of further append/sync/shift/housekeeping/crash/recover cycles —
    except for the `retired` oldest records that housekeeping rounds removed in between together
    with their whole segment files (retention, see `retire_scope`). -/
theorem synced_never_lost (crc : Bytes → UInt32) (cfg : Cfg) (ops1 ops2 : List Op) (c : Op) (hc : c.isCrash)
    (h1 : ∀ op ∈ ops1, op.plain) (h2 : ∀ op ∈ ops2, op.plain) :
    let st1 := runG crc (Sys.init cfg) {} ops1
    let st2 := runG crc (Sys.init cfg) {} (ops1 ++ ops2)
    st1.2.durable.drop (st2.2.retired - st1.2.retired) <+: (stepOp crc st2.1 c).2
    ∧ st1.2.durable.drop (st2.2.retired - st1.2.retired) <+: st2.2.log := by
  intro st1 st2
  have hinv1 := runG_inv (init_inv crc cfg) h1
  obtain ⟨k, hk, hmono⟩ := runG_durable_mono hinv1 h2
  have hst2 : st2 = runG crc st1.1 st1.2 ops2 := runG_append crc ops1 ops2 _ _
  have hrec := recover_prefix crc cfg (ops1 ++ ops2) c hc (List.forall_mem_append.mpr ⟨h1, h2⟩)
  rw [← hst2] at hk hmono
  rw [hk, Nat.add_sub_cancel_left]
  exact ⟨hmono.trans hrec.2.1, hmono.trans (List.take_prefix _ _)⟩

/-- … and when no housekeeping round happens in between, nothing at all is lost. -/
theorem synced_never_lost_without_retention (crc : Bytes → UInt32) (cfg : Cfg) (ops1 ops2 : List Op)
    (c : Op) (hc : c.isCrash)
    (h1 : ∀ op ∈ ops1, op.plain) (h2 : ∀ op ∈ ops2, op.plain) (hnohk : ∀ op ∈ ops2, op ≠ .housekeep) :
    let st1 := runG crc (Sys.init cfg) {} ops1
    let st2 := runG crc (Sys.init cfg) {} (ops1 ++ ops2)
    st1.2.durable <+: (stepOp crc st2.1 c).2 := by
  intro st1 st2
  have h := (synced_never_lost crc cfg ops1 ops2 c hc h1 h2).1
  have hst2 : st2 = runG crc st1.1 st1.2 ops2 := runG_append crc ops1 ops2 _ _
  have hr : st2.2.retired = st1.2.retired := by
    rw [hst2]; exact runG_retired_eq crc _ _ hnohk
  have h' : st1.2.durable.drop (st2.2.retired - st1.2.retired) <+: (stepOp crc st2.1 c).2 := h
  rw [hr, Nat.sub_self, List.drop_zero] at h'
  exact h'

example : ∀ op ∈ [Op.write [5], .sync, .crashRecover 2, .crashAt (.inShift 3 0) [1]], op ≠ Op.housekeep := by
  simp only [List.mem_cons, List.not_mem_nil, or_false, ne_eq, forall_eq_or_imp, reduceCtorEq, not_false_eq_true,
    forall_eq, and_self]

/-- A housekeeping round does its shift / time-based sync (`hkBase`) and then only
    removes whole *oldest* segment files: the files afterwards are the files of `hkBase w` minus the
    first `j`; the tail file, the buffer and the durable length are untouched. -/
theorem retire_scope (w : Writer) :
    ∃ j, j ≤ (hkBase w).older.length
      ∧ w.housekeep.files = (hkBase w).files.drop j
      ∧ w.housekeep.head = (hkBase w).head + j
      ∧ w.housekeep.buf = (hkBase w).buf
      ∧ w.housekeep.synced = (hkBase w).synced := by
  obtain ⟨j, u, hj, he⟩ := housekeep_spec w
  rw [he]
  exact ⟨j, hj, (List.drop_append_of_le_length hj).symm, rfl, rfl, rfl⟩

/-- With `FileLimit ≤ TotalLimit` (true for every configuration in the repository) housekeeping
    never removes the segment the writer has open. -/
theorem housekeep_keeps_open_tail (w : Writer) (hcfg : w.cfg.fileLimit ≤ w.cfg.totalLimit)
    (hu : w.tailUnlinked = false) : w.housekeep.tailUnlinked = false :=
  housekeep_keeps_tail w hcfg hu

example : ({} : Cfg).fileLimit ≤ ({} : Cfg).totalLimit := by decide

/-- … over whole histories: the model never leaves the regime in which it describes the code
    (the flag `tailUnlinked` marks the one behaviour that is not modelled). -/
theorem history_keeps_open_tail (crc : Bytes → UInt32) (cfg : Cfg) (ops : List Op)
    (hcfg : cfg.fileLimit ≤ cfg.totalLimit) :
    (run crc (Sys.init cfg) ops).tailUnlinked = false :=
  (run_flags crc cfg hcfg ops _ (openWriter_flags cfg {})).2

/-- However many recovery attempts die inside CloseAndRepair, and after
    however many of its file-system effects each (`js`), the recovery that finally completes returns
    exactly what an undisturbed recovery would have returned. -/
theorem repair_resumable (crc : Bytes → UInt32) (cfg : Cfg) (ops : List Op) (p : CrashPoint) (js : List Nat)
    (hplain : ∀ op ∈ ops, op.plain) :
    let st := runG crc (Sys.init cfg) {} ops
    (stepOp crc st.1 (.crashAt p js)).2 = (stepOp crc st.1 (.crashAt p [])).2 := by
  intro st
  exact crashAt_resumable p js (runG_inv (init_inv crc cfg) hplain)

/-- What a crash inside Shift leaves, effect by effect: before the fsync (j = 0, 1) it is an ordinary
    crash of the appending writer; after the fsync (j = 2) a crash right after `sync`; after the
    creation of the next segment (j ≥ 3) a crash right after `shift`. -/
theorem crashInShift_cases (w : Writer) (j k : Nat) :
    (j < 2 → w.crashInShift j k = w.crash k)
    ∧ (j = 2 → w.crashInShift j k = w.sync.crash 0)
    ∧ (j > 2 → w.crashInShift j k = w.shift.crash 0) := by
  unfold Writer.crashInShift
  refine ⟨fun h => if_pos h, fun h => ?_, fun h => ?_⟩
  · rw [if_neg (Nat.not_lt.mpr (Nat.le_of_eq h.symm)), if_pos h]
  · rw [if_neg (Nat.not_lt.mpr (Nat.le_of_lt h)), if_neg (Nat.ne_of_gt h)]

/-- The stored bytes are the frames of the records `A` followed by ANY
    bytes `B` (an altered record and whatever follows it) on which the checksum does its job
    (`CrcRejects`: the stored CRC field differs from the CRC of the bytes the reader checks). Then the
    read loop returns exactly `A`: the altered record and everything behind it is never returned. -/
theorem altered_record_never_returned (crc : Bytes → UInt32) (A : List Bytes) (B : Bytes)
    (hA : ∀ p ∈ A, p.length + 8 < 2 ^ 32) (hB : CrcRejects crc B) :
    (readAll crc (frames crc A ++ B)).1 = A := by
  obtain ⟨e, he⟩ := readBytes_rejects crc B hB
  rw [readAll_frames_append hA he]

/-- … in particular for a record whose payload and/or checksum field were overwritten (by `p'`, `c`)
    in a way the checksum detects, whatever follows (`T`). -/
theorem overwritten_record_never_returned (crc : Bytes → UInt32) (A : List Bytes) (c : Nat) (p' T : Bytes)
    (hA : ∀ p ∈ A, p.length + 8 < 2 ^ 32) (hp : p'.length + 8 < 2 ^ 32)
    (hdet : (crc p').toNat ≠ c % 2 ^ 32) :
    (readAll crc (frames crc A ++ (be32 c ++ be32 p'.length ++ p' ++ T))).1 = A :=
  altered_record_never_returned crc A _ hA (altered_frame_rejects crc c p' T hp hdet)

/-- the hypothesis is satisfiable and not trivial (here for a toy checksum; that CRC-32C rejects every
    single-byte change is exercised on the real code by the `poke` cases of the correspondence run) -/
example : let crc : Bytes → UInt32 := fun p => UInt32.ofNat (p.foldl (fun a b => a + b.toNat) 0)
    (crc [1, 2, 4]).toNat ≠ (crc [1, 2, 3]).toNat % 2 ^ 32 := by decide

/-- Recovery (read loop + CloseAndRepair) on such a disk returns `A` and cuts the altered record and
    everything behind it off: afterwards the files hold exactly the frames of `A`. -/
theorem recover_cuts_altered_record (crc : Bytes → UInt32) (d : Disk) (A : List Bytes) (B : Bytes)
    (hne : d.files ≠ []) (hflat : d.files.flatten = frames crc A ++ B) (hBne : B ≠ [])
    (hA : ∀ p ∈ A, p.length + 8 < 2 ^ 32) (hB : CrcRejects crc B) :
    ∃ e d', recover crc d = some (A, e, d') ∧ e ≠ .eof ∧ d'.files.flatten = frames crc A := by
  obtain ⟨e, he⟩ := readBytes_rejects crc B hB
  obtain ⟨d', hrec, _, hfl, _⟩ := recover_frames_append hne hflat hA he
  exact ⟨e, d', hrec, fun h => hBne (readBytes_eof (h ▸ he)), hfl⟩

/-- F2 (`os.Remove(fileFor(w.id, idx))`): segment 0 holds the synced record `[1,2,3]`, segment 1 a torn
    record. The original CloseAndRepair deletes segment 0; the repaired one deletes segment 1. -/
theorem orig_repair_deletes_synced_segment :
    let crc : Bytes → UInt32 := fun _ => 0
    let seg0 := frame crc [1, 2, 3]
    let seg1 := (frame crc [4, 5, 6]).take 5
    Orig.readAll crc (seg0 ++ seg1) = ([[1, 2, 3]], 11, .unexpectedEOF)
    ∧ Orig.repairLoop 11 [(0, seg0), (1, seg1)] = [(1, seg1)]
    ∧ (Orig.readAll crc seg1).1 = []
    ∧ repairLoop 11 [seg0, seg1] = [seg0] := by
  decide

/-- F2b (missing payload reported as io.EOF): the tail ends right after the 8-byte header of a torn
    record. The original reader reports a clean EOF, so nothing is repaired; a record appended and
    synced afterwards sits behind the torn header and is not returned by the next recovery.
    The repaired reader reports ErrUnexpectedEOF, which triggers the repair. -/
theorem orig_torn_header_loses_synced_append :
    let crc : Bytes → UInt32 := fun _ => 0
    let tornHeader := (frame crc (List.replicate 100 7)).take 8
    let disk := frame crc [1, 2, 3] ++ tornHeader
    Orig.readAll crc disk = ([[1, 2, 3]], 11, .eof)
    ∧ Orig.readAll crc (disk ++ frame crc [9, 9]) = ([[1, 2, 3]], 11, .unexpectedEOF)
    ∧ readAll crc disk = ([[1, 2, 3]], 11, .unexpectedEOF) := by
  decide

/-- F2c (truncate first, then `os.Remove` of the later segments in ascending order): segment 0 holds the
    synced record `[1,2,3]`, segment 1 is empty, segment 2 starts with a torn record. If the process
    dies after the first Remove, segments 0 and 2 remain: OpenWALForRead fails on the missing
    segment 1 (ENOENT, which consensus.applyWAL takes for "no WAL"), the synced record is
    unreachable. The repaired order (from the tail downwards) leaves segments 0 and 1. -/
theorem orig_repair_crash_between_removes_hides_wal :
    let crc : Bytes → UInt32 := fun _ => 0
    let seg0 := frame crc [1, 2, 3]
    let seg2 := (frame crc [4, 5, 6]).take 5
    Orig.repairPartialAsc 11 1 [(0, seg0), (1, []), (2, seg2)] = [(0, seg0), (2, seg2)]
    ∧ Orig.openable [(0, seg0), (2, seg2)] = false
    ∧ repairPartial 11 1 [seg0, [], seg2] = [seg0, []]
    ∧ (readAll crc ([seg0, []] : List Bytes).flatten).1 = [[1, 2, 3]] := by
  decide

end Goloop.C03
