/-
  Props/C30 — "P2P packet framing round-trips and detects corruption" (network/packet.go).

  Reading guide.  `Packet.WF p`: a sender-side packet before its first WriteTo (uint16/uint32 fields in
  range, 20-byte src, payload ≤ 1 MiB, `len(ext) = extendInfo.len()`, hash and caches unset).
  `writeAll ps = (ps', w)`: the packets after `WriteTo` (hash, cached header/footer filled in) and the
  bytes put on the stream.  A `Source` is ANY chunking of a byte stream (one `Read` returns at most one
  chunk, empty chunks allowed); `readAll fuel src` is `ReadPacket` repeated until the first error.
-/
import Goloop.Proofs.C30
namespace Goloop.C30
open Goloop.C30.Proofs

/-- **Chunking is irrelevant**: on every chunked reader `ReadFrom` behaves as the parser of the
    concatenated bytes (same packet / same error, rest of the stream preserved). -/
theorem chunking_irrelevant (src : Source) :
    match readFrom src, parseFlat src.flatten with
    | .error e1, .error e2 => e1 = e2
    | .ok (p1, s1), .ok (p2, r2) => p1 = p2 ∧ s1.flatten = r2
    | _, _ => False := by
  rw [← readFrom_flat]
  match readFrom src with
  | .error _ => exact rfl
  | .ok (_, _) => exact ⟨rfl, rfl⟩

/-- **Round trip**: any sequence of well-formed packets written through one writer is read back, over
    ANY chunking of the stream, as exactly the sequence of the sender's packets (as they are after
    WriteTo), followed by a clean EOF. -/
theorem stream_roundtrip (ps : List Packet) (hwf : ∀ p ∈ ps, p.WF) (src : Source)
    (hsrc : src.flatten = (writeAll ps).2) (fuel : Nat) (hf : ps.length < fuel) :
    readAll fuel src = ((writeAll ps).1, .eof) :=
  readAll_written .eof [] rfl ps hwf fuel hf src (by rw [hsrc, List.append_nil])

/-- what the receiver sees is what the sender set: every listed field of the packet after WriteTo equals
    the field of the packet handed to WriteTo (only hash and the header/footer caches are filled in). -/
theorem written_fields_unchanged (p : Packet) (hwf : p.WF) :
    let q := (writeTo p).1
    q.protocol = p.protocol ∧ q.subProtocol = p.subProtocol ∧ q.src = p.src ∧ q.dest = p.dest ∧
    q.ttl = p.ttl ∧ q.payload = p.payload ∧ q.lengthOfPayload = p.payload.length ∧
    q.extendInfo = p.extendInfo ∧ q.ext = p.ext ∧
    q.hashOfPacket = (fnv1a (buildHeader p ++ p.payload)).toNat := by
  intro q
  have hq : q = sent p := (writeTo_wf p hwf).1
  rw [hq]
  exact ⟨rfl, rfl, rfl, rfl, rfl, rfl, hwf.len, rfl, rfl, hashed_eq p⟩

/-- `newPacketExtendInfo` keeps 6 bits of hint and 10 bits of length: an extension of n bytes is
    announced (and therefore transmitted) as n mod 1024 bytes — faithful exactly for n ≤ 1023. -/
theorem extendInfo_packing (hint n : Nat) (_hh : hint < 256) :
    extLen (newExtendInfo hint n) = n % 1024 ∧ extHint (newExtendInfo hint n) = hint % 64 ∧
    newExtendInfo hint n < 65536 := by
  unfold extLen extHint newExtendInfo
  refine ⟨?_, ?_, Nat.mod_lt _ (by decide)⟩
  · rw [Nat.mod_mod_of_dvd _ (by decide : 1024 ∣ 65536), Nat.mul_add_mod_self_right, Nat.mod_mod]
  · rw [show 65536 = 1024 * 64 from rfl, Nat.mod_mul_right_div_self, Nat.mod_mod, Nat.mul_comm,
      Nat.mul_add_div (by decide), Nat.div_eq_of_lt (Nat.mod_lt _ (by decide)), Nat.add_zero]

/-- **FNV-1a-64 detects every one-byte substitution**: two inputs of equal length that differ in exactly
    one position have different hashes (xor with the byte, then multiplication by the odd FNV prime, is a
    bijection on 64-bit words). -/
theorem fnv_detects_substitution (pre suf : Bytes) (a b : UInt8) (hab : a ≠ b) :
    fnv1a (pre ++ a :: suf) ≠ fnv1a (pre ++ b :: suf) := fnv_subst pre suf a b hab

/-- **Corruption is rejected**: in a stream of well-formed packets `pre ++ [p] ++ post`, replace ONE byte
    of packet `p` — at offset `i` inside its header but outside the 4 length bytes (`i < 26`), inside its
    payload, or inside the 8 stored hash bytes (`30 ≤ i < 38 + len`) — by a different value.  Over any
    chunking the reader delivers exactly the packets before `p` and then fails with the hash error:
    the altered packet is never accepted. -/
theorem corruption_rejected (pre post : List Packet) (p : Packet)
    (hpre : ∀ q ∈ pre, q.WF) (hp : p.WF) (i : Nat) (b : UInt8)
    (hreg : i < 26 ∨ (30 ≤ i ∧ i < 38 + p.payload.length))
    (w : Bytes) (hw : w = (writeAll (pre ++ p :: post)).2)
    (pos : Nat) (hpos : pos = (writeAll pre).2.length + i)
    (hb : w[pos]? ≠ some b)
    (src : Source) (hsrc : src.flatten = w.set pos b) (fuel : Nat) (hf : pre.length < fuel) :
    readAll fuel src = ((writeAll pre).1, .badHash) := by
  subst hw hpos
  have hw : (writeAll (pre ++ p :: post)).2 = (writeAll pre).2 ++ (wireOf p ++ (writeAll post).2) := by
    rw [writeAll_append, writeAll_cons, (writeTo_wf p hp).2]
  rw [hw, getElem?_append_add] at hb
  refine readAll_written .badHash _ (corrupt_one p hp (writeAll post).2 i b hreg hb) pre hpre fuel hf src ?_
  rw [hsrc, hw, set_append_add]

/-- **Extension bytes are not covered by the hash**: altering any byte of the extension leaves the packet
    acceptable — the reader returns the sender's packet with the altered extension. (The property speaks
    of "header or payload"; the extension and `extendInfo` travel unprotected.) -/
theorem ext_corruption_not_detected (p : Packet) (hwf : p.WF) (rest : Bytes) (i : Nat) (b : UInt8)
    (h1 : 40 + p.payload.length ≤ i) (h2 : i < 40 + p.payload.length + p.ext.length)
    (src : Source) (hsrc : src.flatten = ((writeTo p).2.flatten ++ rest).set i b) :
    ∃ src', readFrom src = .ok ({ (writeTo p).1 with ext := p.ext.set (i - 40 - p.payload.length) b }, src') ∧
      src'.flatten = rest := by
  have hH := buildHeader_length p hwf.src
  have hF := (footOf_facts p hwf.info).1
  generalize hj : i - 40 - p.payload.length = j
  obtain rfl : i = (buildHeader p).length + (p.payload.length + ((footOf p).length + j)) := by omega
  rw [(writeTo_wf p hwf).1]
  refine readFrom_of_ok ?_
  rw [hsrc, (writeTo_wf p hwf).2, wireOf_append, set_append_add, set_append_add, set_append_add,
    List.set_append_left j b (by omega), parse_any_ext p hwf _ rest List.length_set]

/-- Full statement that does NOT hold: `corruption_rejected` with `26 ≤ i < 30` (the lengthOfPayload bytes).
    An altered length re-frames the rest of the stream; the reader then compares FNV(header' ++ other bytes)
    with 8 bytes found elsewhere in the stream, which the sender's later packets may contain.
    `length_field_corruption_partial` is the part that holds: a length above the maximum is rejected. -/
theorem length_field_corruption_partial (H rest : Bytes) (hH : H.length = 30)
    (hbig : beNat ((H.drop 26).take 4) > payloadMax) (src : Source) (hsrc : src.flatten = H ++ rest) :
    readFrom src = .error .badLen := by
  refine readFrom_of_error ?_
  rw [hsrc]
  unfold parseFlat readFromWith
  rw [splitN_append H _ headerSize hH]
  simp only [bind, Except.bind, setHeader, hbig, if_true]

/-- the two packets of the witness: A has an empty payload, B's 10 payload bytes are
    FNV-1a(A's header with length 40 ++ A's footer ++ B's header) followed by 00 00 -/
def witA : Packet := newPacket 1 2 (List.replicate 20 0) 255 1 [] 0 []
def witB : Packet := newPacket 3 4 (List.replicate 20 0) 255 1 [216, 167, 78, 70, 132, 74, 161, 73, 0, 0] 0 []

/-- **Witness: a length-field corruption that is accepted.**  The sender writes the two well-formed packets
    `witA`, `witB`; in transit the single byte 29 (last byte of A's lengthOfPayload) changes from 0 to 40.
    The real reader (and the model) accept ONE packet with A's protocol fields and a 40-byte payload that
    was never sent, then see a clean EOF. -/
theorem length_field_corruption_accepted_witness :
    (writeAll [witA, witB]).2[29]? = some 0 ∧
    (readAll 3 [(writeAll [witA, witB]).2.set 29 40]).2 = .eof ∧
    (readAll 3 [(writeAll [witA, witB]).2.set 29 40]).1.map (fun q => (q.protocol, q.subProtocol, q.payload.length)) = [(1, 2, 40)] ∧
    (readAll 3 [(writeAll [witA, witB]).2]).1.map (fun q => (q.protocol, q.subProtocol, q.payload.length)) = [(1, 2, 0), (3, 4, 10)] := by
  decide +kernel

/-! ### non-vacuity of the hypotheses -/

example : witA.WF ∧ witB.WF := by
  constructor <;> constructor <;> decide

/-- `corruption_rejected` is not vacuous: a well-formed packet, an in-range position, a differing byte. -/
example : witB.WF ∧ (30 ≤ 33 ∧ 33 < 38 + witB.payload.length) ∧
    (writeAll ([witA] ++ witB :: [])).2[(writeAll [witA]).2.length + 33]? ≠ some 0 := by
  refine ⟨by constructor <;> decide, by decide, by decide +kernel⟩

example : (List.replicate 30 255 : Bytes).length = 30 ∧
    beNat (((List.replicate 30 255 : Bytes).drop 26).take 4) > payloadMax := by decide

end Goloop.C30
