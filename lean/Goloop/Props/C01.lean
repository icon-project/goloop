/-
  Props/C01 — property theorems for "Consensus agreement: no two correct validators finalize
  different blocks".

  Layering (DESIGN §6 C01): L-abs = message soup (Model/C01Abs), L-val = one validator transcribed
  from consensus.go (Model/C01), L-sys = n machines + soup (Proofs/C01Sys).  `agreement_abs` is the
  full, unbounded safety argument over L-abs under the per-validator guarantees G0–G3; `vstep_G0..G3`
  prove those guarantees for L-val on every crash-free event sequence (every function and event of the machine
  is a composition of the moves of Proofs/C01Move, shown once; each invariant is checked move by move:
  Proofs/C01Move, C01G2, C01G3Step);
  `agreement_nocrash` composes them.  With crash/restart: G0/G1 (C02); the trace rules are closed under the crash cut; the WAL replay
  restores only known votes; `agreement_partial` = agreement in L-sys with crash and restart steps under
  the hypothesis RestoreLockSound (`RLS`) on every restart (Proofs/C01Restart, C01Sys).  The full
  `agreement` fails for the unchanged code: `RLS` is false on the F1 witness (end of this file).
-/
import Goloop.Proofs.C01Abs
import Goloop.Proofs.C01G1
import Goloop.Proofs.C01G2
import Goloop.Proofs.C02Restart
import Goloop.Proofs.C01Sys
namespace Goloop.C01.Props
open Goloop.C01

/-- Two +2/3 sets of validators share a correct validator when fewer than 1/3 are Byzantine
    (threshold exactly as coded: `count > n*2/3`). -/
theorem quorum_intersection (n : Nat) (byz p q : Nat → Bool) (hb : fewByz n byz)
    (hp : over23 n ((List.range n).countP p)) (hq : over23 n ((List.range n).countP q)) :
    ∃ i, i < n ∧ p i = true ∧ q i = true ∧ byz i = false :=
  Goloop.C01.quorum_intersection n byz p q hb hp hq

example : fewByz 4 (fun i => i == 3) ∧ over23 4 ((List.range 4).countP (fun i => i != 0))
    ∧ over23 4 ((List.range 4).countP (fun i => i != 1)) := by decide

/-- the Go threshold `count > n*2/3` is the strict two-thirds majority -/
theorem threshold_is_two_thirds (n k : Nat) : over23 n k ↔ 3 * k > 2 * n := over23_iff n k

/-- **Agreement over the abstract message soup** — any number of validators, rounds, messages;
    any delivery schedule (the soup abstracts delivery away); Byzantine validators (< 1/3) vote
    arbitrarily; correct validators keep G0 (round-monotone), G1 (no two different votes of one type
    in a round), G2 (non-nil precommit only after a polka), G3 (after precommit (r,B) a prevote for
    anything else in a later round only after a later polka for something else).  Then two commit
    quorums (+2/3 precommits in one round, the only thing `enterCommit` accepts) at one height name
    the same block. -/
theorem agreement_abs (n : Nat) (byz : Nat → Bool) (H : List Vote)
    (hb : fewByz n byz) (G : Guarantees n byz H)
    (r1 b1 r2 b2 : Nat) (c1 : commitQ n H r1 b1) (c2 : commitQ n H r2 b2) : b1 = b2 :=
  Goloop.C01.agreement_abs n byz H hb G r1 b1 r2 b2 c1 c2

/-- corollary used in the proof, of independent interest: once +2/3 precommitted `b` in round `r`,
    no polka for anything else (nil included) ever appears in a later round. -/
theorem no_later_polka_for_another_value (n : Nat) (byz : Nat → Bool) (H : List Vote)
    (hb : fewByz n byz) (G : Guarantees n byz H) (r b : Nat) (c : commitQ n H r b)
    (r' : Nat) (y : Option Nat) (hr : r < r') (hy : y ≠ some b) : ¬ polka n H r' y := by
  intro hp
  have : polka n (H.take H.length) r' y := by simpa using hp
  exact no_offending_polka n byz H hb G r b c H.length r' y hr hy this

/-! non-vacuity: a concrete history satisfying the guarantees and committing a block -/
def exH : List Vote :=
  [⟨0, .prevote, 0, some 7⟩, ⟨0, .precommit, 0, some 7⟩]

theorem exH_guarantees : Guarantees 1 (fun _ => false) exH :=
  -- vote by vote against what precedes it: nothing before the prevote; the precommit has its polka, the prevote
  guarantees_of_hist ((Hist.nil.snoc fun _ => ⟨fun _ h => (nomatch h), nofun, fun _ _ _ h => (nomatch h)⟩).snoc fun _ =>
    ⟨by decide, fun b _ hb => Option.some.inj hb ▸ by decide, nofun⟩)
example : fewByz 1 (fun _ => false) ∧ commitQ 1 exH 0 7 := by decide

/-- **G0 for L-val (no crash).**  For every event sequence without crash (proposals, block parts,
    votes of anybody incl. equivocating ones, timeouts, BlockManager callbacks at any later time, in any
    order, any length) the validator signs its votes with strictly increasing (height, round, step)
    keys: it never goes back to an earlier round or step. -/
theorem vstep_G0 (n me : Nat) (evs : List Event) (hn : ∀ e ∈ evs, e.noCrash) :
    (sentOf (run (start { n := n, me := me }) evs).eff).Pairwise msgLt :=
  (run_core _ evs hn (a3_first_start (L := []) n me).core).inc

/-- **G1 for L-val (no crash)** — also the no-crash half of C02: two votes signed by the validator
    for the same height, round and type are the same vote (so never two different values). -/
theorem vstep_G1 (n me : Nat) (evs : List Event) (hn : ∀ e ∈ evs, e.noCrash)
    (v w : VoteRec)
    (hv : Msg.vote v ∈ sentOf (run (start { n := n, me := me }) evs).eff)
    (hw : Msg.vote w ∈ sentOf (run (start { n := n, me := me }) evs).eff)
    (hh : v.height = w.height) (hr : v.round = w.round) (ht : v.typ = w.typ) : v = w :=
  pairwise_msgLt_unique (vstep_G0 n me evs hn) hv hw hh hr ht

/-- every vote it has signed is at or before its current (height, round, step) -/
theorem vstep_votes_behind_state (n me : Nat) (evs : List Event) (hn : ∀ e ∈ evs, e.noCrash)
    (v : VoteRec) (hv : Msg.vote v ∈ sentOf (run (start { n := n, me := me }) evs).eff) :
    lexLe (voteKey v) ((run (start { n := n, me := me }) evs).height,
      (run (start { n := n, me := me }) evs).round, (run (start { n := n, me := me }) evs).step) :=
  (run_core _ evs hn (a3_first_start (L := []) n me).core).bnd (.vote v) hv

/-- the votes handed to the machine by `vote` events -/
def deliveredVotes (evs : List Event) : List VoteRec :=
  evs.filterMap (fun e => match e with | .vote m => some m | _ => none)

theorem mem_deliveredVotes (evs : List Event) (m : VoteRec) (h : Event.vote m ∈ evs) :
    m ∈ deliveredVotes evs := by
  unfold deliveredVotes
  rw [List.mem_filterMap]
  exact ⟨_, h, rfl⟩

/-- The per-machine invariant of L-sys (`M3`: C02's invariant, the trace rules, the three running
    invariants) for a crash-free run on its own, `L` = the votes delivered to it.  The statements below are
    its fields. -/
theorem run_m3 (n me : Nat) (evs : List Event) (hn : ∀ e ∈ evs, e.noCrash) :
    M3 (deliveredVotes evs) me n (run (start { n := n, me := me }) evs) :=
  m3_run _ evs hn (mem_deliveredVotes evs) (m3_first_start n me)

/-- **G2 for L-val (no crash).**  For every crash-free event sequence: whenever the machine has signed a
    non-nil precommit (h, r, b), more than 2/3 of the validator indices `i < n` (counted exactly as the
    Go threshold, distinct validators) have a prevote (i, h, r, b) that the machine knows of — delivered
    to it by a `vote` event of this sequence, or signed by itself.  Since the statement holds for EVERY
    event sequence, it holds for the prefix ending with the event that signed the precommit: the polka
    was known at the moment of signing. -/
theorem vstep_G2 (n me : Nat) (evs : List Event) (hn : ∀ e ∈ evs, e.noCrash) (v : VoteRec) (b : Blk)
    (hv : Msg.vote v ∈ sentOf (run (start { n := n, me := me }) evs).eff)
    (ht : v.typ = .precommit) (hb : v.val = some b) :
    polkaKnown (deliveredVotes evs) n (sentOf (run (start { n := n, me := me }) evs).eff) v.height v.round b :=
  (run_m3 n me evs hn).trf.g2_mem hv ht hb

example : (∀ e ∈ ([.proposal 1 1 0 9 (-1), .blockPart 1 9, .async, .vote ⟨1,1,.prevote,0,some 9⟩,
    .timeout 3] : List Event), e.noCrash) := by
  decide

/-- **G3 for L-val (no crash): the lock rule, with exact timing.**  For every crash-free event sequence:
    let `pre ++ [w] ++ post` be the messages the machine has signed, in signing order, `w` a prevote.  If
    among the messages signed BEFORE `w` (`pre`) there is a non-nil precommit `v` = (h, r, b) of the same
    height with `r < w.round`, and `w` is not a prevote for `b` (nil included), then the machine knew,
    before signing `w`, more than 2/3 of the validator indices `i < n` (distinct validators, Go
    threshold) with a prevote (i, h, r'', y) for one round `r''` with `r < r'' ≤ w.round` and one value
    `y ≠ b` (nil included) — each delivered to it by a `vote` event of this sequence or signed by
    itself before `w`.  This is exactly hypothesis `g3` of `agreement_abs`.  (The code's unlock
    condition is `lockedRound < msg.Round` on a +2/3 prevote decision for something else; the proof
    shows lockedRound ≥ r while the precommit (r, b) is not yet covered by such a polka.) -/
theorem vstep_G3 (n me : Nat) (evs : List Event) (hn : ∀ e ∈ evs, e.noCrash)
    (pre post : List Msg) (w v : VoteRec) (b : Blk)
    (hs : sentOf (run (start { n := n, me := me }) evs).eff = pre ++ Msg.vote w :: post)
    (hwt : w.typ = .prevote) (hv : Msg.vote v ∈ pre) (hvt : v.typ = .precommit) (hvb : v.val = some b)
    (hh : v.height = w.height) (hr : v.round < w.round) (hne : w.val ≠ some b) :
    ∃ r'' y, v.round < r'' ∧ r'' ≤ w.round ∧ y ≠ some b ∧
      quorumKnown (deliveredVotes evs) n pre w.height .prevote r'' y :=
  (run_m3 n me evs hn).trf.g3 pre w post hs hwt v b hv hvt hvb hh hr hne

/-- G2 for L-val with exact timing: the polka was known before the precommit was signed -/
theorem vstep_G2_before (n me : Nat) (evs : List Event) (hn : ∀ e ∈ evs, e.noCrash)
    (pre post : List Msg) (v : VoteRec) (b : Blk)
    (hs : sentOf (run (start { n := n, me := me }) evs).eff = pre ++ Msg.vote v :: post)
    (ht : v.typ = .precommit) (hb : v.val = some b) :
    quorumKnown (deliveredVotes evs) n pre v.height .prevote v.round (some b) :=
  (run_m3 n me evs hn).trf.g2 pre v post b hs ht hb

/-- **Finalize needs a commit quorum (L-val, no crash).**  Every `finalize h b` effect of a crash-free
    run was emitted with more than 2/3 of the validator indices having a precommit (i, h, r, b), for ONE
    round r, known to the machine (delivered by a `vote` event or signed by itself). -/
theorem vstep_finalize_has_commit_quorum (n me : Nat) (evs : List Event) (hn : ∀ e ∈ evs, e.noCrash)
    (h : Nat) (b : Blk) (hf : (h, b) ∈ finalizedOf (run (start { n := n, me := me }) evs).eff) :
    ∃ r, quorumKnown (deliveredVotes evs) n (sentOf (run (start { n := n, me := me }) evs).eff) h
      .precommit r (some b) :=
  (run_m3 n me evs hn).trf.tr.fin_mem hf

/-- **The Finalize rule, prefix-wise (closed under the crash cut).**  If the effect trace of a crash-free
    run is `pre ++ [finalize h b] ++ post`, then the commit quorum — more than 2/3 of the validator indices
    with a precommit (i, h, r, b) of ONE round r — was known to the machine from votes delivered to it
    and votes it had signed within `pre`, i.e. BEFORE the Finalize effect.  (The same holds, with `L` =
    the soup, for every machine of L-sys with crashes: field `T3.fin` of `TR`, which `tr_crash` keeps
    under any cut.) -/
theorem vstep_finalize_rule_prefixwise (n me : Nat) (evs : List Event) (hn : ∀ e ∈ evs, e.noCrash)
    (pre post : List Eff) (h : Nat) (b : Blk)
    (hd : (run (start { n := n, me := me }) evs).eff = pre ++ Eff.finalize h b :: post) :
    ∃ r, quorumKnown (deliveredVotes evs) n (sentOf pre) h .precommit r (some b) :=
  (run_m3 n me evs hn).trf.tr.fin pre h b post hd

/-- the trace facts (G2, G3, Finalize rule, known WAL vote lists) survive ANY crash cut -/
theorem trace_rules_closed_under_crash (L : List VoteRec) (n : Nat) (eff : List Eff) (cut k : Nat)
    (ht : TR L n eff) : TR L n (eff.take cut ++ [.crash k]) :=
  tr_crash cut k ht

/-! non-vacuity of `vstep_G3`: validator 0 of 4 precommits 9 in round 0, moves to round 1 on +2/3 nil
    precommits, sees +2/3 prevotes for 10 in round 1 (unlock) and prevotes nil in round 1 -/
def g3Events : List Event := [
  .proposal 1 1 0 9 (-1), .blockPart 1 9, .async,
  .vote ⟨1,1,.prevote,0,some 9⟩, .vote ⟨2,1,.prevote,0,some 9⟩,
  .vote ⟨1,1,.precommit,0,none⟩, .vote ⟨2,1,.precommit,0,none⟩, .timeout 7,
  .vote ⟨1,1,.prevote,1,some 10⟩, .vote ⟨2,1,.prevote,1,some 10⟩, .vote ⟨3,1,.prevote,1,some 10⟩]

example : (∀ e ∈ g3Events, e.noCrash) ∧
    sentOf (run (start { n := 4, me := 0 }) g3Events).eff =
      [.vote ⟨0,1,.prevote,0,some 9⟩, .vote ⟨0,1,.precommit,0,some 9⟩] ++
        Msg.vote ⟨0,1,.prevote,1,none⟩ :: [.vote ⟨0,1,.precommit,1,none⟩] := by
  exact ⟨by decide, by decide +kernel⟩

/-- the soup of every reachable system state, restricted to any one height, satisfies the
    per-validator guarantees G0–G3 that `agreement_abs` needs -/
theorem reachable_soup_guarantees (n : Nat) (byz : Nat → Bool) (sys : Sys) (hr : Reach n byz sys) (h : Nat) :
    Guarantees n byz (projH h sys.soup) :=
  guarantees_of_sysInv (reachC_sysInv (reachC_of_reach hr)) h

/-- **Agreement without crashes (C01 for crash-free executions), unbounded.**  `n` validators, any set
    `byz` of Byzantine ones with `3·|byz ∩ [0,n)| < n`.  Every validator index `i` with `byz i = false`
    runs the machine transcribed from consensus.go (`start {n, me := i}`).  `Reach n byz sys`: `sys` is
    reachable by any finite interleaving of (a) a Byzantine validator signing ANY vote (any height,
    round, type, value, any number of conflicting ones) and (b) a correct validator performing ANY
    crash-free event — proposal or block part with arbitrary content (not even required to be signed),
    timeout, BlockManager callback, or delivery of a vote that is in the soup (= has been signed by
    somebody before; signatures are unforgeable) — where everything it signs during the event is added
    to the soup.  Also (c): a correct validator is handed any block with a commit vote list through the
    block-sync callback (`syncBlock`), the commit votes being votes of the soup.  Loss, delay, duplication, reordering are all such interleavings.  Then any two
    Finalize effects of correct validators (the same or different ones) for the same height name the
    same block.  No bound on n, heights, rounds, or the length of the execution. -/
theorem agreement_nocrash (n : Nat) (byz : Nat → Bool) (hb : fewByz n byz) (sys : Sys)
    (hr : Reach n byz sys) (i j : Nat) (hi : byz i = false) (hj : byz j = false) (h : Nat) (b b' : Blk)
    (h1 : (h, b) ∈ finalizedOf (sys.st i).eff) (h2 : (h, b') ∈ finalizedOf (sys.st j).eff) : b = b' :=
  Goloop.C01.agreement_nocrash n byz hb sys hr i j hi hj h b b' h1 h2

/-! non-vacuity of `agreement_nocrash`: 4 validators, validator 3 Byzantine (it equivocates in round 0);
    validator 1 proposes 1201, validators 0, 1, 2 exchange prevotes and precommits through the soup;
    validators 0 and 1 finalize block 1201 at height 1 -/
def exPv (i : Nat) : VoteRec := ⟨i, 1, .prevote, 0, some 1201⟩
def exPc (i : Nat) : VoteRec := ⟨i, 1, .precommit, 0, some 1201⟩
def exScript : List Step := [
  .ev 1 .async,
  .ev 0 (.proposal 1 1 0 1201 (-1)), .ev 0 (.blockPart 1 1201), .ev 0 .async,
  .ev 2 (.proposal 1 1 0 1201 (-1)), .ev 2 (.blockPart 1 1201), .ev 2 .async,
  .byz ⟨3, 1, .prevote, 0, some 77⟩, .byz ⟨3, 1, .prevote, 0, none⟩,
  .ev 0 (.vote (exPv 1)), .ev 0 (.vote (exPv 2)),
  .ev 1 (.vote (exPv 0)), .ev 1 (.vote (exPv 2)),
  .ev 2 (.vote (exPv 0)), .ev 2 (.vote (exPv 1)),
  .ev 0 (.vote (exPc 1)), .ev 0 (.vote (exPc 2)),
  .ev 1 (.vote (exPc 0)), .ev 1 (.vote (exPc 2))]

/-- The script checker and the examples evaluate the same run of four machines, and the kernel shares work only
    within one declaration: everything that is read off `exScript`, and off `exScript` followed by the sync step of
    the next section, is evaluated here once. -/
theorem exScript_eval :
    (sys0 4).runOk (fun i => i == 3) exScript = true ∧
    (sys0 4).runOk (fun i => i == 3) (exScript ++ [.sync 2 1 0 1201 [0, 1, 2]]) = true ∧
    (1, 1201) ∈ finalizedOf (((sys0 4).run exScript).st 0).eff ∧
    (1, 1201) ∈ finalizedOf (((sys0 4).run exScript).st 1).eff ∧
    (1, 1201) ∈ finalizedOf (((sys0 4).run (exScript ++ [.sync 2 1 0 1201 [0, 1, 2]])).st 2).eff := by
  decide +kernel

theorem exScript_reach : Reach 4 (fun i => i == 3) ((sys0 4).run exScript) :=
  reach_run 4 (fun i => i == 3) (sys0 4) exScript Reach.init exScript_eval.1

example : fewByz 4 (fun i => i == 3) ∧
    (1, 1201) ∈ finalizedOf (((sys0 4).run exScript).st 0).eff ∧
    (1, 1201) ∈ finalizedOf (((sys0 4).run exScript).st 1).eff :=
  ⟨by decide, exScript_eval.2.2.1, exScript_eval.2.2.2.1⟩

/-! ### block sync (ReceiveBlockResult → processBlock) as an event

    `EventS` = `Event` + `sync h r b signers` (Proofs/C01Sync): the engine is handed block `b` of height
    `h` with a commit vote list (precommits of round `r` by `signers`).  `runS` = histories that may
    contain sync steps.  `Reach` / `ReachC` have `sync` steps whose commit votes are in the soup, so
    `agreement_nocrash` and `agreement_partial` above cover executions with block sync. -/

/-- crash-free history of `EventS` started fresh: all three running invariants, with the delivered
    votes = votes of `vote` events + votes inside sync commit vote lists -/
theorem runS_invariants (n me : Nat) (evs : List EventS) (hn : ∀ e, e ∈ evs → e.noCrash) :
    A3 (deliveredS evs) [] (runS (start { n := n, me := me }) evs) :=
  runS_a3 _ evs hn (fun _ he _ hm => mem_deliveredS he hm) (a3_first_start n me)

theorem runS_m3 (n me : Nat) (evs : List EventS) (hn : ∀ e, e ∈ evs → e.noCrash) :
    M3 (deliveredS evs) me n (runS (start { n := n, me := me }) evs) :=
  (m3_of_a3 (runS_inv _ evs (inv_start n me)) (runS_invariants n me evs hn)).1

/-- **Finalize needs a commit quorum, block sync included.**  Every `finalize h b` effect of a crash-free
    history that may contain sync steps — in particular a block finalized THROUGH sync — was emitted
    with more than 2/3 of the validator indices having a precommit (i, h, r, b) for ONE round r FOR THAT
    BLOCK among the votes delivered to the machine (by `vote` events or inside sync commit vote lists)
    or signed by itself.  (Seeded change C01-5 breaks exactly this: `c015_finalizes_without_quorum`.) -/
theorem vstepS_finalize_has_commit_quorum (n me : Nat) (evs : List EventS) (hn : ∀ e, e ∈ evs → e.noCrash)
    (h : Nat) (b : Blk) (hf : (h, b) ∈ finalizedOf (runS (start { n := n, me := me }) evs).eff) :
    ∃ r, quorumKnown (deliveredS evs) n (sentOf (runS (start { n := n, me := me }) evs).eff) h
      .precommit r (some b) :=
  (runS_m3 n me evs hn).trf.tr.fin_mem hf

/-- the same prefix-wise: the quorum was known BEFORE the Finalize effect -/
theorem vstepS_finalize_rule_prefixwise (n me : Nat) (evs : List EventS) (hn : ∀ e, e ∈ evs → e.noCrash)
    (pre post : List Eff) (h : Nat) (b : Blk)
    (hd : (runS (start { n := n, me := me }) evs).eff = pre ++ Eff.finalize h b :: post) :
    ∃ r, quorumKnown (deliveredS evs) n (sentOf pre) h .precommit r (some b) :=
  (runS_m3 n me evs hn).trf.tr.fin pre h b post hd

/-- G0 / G1 with sync steps (sync signs nothing): strictly increasing (height, round, step) keys — with
    crash and restart anywhere as well (C02's invariant is kept by sync) -/
theorem vstepS_G0 (n me : Nat) (evs : List EventS) :
    (sentOf (runS { n := n, me := me } evs).eff).Pairwise msgLt :=
  (runS_inv _ evs (inv_init me n)).inc

theorem vstepS_G1 (n me : Nat) (evs : List EventS) (v w : VoteRec)
    (hv : Msg.vote v ∈ sentOf (runS { n := n, me := me } evs).eff)
    (hw : Msg.vote w ∈ sentOf (runS { n := n, me := me } evs).eff)
    (hh : v.height = w.height) (hr : v.round = w.round) (ht : v.typ = w.typ) : v = w :=
  pairwise_msgLt_unique (vstepS_G0 n me evs) hv hw hh hr ht

/-- G2 with sync steps, exact timing -/
theorem vstepS_G2_before (n me : Nat) (evs : List EventS) (hn : ∀ e, e ∈ evs → e.noCrash)
    (pre post : List Msg) (v : VoteRec) (b : Blk)
    (hs : sentOf (runS (start { n := n, me := me }) evs).eff = pre ++ Msg.vote v :: post)
    (ht : v.typ = .precommit) (hb : v.val = some b) :
    quorumKnown (deliveredS evs) n pre v.height .prevote v.round (some b) :=
  (runS_m3 n me evs hn).trf.g2 pre v post b hs ht hb

/-- G3 (lock rule) with sync steps, exact timing -/
theorem vstepS_G3 (n me : Nat) (evs : List EventS) (hn : ∀ e, e ∈ evs → e.noCrash)
    (pre post : List Msg) (w v : VoteRec) (b : Blk)
    (hs : sentOf (runS (start { n := n, me := me }) evs).eff = pre ++ Msg.vote w :: post)
    (hwt : w.typ = .prevote) (hv : Msg.vote v ∈ pre) (hvt : v.typ = .precommit) (hvb : v.val = some b)
    (hh : v.height = w.height) (hr : v.round < w.round) (hne : w.val ≠ some b) :
    ∃ r'' y, v.round < r'' ∧ r'' ≤ w.round ∧ y ≠ some b ∧
      quorumKnown (deliveredS evs) n pre w.height .prevote r'' y :=
  (runS_m3 n me evs hn).trf.g3 pre w post hs hwt v b hv hvt hvb hh hr hne

/-! non-vacuity: validator 0 of 4 validated the round-0 proposal 9, nobody else did; it is then handed
    block 10 with the precommits of validators 1, 2, 3 of round 1 through block sync: it drops the
    candidate 9 (other part-set id), imports 10 and finalizes 10 -/
def syncEvents : List EventS := [
  .ev (.proposal 1 1 0 9 (-1)), .ev (.blockPart 1 9), .ev .async,
  .sync 1 1 10 [1, 2, 3], .ev .async]

example : (∀ e, e ∈ syncEvents → e.noCrash) ∧
    finalizedOf (runS (start { n := 4, me := 0 }) syncEvents).eff = [(1, 10)] := by
  exact ⟨by decide, by decide +kernel⟩

/-- seeded change C01-5 (blockPartSet.SetByPartSetAndBlock compares the part-set id AFTER overwriting
    it, so a validated candidate is never dropped) in model terms: the stale candidate stays in `cur`,
    and enterCommit's SetByPartSetID is a no-op because the part set was already replaced -/
def syncBlockC015 (s : S) (h r : Nat) (b : Blk) (signers : List Nat) : S :=
  if s.height < h then s
  else if s.height > h || (s.step == stCommit && s.cur.isComplete) then s
  else
    let (s, ok) := syncAddVotes s (signers.map (fun sg => ⟨sg, h, .precommit, r, some b⟩))
    if !ok then s
    else match (votesFor s.hvs r .precommit).decision s.n with
      | some (some b') =>
        if b' != b then s
        else
          let s := if s.cur.hasValidated then s else { s with cur := .full b false }
          if s.step < stCommit then
            let s := s.resetForNewStep stCommit
            let s := { s with commitRound := (r : Int) }
            let s := (s.emit (.write .commit (.voteList (voteListOf s r .precommit)))).emit (.sync .commit)
            commitAndEnterNewHeight fuel0 s
          else commitAndEnterNewHeight fuel0 s
      | _ => s

/-- **C01-5 (witness).**  Same history: validator 0 holds the validated candidate 9; the sync delivers
    block 10 with +2/3 precommits (round 1) of validators 1, 2, 3.  The C01-5 variant finalizes 9 —
    a block for which NO precommit at all is among the delivered or own votes, let alone a quorum — so
    `vstepS_finalize_has_commit_quorum` fails for it; the transcribed `syncBlock` finalizes nothing at
    that point and 10 after the import. -/
theorem c015_finalizes_without_quorum :
    let s0 := run (start { n := 4, me := 0 }) [.proposal 1 1 0 9 (-1), .blockPart 1 9, .async]
    finalizedOf (syncBlockC015 s0 1 1 10 [1, 2, 3]).eff = [(1, 9)] ∧
    (∀ v, v ∈ syncVotes 1 1 10 [1, 2, 3] ++ votesOf (sentOf (syncBlockC015 s0 1 1 10 [1, 2, 3]).eff) →
      ¬ (v.typ = .precommit ∧ v.val = some 9)) ∧
    finalizedOf (syncBlock s0 1 1 10 [1, 2, 3]).eff = [] ∧
    finalizedOf (async (syncBlock s0 1 1 10 [1, 2, 3])).eff = [(1, 10)] := by
  decide +kernel

/-! non-vacuity of the `sync` step of L-sys: after `exScript` validator 2 (which has not seen the
    precommits) is handed block 1201 with the commit votes of 0, 1, 2 and finalizes it -/
theorem exScriptSync_reach :
    Reach 4 (fun i => i == 3) ((sys0 4).run (exScript ++ [.sync 2 1 0 1201 [0, 1, 2]])) :=
  reach_run 4 (fun i => i == 3) (sys0 4) _ Reach.init exScript_eval.2.1

example : (1, 1201) ∈ finalizedOf (((sys0 4).run (exScript ++ [.sync 2 1 0 1201 [0, 1, 2]])).st 2).eff :=
  exScript_eval.2.2.2.2

/-! ### crash and restart

    Full statement (`agreement`, DESIGN §6 C01) that does NOT hold for the unchanged code (F1 witness
    below): in L-sys with crash and restart of correct validators, two Finalize effects of correct
    validators for one height name the same block.
    Proved instead: `agreement_partial` — the same under the hypothesis that every restart satisfies
    `RLS` (RestoreLockSound).  Everything else a sound restart needs is derived from the code:
    the restored (round, step) dominates every signed message (C02), the restored vote sets contain
    only known votes (`restart_restores_only_known_votes`), step commit is never restored, the trace
    rules survive the cut.  Modelling restriction that remains: `SignClosed` — the two effect
    boundaries per vote between its round-WAL write and its hand-over to the network are not crash
    points (a vote that is durable but was never sent would be counted by its signer after the
    restart without being in the soup). -/

/-- **The vote-set half of a sound restart, from the code.**  `s` is a stopped machine reached by any
    history (C02's invariant `Inv`), whose trace satisfies the trace rules (`TR`) and `SignClosed`.  Then
    every vote that applyRoundWAL + applyLockWAL + applyCommitWAL put back into the height vote sets is
    a vote the machine knows (delivered to it earlier or signed-and-sent by itself), one entry per
    validator index below n: invariant `H2` holds for the replayed state. -/
theorem restart_restores_only_known_votes (me n : Nat) (L : List VoteRec) (s : S) (hi : Inv me n s)
    (htr : TR L n s.eff) (hsc : SignClosed s.eff) : H2 L (replayed s) :=
  h2_replayed s hi.hn htr hsc

/-- **A restart is sound exactly when RestoreLockSound holds.**  Stopped machine `s` with the per-machine
    invariant `M3` (C02's invariant + trace rules), `SignClosed`, and `RLS s`: the restored lock is on the
    block of the last non-nil precommit signed for the current height, with lockedRound at least its
    round.  Then `start s` (replay + dispatch) satisfies the three invariants of the running machine
    again (hence G0–G3 and the Finalize rule hold for everything it signs afterwards, against everything
    it signed before the crash), and it only appends to what it has signed. -/
theorem restart_sound_of_RLS (me n : Nat) (L : List VoteRec) (s : S) (hm : M3 L me n s)
    (hns : s.started = false) (hsc : SignClosed s.eff) (hr : RLS s) :
    M3 L me n (start s) ∧ s.eff <+: (start s).eff :=
  m3_start s hns hsc hr hm

/-- **Lock rule after a restart (single machine).**  As above, followed by any crash-free continuation:
    the lock rule G3 holds for every prevote in the whole trace — including prevotes signed after the
    restart against precommits signed before the crash. -/
theorem lock_rule_after_restart_partial (me n : Nat) (L : List VoteRec) (s : S) (hm : M3 L me n s)
    (hns : s.started = false) (hsc : SignClosed s.eff) (hR : RLS s)
    (evs : List Event) (hn : ∀ e ∈ evs, e.noCrash) (hl : ∀ m, Event.vote m ∈ evs → m ∈ L)
    (pre post : List Msg) (w v : VoteRec) (b : Blk)
    (hs : sentOf (run (start s) evs).eff = pre ++ Msg.vote w :: post)
    (hwt : w.typ = .prevote) (hv : Msg.vote v ∈ pre) (hvt : v.typ = .precommit) (hvb : v.val = some b)
    (hh : v.height = w.height) (hr : v.round < w.round) (hne : w.val ≠ some b) :
    ∃ r'' y, v.round < r'' ∧ r'' ≤ w.round ∧ y ≠ some b ∧
      quorumKnown L n pre w.height .prevote r'' y :=
  (m3_run (start s) evs hn hl (m3_start s hns hsc hR hm).1).trf.g3 pre w post hs hwt v b hv hvt hvb hh hr hne

/-- non-vacuity of the restart hypotheses: a validator that dies right after its first start -/
example : ∃ s : S, M3 [] 0 4 s ∧ s.started = false ∧ SignClosed s.eff ∧ RLS s :=
  ⟨crash (start { n := 4, me := 0 }) 1000 0,
   m3_crash _ _ _ (m3_first_start 4 0), rfl,
   signClosed_of_B (by decide +kernel), by decide +kernel⟩

/-- **Agreement with crash and restart, under RestoreLockSound (C01 as far as the unchanged code
    allows).**  L-sys as in `agreement_nocrash`, plus, for correct validators, `crashEvent` — the process
    dies while handling any event at ANY effect boundary `cut` of that event (before its first effect =
    between events, …, after its last effect), any number `k` of unsynced WAL records survives — and
    `restart` — `Start` on whatever the WALs hold.  Hypotheses on the
    execution, attached to every restart step (`ReachC RLS`): `RLS` (RestoreLockSound: IF the validator
    has signed a non-nil precommit for the height it restarts in, the restored lock is on the block of
    the LAST such precommit with lockedRound ≥ its round; nothing else is assumed about the restored
    state) and the modelling restriction `SignClosed`.  Then any two Finalize effects of correct
    validators for one height — before or after any number of crashes — name the same block.
    Unbounded n, heights, rounds, crashes, execution length. -/
theorem agreement_partial (n : Nat) (byz : Nat → Bool) (hb : fewByz n byz) (sys : Sys)
    (hr : ReachC RLS n byz sys) (i j : Nat) (hi : byz i = false) (hj : byz j = false) (h : Nat) (b b' : Blk)
    (h1 : (h, b) ∈ finalizedOf (sys.st i).eff) (h2 : (h, b') ∈ finalizedOf (sys.st j).eff) : b = b' :=
  Goloop.C01.agreement_partial n byz hb sys hr i j hi hj h b b' h1 h2

/-! non-vacuity of `agreement_partial`: the 4-validator history above with two crashes: validator 2 dies
    in the MIDDLE of the event that locks 1201 (after the lock WAL sync, before the precommit is
    written), validator 0 dies between events after its precommit (0 unsynced records survive); both
    restart (RLS holds: the lock WAL restores (1201, round 0)), validator 2 re-derives and signs its
    precommit from the restored lock, validators 0 and 1 finalize 1201. -/
def exScriptC : List StepC := [
  .ev 1 .async,
  .ev 0 (.proposal 1 1 0 1201 (-1)), .ev 0 (.blockPart 1 1201), .ev 0 .async,
  .ev 2 (.proposal 1 1 0 1201 (-1)), .ev 2 (.blockPart 1 1201), .ev 2 .async,
  .byz ⟨3, 1, .prevote, 0, some 77⟩, .byz ⟨3, 1, .prevote, 0, none⟩,
  .ev 0 (.vote (exPv 1)), .ev 0 (.vote (exPv 2)),
  .ev 2 (.vote (exPv 0)),
  .crashEv 2 (.vote (exPv 1)) 7 0,
  .crashEv 0 (.timeout 9) 1000 0,
  .restart 0, .restart 2,
  .ev 1 (.vote (exPv 0)), .ev 1 (.vote (exPv 2)),
  .ev 0 (.vote (exPc 1)), .ev 0 (.vote (exPc 2)), .ev 0 .async,
  .ev 1 (.vote (exPc 0)), .ev 1 (.vote (exPc 2))]

/-- the checker and the example on one run, evaluated once (as `exScript_eval`) -/
theorem exScriptC_eval :
    (sys0 4).runOkC (fun i => i == 3) exScriptC = true ∧
    (1, 1201) ∈ finalizedOf (((sys0 4).runC exScriptC).st 0).eff ∧
    (1, 1201) ∈ finalizedOf (((sys0 4).runC exScriptC).st 1).eff ∧
    Msg.vote (exPc 2) ∈ sentOf (((sys0 4).runC exScriptC).st 2).eff := by
  decide +kernel

theorem exScriptC_reach : ReachC RLS 4 (fun i => i == 3) ((sys0 4).runC exScriptC) :=
  reachC_run 4 (fun i => i == 3) (sys0 4) exScriptC ReachC.init exScriptC_eval.1

example : (1, 1201) ∈ finalizedOf (((sys0 4).runC exScriptC).st 0).eff ∧
    (1, 1201) ∈ finalizedOf (((sys0 4).runC exScriptC).st 1).eff ∧
    Msg.vote (exPc 2) ∈ sentOf (((sys0 4).runC exScriptC).st 2).eff :=
  exScriptC_eval.2

/-! ### F1 witness: the transcribed machine (and, replayed by the harness, the real engine) loses the
    raised lock round on restart.

    Full statement that does NOT hold for the unchanged code (DESIGN `agreement`, with restart):
      for every event sequence with crash/start anywhere the sent votes satisfy G3.
    It would hold under the hypothesis `RestoreLockSound`: after `start`, lockedRound ≥ the round of
    the validator's last non-nil precommit for the locked block.  The history below violates that
    hypothesis with ALL WALs intact (crash keeps every synced record): validator 0 of 4. -/
def f1Events : List Event := [
  .start,
  .proposal 1 1 0 9 (-1), .blockPart 1 9, .async,                      -- proposal B=9 of round 0
  .vote ⟨1,1,.prevote,0,some 9⟩, .vote ⟨2,1,.prevote,0,some 9⟩,        -- polka (0,9): lock 9@0, precommit
  .vote ⟨1,1,.precommit,0,none⟩, .vote ⟨2,1,.precommit,0,none⟩, .timeout 7,
  .timeout 3,                                                          -- round 1: prevote 9 (locked)
  .vote ⟨2,1,.prevote,1,some 10⟩, .vote ⟨3,1,.prevote,1,none⟩, .timeout 5,
  .vote ⟨1,1,.precommit,1,none⟩, .vote ⟨3,1,.precommit,1,none⟩,        -- +2/3 nil: round 2
  .timeout 3,
  .vote ⟨1,1,.prevote,2,some 9⟩, .vote ⟨3,1,.prevote,2,some 9⟩]        -- polka (2,9): "update lock round"

/-- the delayed polka (1,10): validator 3 equivocates (it is the one Byzantine validator) -/
def f1Late : List Event := [
  .vote ⟨1,1,.prevote,1,some 10⟩, .vote ⟨3,1,.prevote,1,some 10⟩,
  .vote ⟨1,1,.precommit,2,none⟩, .vote ⟨2,1,.precommit,2,none⟩, .timeout 7, .async]

/-- **F1 (witness).**  Before the crash the validator is locked on 9 *since round 2* and has sent
    precommit (round 2, 9).  After `crash` (nothing lost) + `start` the lock round is 0; the delayed
    polka of round 1 (< 2) therefore unlocks it, and in round 3 it proposes and prevotes another
    block although no polka for anything else exists in rounds (2,3]: G3 is violated. -/
theorem restart_loses_lock_round_witness :
    (run {} f1Events).lockedRound = 2 ∧
    Msg.vote ⟨0,1,.precommit,2,some 9⟩ ∈ sentOf (run {} f1Events).eff ∧
    (run {} (f1Events ++ [.crash 1000 0, .start])).lockedRound = 0 ∧
    (run {} (f1Events ++ [.crash 1000 0, .start])).locked = some (9, false) ∧
    (run {} (f1Events ++ [.crash 1000 0, .start] ++ f1Late)).locked = none ∧
    Msg.vote ⟨0,1,.prevote,3,some 1208⟩ ∈ sentOf (run {} (f1Events ++ [.crash 1000 0, .start] ++ f1Late)).eff ∧
    (run {} (f1Events ++ [.crash 1000 0, .start] ++ f1Late)).stuck = false := by
  decide +kernel

/-- without the restart the same late votes do NOT unlock (the in-memory lock round is 2): the
    validator re-proposes 9 in round 3 and prevotes 9 -/
theorem no_restart_keeps_lock :
    ((run {} (f1Events ++ f1Late ++ [.timeout 3])).locked.map (·.1)) = some 9 ∧
    (run {} (f1Events ++ f1Late ++ [.timeout 3])).lockedRound = 2 ∧
    Msg.vote ⟨0,1,.prevote,3,some 9⟩ ∈ sentOf (run {} (f1Events ++ f1Late ++ [.timeout 3])).eff := by
  decide +kernel

/-- **RestoreLockSound is false for the unchanged code (F1).**  The stopped state after the F1 history
    and a crash that loses NOTHING (all WAL records kept, no vote between WAL and network): every other
    premise of the restart step holds (`SignClosed`), `RLS` does not — the last non-nil precommit of
    height 1 is (round 2, block 9), the replay restores lockedRound 0. -/
theorem rls_fails_on_F1_witness :
    (run {} (f1Events ++ [.crash 1000 0])).started = false ∧
    signClosedB (run {} (f1Events ++ [.crash 1000 0])).eff = true ∧
    ¬ RLS (run {} (f1Events ++ [.crash 1000 0])) := by
  decide +kernel

end Goloop.C01.Props
