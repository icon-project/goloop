/-
  Props/C28: hexary block-hash accumulator and merkle tree (icon/merkle/hexary).
  `H` is an arbitrary hash function with 32 byte output.
-/
import Goloop.Proofs.C28
import Goloop.Proofs.C28Batch
import Goloop.Proofs.C28Tree
import Goloop.Proofs.C28SetLen
namespace Goloop.C28

/-- **C28 (altered proofs or hashes are rejected, or a collision is exhibited).**
    For one merkle tree (root, level, node bucket in any state), one key and two proofs of the
    same length: if `Add` accepts hash `h1` with proof `p1` and hash `h2` with proof `p2`, then
    `h1 = h2`, or `p1` and `p2` contain two different nodes with the same `H`-hash. So once a
    genuine (hash, proof) pair is accepted for a key, every accepted pair carries the same hash
    unless it exhibits a collision — in particular a proof with an altered node or an altered
    hash is rejected. (Holds for partial proofs too: the omitted levels come from the same
    bucket.) -/
theorem tampered_rejected_or_collision (H : Bytes → Bytes) (hlen : ∀ x, (H x).length = 32)
    (t : Tree) (key : Nat) (h1 h2 : Bytes) (p1 p2 : List Bytes) (hl : p1.length = p2.length)
    (a1 : (t.add H key h1 p1).2 = .ok) (a2 : (t.add H key h2 p2).2 = .ok) :
    h1 = h2 ∨ Collision H p1 p2 := by
  obtain ⟨_, _, b1, r1, rfl⟩ := add_ok_iff.mp a1
  obtain ⟨_, _, b2, r2, rfl⟩ := add_ok_iff.mp a2
  rw [hl] at r1
  exact (addLoop_binding H hlen r1 r2).imp_left fun hb => by rw [hb]

/-- non-vacuity: a tree of level 1 over two leaves accepts the genuine proof -/
example : ∃ (H : Bytes → Bytes) (t : Tree) (h : Bytes) (p : List Bytes),
    (∀ x, (H x).length = 32) ∧ (t.add H 1 h p).2 = .ok :=
  ⟨fun _ => List.replicate 32 0,
   { db := [], level := 1, root := List.replicate 32 0, cap := 2 },
   List.replicate 32 2, [List.replicate 32 1 ++ List.replicate 32 2],
   by intro x; simp, by decide⟩

inductive Op where
  | add (h : Bytes)
  | fin
  | setLen (l : Nat)

/-- accumulator and tree bucket after one operation (panicking / failing operations leave
    what the Go code leaves) -/
def runOp (H : Bytes → Bytes) (s : Acc × DB) : Op → Acc × DB
  | .add h => ((s.1.add H s.2 h).1, (s.1.add H s.2 h).2.1)
  | .fin => match s.1.finalize H s.2 with
    | some (_, db) => (s.1, db)
    | none => s
  | .setLen l => ((s.1.setLen H s.2 l).1, (s.1.setLen H s.2 l).2.1)

def run (H : Bytes → Bytes) (ops : List Op) : Acc × DB := ops.foldl (runOp H) ({}, [])

theorem runOp_grows (H : Bytes → Bytes) (s : Acc × DB) (op : Op) : Grows H s.2 (runOp H s op).2 := by
  cases op with
  | add x =>
    show Grows H s.2 (s.1.add H s.2 x).2.1
    rw [add_db]; exact addAt_grows H s.1.roots x s.2
  | fin =>
    unfold runOp
    cases hf : Acc.finalize H s.1 s.2 with
    | none => exact Grows.refl
    | some r => exact finalize_grows hf
  | setLen l => exact setLen_grows H s.1 s.2 l

theorem run_allOk (H : Bytes → Bytes) (ops : List Op) : AllOk H (run H ops).2 :=
  List.foldlRecOn (motive := fun s : Acc × DB => AllOk H s.2) ops _ (AllOk.nil H)
    fun s h op _ => (runOp_grows H s op).allOk h

/-- **the tree bucket is content addressed** after any history of Add / Finalize / SetLen
    (any arguments, including failing ones): every node is stored under its own hash. -/
theorem treeBucket_content_addressed (H : Bytes → Bytes) (ops : List Op) : DBOk H (run H ops).2 :=
  (run_allOk H ops).dbok

/-- **what `Prove` returns, `Add` accepts, after any history** (Add / Finalize / SetLen with
    any arguments): whenever `Prove(key, 0)` succeeds on the accumulator's bucket, a verifier
    tree with the same header accepts that proof for the hash found at its end. (The full
    statement for plain `Add` histories is `proof_accepted`.) -/
theorem prove_output_accepted (H : Bytes → Bytes) (ops : List Op) (vdb : DB) (key : Nat)
    (hd : Header) (db' : DB) (pt vt : Tree) (p : List Bytes)
    (hf : (run H ops).1.finalize H (run H ops).2 = some (hd, db'))
    (hpt : newTree db' hd = some pt) (hvt : newTree vdb hd = some vt)
    (hp : pt.prove key 0 = .ok p) :
    (vt.add H key ((nodeGet (lastNode pt.root p) (key % 16)).getD []) p).2 = .ok :=
  accept_of_prove ((finalize_grows hf).allOk (run_allOk H ops)).dbok hpt hvt hp

/-- accumulator and bucket after `Add`ing the hashes `xs` one by one -/
def addAll (H : Bytes → Bytes) (s : Acc × DB) (xs : List Bytes) : Acc × DB :=
  xs.foldl (fun s x => ((s.1.add H s.2 x).1, (s.1.add H s.2 x).2.1)) s

/-- `Add`ing `xs` to the closed-form state of the sequence `s` gives the closed-form state of
    `s ++ xs`; the bucket only grows, and holds every complete group of every level if it did before -/
theorem addAll_state (H : Bytes → Bytes) (hlen : ∀ x, (H x).length = 32)
    (xs : List Bytes) (hx : All32 xs) :
    ∀ (s : List Bytes) (st : Acc × DB), All32 s → st.1 = { len := s.length, roots := rootsOf H s } →
      (addAll H st xs).1 = { len := (s ++ xs).length, roots := rootsOf H (s ++ xs) } ∧
      Grows H st.2 (addAll H st xs).2 ∧
      (FW H st.2 s → FW H (addAll H st xs).2 (s ++ xs)) := by
  induction xs with
  | nil => intro s st _ h; rw [List.append_nil]; exact ⟨h, Grows.refl, id⟩
  | cons x rest ih =>
    rintro s ⟨a, db⟩ hs (rfl : a = _)
    have hxl : x.length = 32 := hx x List.mem_cons_self
    obtain ⟨a1, a2, a3⟩ := addAt_rootsOf H hlen s hs x hxl db
    have hg := addAt_grows H (rootsOf H s) x db
    rw [← add_db H ⟨s.length, rootsOf H s⟩] at a3 hg
    obtain ⟨i1, i2, i3⟩ := ih (fun y hy => hx y (List.mem_cons_of_mem _ hy)) (s ++ [x])
      ((Acc.add H ⟨s.length, rootsOf H s⟩ db x).1, (Acc.add H ⟨s.length, rootsOf H s⟩ db x).2.1)
      (hs.append (All32.single hxl)) (by rw [add_acc H a2, a1, List.length_append]; rfl)
    rw [List.append_assoc] at i1 i3
    exact ⟨i1, hg.trans i2, fun hfw => i3 (a3 hfw)⟩

/-- after `Add`ing `xs` to the empty accumulator over a content-addressed bucket: the state is the
    closed-form state of `xs`, the bucket is still content addressed and holds every complete
    group of every level -/
theorem addAll_facts (H : Bytes → Bytes) (hlen : ∀ x, (H x).length = 32)
    (xs : List Bytes) (hx : All32 xs) (db0 : DB) :
    (addAll H ({}, db0) xs).1 = { len := xs.length, roots := rootsOf H xs } ∧
    (AllOk H db0 → AllOk H (addAll H ({}, db0) xs).2) ∧ FW H (addAll H ({}, db0) xs).2 xs := by
  obtain ⟨h1, h2, h3⟩ := addAll_state H hlen xs hx [] ({}, db0) All32.nil (by rw [rootsOf_nil]; rfl)
  exact ⟨h1, h2.allOk, h3 (FW.nil H _)⟩

/-- **C28 (16-ary roots with carry).** After `Add`ing any `n` 32-byte hashes to the empty
    accumulator, no `Add` has panicked, `Len = n`, and the numbers of hashes held by the root
    nodes are exactly the base-16 digits of `n` (least significant first, no leading zero):
    the roots are a base-16 counter, so their shape depends on `n` alone. -/
theorem roots_are_base16_digits (H : Bytes → Bytes) (hlen : ∀ x, (H x).length = 32)
    (xs : List Bytes) (hx : ∀ x ∈ xs, x.length = 32) (db : DB) :
    (addAll H ({}, db) xs).1.len = xs.length ∧
    (addAll H ({}, db) xs).1.roots.map nodeLen = digits16 xs.length := by
  rw [(addAll_facts H hlen xs hx db).1]
  exact ⟨rfl, rootsOf_nodeLen H hlen xs hx⟩

/-- `GetMerkleHeader` and `Finalize` report the same header for any accumulator state, and it
    depends only on `(Len, Roots)` — not on the tree bucket or on earlier finalisations. -/
theorem header_eq_finalize (H : Bytes → Bytes) (a : Acc) (db : DB) :
    a.header H = (a.finalize H db).map Prod.fst := by
  have h := congrArg (Option.map fun c => (⟨c, a.len⟩ : Header)) (carryFold_carry_eq H a.roots none [] db)
  rw [Option.map_map, Option.map_map] at h
  rw [Acc.finalize, Option.map_map]
  exact h

/-- **C28 (the header is determined by the sequence alone).** After `Add`ing any sequence `xs`
    of 32-byte hashes to the empty accumulator (any tree bucket), both `GetMerkleHeader` and
    `Finalize` (on any bucket state) return `⟨batch xs, |xs|⟩`, where `batch` is the batch
    definition of the hexary merkle root: a single hash is its own root, otherwise hash every
    group of 16 consecutive hashes (the last group may be shorter) and repeat on the next level;
    no root for the empty sequence. Any `H` with 32 byte output; no collision assumption. -/
theorem header_is_function_of_sequence (H : Bytes → Bytes) (hlen : ∀ x, (H x).length = 32)
    (xs : List Bytes) (hx : All32 xs) (db db2 : DB) :
    let a := (addAll H ({}, db) xs).1
    a.header H = some ⟨batch H xs, xs.length⟩ ∧
    ∃ db', a.finalize H db2 = some (⟨batch H xs, xs.length⟩, db') := by
  intro a
  have ha : a = { len := xs.length, roots := rootsOf H xs } := (addAll_facts H hlen xs hx db).1
  obtain ⟨db', h, _⟩ := finalize_rootsOf H hlen xs hx db2
  rw [ha]
  exact ⟨by rw [header_eq_finalize H _ db2, h]; rfl, db', h⟩

/-- **C28 (every added hash has a proof that the tree accepts).** `Add` any sequence `xs` of
    32-byte hashes to the empty accumulator over a content-addressed bucket `db0` (e.g. the
    empty one). Then `Finalize` succeeds with header `⟨batch xs, |xs|⟩`, and if the resulting
    tree bucket holds no two different values with the same hash (`NoCollVals`: an explicit
    finite list — otherwise a collision of `H` is exhibited in the bucket), then for every
    `key < |xs|`: `NewMerkleTree` on that bucket succeeds, `Prove(key, 0)` returns a proof, and a
    verifier tree with the same header on *any* bucket accepts that proof for `xs[key]`. -/
theorem proof_accepted (H : Bytes → Bytes) (hlen : ∀ x, (H x).length = 32)
    (xs : List Bytes) (hx : All32 xs) (db0 : DB) (hdb0 : AllOk H db0)
    (key : Nat) (hkey : key < xs.length) :
    ∃ db', (addAll H ({}, db0) xs).1.finalize H (addAll H ({}, db0) xs).2
        = some (⟨batch H xs, xs.length⟩, db') ∧
      (NoCollVals H db' →
        ∃ pt, newTree db' ⟨batch H xs, xs.length⟩ = some pt ∧
          ∀ vdb, ∃ vt p, newTree vdb ⟨batch H xs, xs.length⟩ = some vt ∧
            pt.prove key 0 = .ok p ∧ (vt.add H key (xs.getD key []) p).2 = .ok) := by
  obtain ⟨hstate, hok1, hfw1⟩ := addAll_facts H hlen xs hx db0
  obtain ⟨db', hfin, hok', hrest⟩ := finalize_prove H hlen xs hx _ (hok1 hdb0) hfw1
  refine ⟨db', by rw [hstate]; exact hfin, ?_⟩
  intro hnc
  obtain ⟨r, hr, hnew, hprove'⟩ := hrest hnc (Nat.zero_lt_of_lt hkey)
  have hprove := hprove' key hkey
  refine ⟨_, hnew db', ?_⟩
  intro vdb
  refine ⟨_, _, hnew vdb, hprove, ?_⟩
  have hacc := accept_of_prove hok'.dbok (hnew db') (hnew vdb) hprove
  -- the hash found at the end of the proof is xs[key]
  rw [lastNode_pathNodes H xs hr hkey, node_get hx key, ← List.getD_eq_getElem?_getD] at hacc
  exact hacc

/-- non-vacuity of the hypotheses of `header_is_function_of_sequence` / `proof_accepted`: a hash
    with 32 byte output, two 32-byte leaves, and the finalised bucket holds no collision -/
example : ∃ (H : Bytes → Bytes) (xs : List Bytes),
    (∀ x, (H x).length = 32) ∧ All32 xs ∧ AllOk H ([] : DB) ∧ 1 < xs.length ∧
    ∃ hd db', (addAll H ({}, []) xs).1.finalize H (addAll H ({}, []) xs).2 = some (hd, db') ∧
      NoCollVals H db' :=
  ⟨fun x => (x.reverse ++ List.replicate 32 0).take 32,
   [List.replicate 32 1, List.replicate 32 2],
   by intro x; simp, by unfold All32; decide,
   AllOk.nil _, by simp,
   ⟨some (List.replicate 32 2), 2⟩,
   [(List.replicate 32 2, List.replicate 32 1 ++ List.replicate 32 2)],
   by decide, by unfold NoCollVals; decide⟩

/-- **C28 (`SetLen`, the branches without a proof).** `SetLen l` with `l > Len` is an error and
    changes nothing; `SetLen 0` gives the empty accumulator (the state of accumulating nothing,
    header `⟨nil, 0⟩`); `SetLen Len` changes nothing. None of them writes the accumulator bucket. -/
theorem setLen_edge_cases (H : Bytes → Bytes) (a : Acc) (db : DB) :
    (∀ l, a.len < l → a.setLen H db l = (a, db, false, .err)) ∧
    a.setLen H db 0 = ({ len := 0, roots := [] }, db, false, .ok) ∧
    (a.len ≠ 0 → a.setLen H db a.len = (a, db, false, .ok)) := by
  refine ⟨?_, ?_, ?_⟩
  · intro l hl; simp [Acc.setLen, hl]
  · simp [Acc.setLen]
  · intro h; simp [Acc.setLen, h]

/-- **C28 (rewind = prefix), the core lemma of `SetLen`.** Let `t` be any sequence of
    32-byte hashes and `m ≤ |t|`. Take one node per level `i` of the finalised tree of `t`, bottom
    level first, for as many levels as `m` has base-16 digits — at level `i` the node in which
    the prefix still has something pending (group `⌊m/16^i⌋/16`, which is the group on the path
    to key `m-1`; any node when digit `i` of `m` is 0) — and cut node `i` to digit `i` of `m`
    (`truncRoots`, the loop at the end of `SetLen`). The result is exactly `rootsOf (t.take m)`,
    the roots `Add` builds for the first `m` hashes (`addAll_state`). `setLen_eq_prefix` below
    connects this to `SetLen` itself. -/
theorem setLen_core_truncated_path_is_prefix_roots (H : Bytes → Bytes) (hlen : ∀ x, (H x).length = 32)
    (t : List Bytes) (ht : All32 t) (m : Nat) (hm : m ≤ t.length)
    (ns : List Bytes) (js : List Nat) (hd : ns.length = hexDigits m) (hjs : js.length = ns.length)
    (hns : ∀ i (hi : i < ns.length), ns[i] = node (T H t i) (js.getD i 0) ∧
      ((m / 16 ^ i) % 16 ≠ 0 → js.getD i 0 = m / 16 ^ i / 16)) :
    truncRoots ns m = some (rootsOf H (t.take m)) :=
  truncRoots_path H hlen ns t m (js.getD · 0) ht hm hd hns

/-- **C28 (rewind = prefix).** `Add` any sequence `xs` of 32-byte hashes (fewer than `2^63`: Go
    `int64` lengths — the model's `powerOf16` loop has 16 nibbles of fuel like the `uint64` loop)
    to the empty accumulator over a content-addressed bucket `db0`, then call `SetLen l` with
    `0 < l < |xs|`. `Finalize` (the first thing `SetLen` does) succeeds with header
    `⟨batch xs, |xs|⟩`, and if the finalised tree bucket holds no two different values with the
    same hash (`NoCollVals`, as in `proof_accepted`), then `SetLen l` returns `.ok`, writes the
    accumulator data, and the new accumulator is exactly the accumulator obtained by `Add`ing only
    the first `l` hashes; in particular its header is `⟨batch (xs.take l), l⟩`. (The other
    arguments of `SetLen` are `setLen_edge_cases`.) -/
theorem setLen_eq_prefix (H : Bytes → Bytes) (hlen : ∀ x, (H x).length = 32)
    (xs : List Bytes) (hx : All32 xs) (db0 : DB) (hdb0 : AllOk H db0)
    (hbound : xs.length < 2 ^ 63) (l : Nat) (hl0 : 0 < l) (hl : l < xs.length) :
    ∃ db', (addAll H ({}, db0) xs).1.finalize H (addAll H ({}, db0) xs).2
        = some (⟨batch H xs, xs.length⟩, db') ∧
      (NoCollVals H db' →
        (addAll H ({}, db0) xs).1.setLen H (addAll H ({}, db0) xs).2 l
          = ({ len := l, roots := rootsOf H (xs.take l) }, db', true, .ok) ∧
        ({ len := l, roots := rootsOf H (xs.take l) } : Acc) = (addAll H ({}, db0) (xs.take l)).1 ∧
        ({ len := l, roots := rootsOf H (xs.take l) } : Acc).header H
          = some ⟨batch H (xs.take l), l⟩) := by
  obtain ⟨hstate, hok1, hfw1⟩ := addAll_facts H hlen xs hx db0
  obtain ⟨db', hfin, hset⟩ := setLen_state H hlen xs hx _ (hok1 hdb0) hfw1 hbound l hl0 hl
  refine ⟨db', by rw [hstate]; exact hfin, ?_⟩
  intro hnc
  have hlt : (xs.take l).length = l := List.length_take_of_le (Nat.le_of_lt hl)
  have hxt : All32 (xs.take l) := hx.take l
  have hpre : (addAll H ({}, db0) (xs.take l)).1 = { len := l, roots := rootsOf H (xs.take l) } := by
    have := (addAll_facts H hlen (xs.take l) hxt db0).1
    rw [hlt] at this; exact this
  refine ⟨by rw [hstate]; exact hset hnc, hpre.symm, ?_⟩
  have := (header_is_function_of_sequence H hlen (xs.take l) hxt db0 db0).1
  rw [hpre, hlt] at this
  exact this

/-- non-vacuity of `setLen_eq_prefix`, and a test of its conclusion: three 32-byte leaves, rewind
    to 2; the hypotheses hold and `SetLen 2` gives the state of accumulating the first two -/
example : ∃ (H : Bytes → Bytes) (xs : List Bytes) (l : Nat),
    (∀ x, (H x).length = 32) ∧ All32 xs ∧ AllOk H ([] : DB) ∧ xs.length < 2 ^ 63 ∧ 0 < l ∧ l < xs.length ∧
    ∃ hd db', (addAll H ({}, []) xs).1.finalize H (addAll H ({}, []) xs).2 = some (hd, db') ∧
      NoCollVals H db' ∧
      (addAll H ({}, []) xs).1.setLen H (addAll H ({}, []) xs).2 l
        = ((addAll H ({}, []) (xs.take l)).1, db', true, .ok) :=
  ⟨fun x => (x.reverse ++ List.replicate 32 0).take 32,
   [List.replicate 32 1, List.replicate 32 2, List.replicate 32 3], 2,
   by intro x; simp, by unfold All32; decide,
   AllOk.nil _, by decide, by decide, by decide,
   ⟨some (List.replicate 32 3), 3⟩,
   [(List.replicate 32 3, List.replicate 32 1 ++ List.replicate 32 2 ++ List.replicate 32 3)],
   by decide, by unfold NoCollVals; decide, by decide⟩

/-- **C28 (`LevelFromLen` bit expression).** `(bits.Len64(n-1)+3)/4` is the height of the
    smallest 16-ary tree with at least `n` leaves: `16^(L-1) < n ≤ 16^L`. -/
theorem levelFromLen_is_tree_height (n : Nat) (hn : 0 < n) :
    n ≤ 16 ^ levelFromLen n ∧ (1 < n → 16 ^ (levelFromLen n - 1) < n) := by
  refine ⟨(levelFromLen_le_iff hn _).mp (Nat.le_refl _), fun h1 => Nat.lt_of_not_le fun h => ?_⟩
  have h0 : levelFromLen n = 0 := by have := (levelFromLen_le_iff hn _).mpr h; omega
  rw [h0] at h; exact absurd h (Nat.not_le.mpr h1)

/-- **F11, code as found**: a proof one element longer than the tree is high, whose tail
    verifies, makes `Add` dereference a nil `*node` (panic) instead of rejecting; the repaired
    code rejects it. (level 0 tree over one leaf; any `H`.) -/
theorem old_add_overlong_panics (H : Bytes → Bytes) (leaf junk : Bytes) (hl : leaf.length = 32) :
    let t : Tree := { db := [], level := 0, root := leaf, cap := 1 }
    (t.addOld H 0 leaf [junk]).2 = .panic ∧ (t.add H 0 leaf [junk]).2 = .verr := by
  have hm : minProofLen 0 0 = 0 := by decide
  have hg : (nodeGet leaf 0).getD [] = leaf := by
    have h1 : List.take 32 leaf = leaf := List.take_of_length_le (Nat.le_of_eq hl)
    simp [nodeGet, nodeLen, hl, hashLen, h1]
  simp [Tree.addOld, Tree.add, Tree.addCore, hm, addLoop, hg]

end Goloop.C28
