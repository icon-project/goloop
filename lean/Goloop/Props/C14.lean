/-
  Props/C14 — "World state snapshots are isolated and the state hash is canonical".
  Model: Model/C14.lean (worldStateImpl / accountStateImpl / snapshots reduced to balance,
  contract part, object graph and storage; pointer identity of snapshot objects as stamps).
  Spec: `World.abs : Account → Option AcctData`, empty accounts absent.
  A history is any list of operations (`Op`) from the initial state; all theorems
  quantify over every history.
-/
import Goloop.Proofs.C14
namespace Goloop.C14
open Proofs

/-- reachable = obtained from the initial state by any operation history -/
def Reachable (h : Hist) : Prop := ∃ ops, h = Hist.init.run ops

theorem Reachable.step {h : Hist} (r : Reachable h) (op : Op) : Reachable (h.step op) := by
  obtain ⟨ops, e⟩ := r
  exact ⟨ops ++ [op], by subst e; simp [Hist.run, List.foldl_append]⟩

theorem reachable_inv {h : Hist} (r : Reachable h) : Inv h := by
  obtain ⟨ops, e⟩ := r; subst e; exact run_inv _ ops init_hist_inv

/-! ### every operation commutes with the abstraction -/

/-- GetSnapshot: the snapshot holds exactly the logical content; the world's logical content is unchanged -/
theorem abs_getSnapshot {h : Hist} (r : Reachable h) :
    absWSnap (h.w.getSnapshot).2 = h.w.abs ∧ (h.w.getSnapshot).1.abs = h.w.abs := by
  have hi := reachable_inv r
  constructor <;> funext a
  · exact ((flush_spec _ _ hi).1 a).1
  · exact ((flush_spec _ _ hi).1 a).2

/-- ClearCache does not change the logical content -/
theorem abs_clearCache {h : Hist} (r : Reachable h) : h.w.clearCache.abs = h.w.abs :=
  funext (clearCache_spec _ _ (reachable_inv r)).1

/-- reads (GetAccountState / GetAccountSnapshot) do not change the logical content, and
    GetAccountSnapshot returns exactly the logical content of the account -/
theorem abs_reads {h : Hist} (r : Reachable h) (a : Nat) :
    (h.w.getAccountState a).1.abs = h.w.abs ∧ (h.w.getAccountSnapshot a).1.abs = h.w.abs ∧
    absSnap (h.w.getAccountSnapshot a).2 = h.w.abs a := by
  have hi := reachable_inv r
  exact ⟨funext (getAccountState_spec _ _ hi a).2.1, funext (getAccountSnapshot_spec _ _ hi a).2.1,
    (getAccountSnapshot_spec _ _ hi a).1⟩

/-- SetBalance a v: balance of `a` becomes `v`, its storage and all other accounts are untouched -/
theorem abs_setBalance {h : Hist} (r : Reachable h) (a : Nat) (v : Int) :
    obsBal ((h.w.setBalance a v).abs a) = v ∧
    (∀ k, obsGet ((h.w.setBalance a v).abs a) k = obsGet (h.w.abs a) k) ∧
    ∀ b, b ≠ a → (h.w.setBalance a v).abs b = h.w.abs b := by
  obtain ⟨e, m0, mf⟩ := mutate_abs h.w _ (reachable_inv r) a (fun st => st.setBalance v)
    (h.w.setBalance a v) rfl
  refine ⟨?_, fun k => ?_, mf⟩
  · rw [e, obsBal_absSt, setBalance_bal]
  · rw [e, m0, obsGet_absSt, obsGet_absSt, setBalance_store]

/-- SetValue a k v (v ≠ 0, i.e. a non-empty value): key `k` of `a` reads `v`; other keys, the
    balance and all other accounts are untouched; the old value is returned -/
theorem abs_setValue {h : Hist} (r : Reachable h) (a k v : Nat) (hv : v ≠ 0) :
    (∀ k', obsGet ((h.w.setValue a k v).1.abs a) k' = if k' = k then some v else obsGet (h.w.abs a) k') ∧
    obsBal ((h.w.setValue a k v).1.abs a) = obsBal (h.w.abs a) ∧
    (∀ b, b ≠ a → (h.w.setValue a k v).1.abs b = h.w.abs b) ∧
    (h.w.setValue a k v).2 = (obsGet (h.w.abs a) k).getD 0 := by
  obtain ⟨e, m0, mf⟩ := mutate_abs h.w _ (reachable_inv r) a (fun st => (st.setValue k v).1)
    (h.w.setValue a k v).1 rfl
  refine ⟨fun k' => ?_, ?_, mf, ?_⟩
  · rw [e, m0, obsGet_absSt, obsGet_absSt, setValue_eq _ _ hv]
    exact kvGet_kvSet _ _ _ _
  · rw [e, m0, obsBal_absSt, obsBal_absSt, setValue_eq _ _ hv]
  · show ((h.w.getAccountState a).2.setValue k v).2 = _
    rw [m0, obsGet_absSt, setValue_eq _ _ hv]

/-- DeleteValue a k (and SetValue with an empty value): key `k` of `a` reads nil afterwards;
    everything else is untouched -/
theorem abs_deleteValue {h : Hist} (r : Reachable h) (a k : Nat) :
    (∀ k', obsGet ((h.w.deleteValue a k).1.abs a) k' = if k' = k then none else obsGet (h.w.abs a) k') ∧
    obsBal ((h.w.deleteValue a k).1.abs a) = obsBal (h.w.abs a) ∧
    (∀ b, b ≠ a → (h.w.deleteValue a k).1.abs b = h.w.abs b) := by
  obtain ⟨e, m0, mf⟩ := mutate_abs h.w _ (reachable_inv r) a (fun st => (st.deleteValue k).1)
    (h.w.deleteValue a k).1 rfl
  refine ⟨fun k' => ?_, ?_, mf⟩
  · rw [e, m0, obsGet_absSt, obsGet_absSt]
    exact deleteValue_get _ k k'
  · rw [e, m0, obsBal_absSt, obsBal_absSt, deleteValue_hdr]

/-- what a mutation of the contract part leaves alone: balance, storage, other accounts -/
theorem abs_contract_frame {h : Hist} (r : Reachable h) (a : Nat) (f : AState → AState)
    (hb : ∀ x, (f x).hdr.bal = x.hdr.bal) (hs : ∀ x, (f x).store = x.store) :
    let w' := (h.w.getAccountState a).1.putState a (f (h.w.getAccountState a).2)
    obsBal (w'.abs a) = obsBal (h.w.abs a) ∧ (∀ k, obsGet (w'.abs a) k = obsGet (h.w.abs a) k) ∧
    ∀ b, b ≠ a → w'.abs b = h.w.abs b := by
  obtain ⟨m1, m0, mf⟩ := mutate_abs h.w _ (reachable_inv r) a f _ rfl
  refine ⟨?_, fun k => ?_, mf⟩
  · rw [m1, m0, obsBal_absSt, obsBal_absSt, hb]
  · rw [m1, m0, obsGet_absSt, obsGet_absSt, hs]

/-- InitContractAccount: the account is a contract afterwards; its current / next contract are
    what they were if it already was one -/
theorem abs_initContract {h : Hist} (r : Reachable h) (a : Nat) :
    obsIsContract ((h.w.initContract a).abs a) = true ∧
    (obsIsContract (h.w.abs a) = true → (h.w.initContract a).abs a = h.w.abs a) := by
  obtain ⟨e, m0, -⟩ := mutate_abs h.w _ (reachable_inv r) a (fun st => st.initContract)
    (h.w.initContract a) rfl
  rw [e, m0, obsIsContract_absSt, obsIsContract_absSt]
  fun_cases AState.initContract _ with
  | case1 hc => exact ⟨hc, fun _ => rfl⟩
  | case2 hc => exact ⟨rfl, (absurd · hc)⟩

/-- DeployContract(c) on a contract account: the next contract becomes (c, pending); the
    current contract and its object graph stay -/
theorem abs_deployContract {h : Hist} (r : Reachable h) (a c : Nat) (hc : obsIsContract (h.w.abs a) = true) :
    obsNext ((h.w.deployContract a c).abs a) = some (c, false) ∧
    obsCur ((h.w.deployContract a c).abs a) = obsCur (h.w.abs a) ∧
    obsGraph ((h.w.deployContract a c).abs a) = obsGraph (h.w.abs a) ∧
    obsIsContract ((h.w.deployContract a c).abs a) = true := by
  obtain ⟨e, m0, -⟩ := mutate_abs h.w _ (reachable_inv r) a (fun st => st.deployContract c)
    (h.w.deployContract a c) rfl
  rw [m0, obsIsContract_absSt] at hc
  rw [e, m0, deployContract_eq _ c hc, absSt_contract _ hc, absSt_contract]
  · exact ⟨rfl, rfl, rfl, hc⟩
  · exact hc

/-- AcceptContract(c) with a pending next contract c: it becomes the current contract, the next
    contract is gone; in every other situation (no next, other tx hash, rejected) nothing changes -/
theorem abs_acceptContract {h : Hist} (r : Reachable h) (a c : Nat) :
    (obsIsContract (h.w.abs a) = true → obsNext (h.w.abs a) = some (c, false) →
      (h.w.acceptContract a c).2 = true ∧
      obsCur ((h.w.acceptContract a c).1.abs a) = some c ∧ obsNext ((h.w.acceptContract a c).1.abs a) = none) ∧
    ((h.w.acceptContract a c).2 = false → (h.w.acceptContract a c).1.abs a = h.w.abs a) := by
  obtain ⟨e, m0, -⟩ := mutate_abs h.w _ (reachable_inv r) a (fun st => (st.acceptContract c).1)
    (h.w.acceptContract a c).1 rfl
  show (_ → _ → ((h.w.getAccountState a).2.acceptContract c).2 = true ∧ _) ∧
    (((h.w.getAccountState a).2.acceptContract c).2 = false → _)
  rw [e, m0, acceptContract_eq]
  constructor
  · intro hc hn
    rw [obsIsContract_absSt] at hc
    rw [absSt_contract _ hc] at hn
    rw [if_pos ⟨hc, hn⟩, absSt_contract]
    · exact ⟨rfl, rfl, rfl⟩
    · exact hc
  · intro hf
    split at hf
    · cases hf
    · rename_i hcn; rw [if_neg hcn]

/-- RejectContract(c) with a pending next contract c: it stays as the next contract, marked
    rejected; the current contract is untouched; otherwise nothing changes -/
theorem abs_rejectContract {h : Hist} (r : Reachable h) (a c : Nat) :
    (obsIsContract (h.w.abs a) = true → obsNext (h.w.abs a) = some (c, false) →
      (h.w.rejectContract a c).2 = true ∧
      obsNext ((h.w.rejectContract a c).1.abs a) = some (c, true) ∧
      obsCur ((h.w.rejectContract a c).1.abs a) = obsCur (h.w.abs a)) ∧
    ((h.w.rejectContract a c).2 = false → (h.w.rejectContract a c).1.abs a = h.w.abs a) := by
  obtain ⟨e, m0, -⟩ := mutate_abs h.w _ (reachable_inv r) a (fun st => (st.rejectContract c).1)
    (h.w.rejectContract a c).1 rfl
  show (_ → _ → ((h.w.getAccountState a).2.rejectContract c).2 = true ∧ _) ∧
    (((h.w.getAccountState a).2.rejectContract c).2 = false → _)
  rw [e, m0, rejectContract_eq]
  constructor
  · intro hc hn
    rw [obsIsContract_absSt] at hc
    rw [absSt_contract _ hc] at hn ⊢
    rw [if_pos ⟨hc, hn⟩, absSt_contract]
    · exact ⟨rfl, rfl, rfl⟩
    · exact hc
  · intro hf
    split at hf
    · cases hf
    · rename_i hcn; rw [if_neg hcn]

/-- SetObjGraph on a contract account with a current contract: the object graph of that contract
    becomes `Changed(nh, g)`; current / next contract are untouched -/
theorem abs_setObjGraph {h : Hist} (r : Reachable h) (a nh g c : Nat)
    (hi : obsIsContract (h.w.abs a) = true) (hc : obsCur (h.w.abs a) = some c) :
    obsGraph ((h.w.setObjGraph a nh g).abs a) = graphChanged nh g ∧
    obsCur ((h.w.setObjGraph a nh g).abs a) = some c ∧
    obsNext ((h.w.setObjGraph a nh g).abs a) = obsNext (h.w.abs a) := by
  obtain ⟨e, m0, -⟩ := mutate_abs h.w _ (reachable_inv r) a (fun st => st.setObjGraph nh g)
    (h.w.setObjGraph a nh g) rfl
  rw [m0, obsIsContract_absSt] at hi
  rw [m0, absSt_contract _ hi] at hc ⊢
  have hc : (h.w.getAccountState a).2.hdr.cur = some c := hc
  rw [e, AState.setObjGraph, hc, absSt_contract]
  · refine ⟨?_, hc, rfl⟩
    show (Hdr.graph _) = _
    simp only [Hdr.graph, hc, Option.bind_some]
    exact ogGet_ogSet _ _ _
  · exact hi

/-! ### the property -/

/-- snapshot_immutable: a snapshot taken at any point of any history is still there,
    unchanged, after any further history (in the model snapshots are immutable values;
    that the Go copy-on-write tries behave like this is what the correspondence run
    re-reads every snapshot for). -/
theorem snapshot_immutable (h : Hist) (ops : List Op) (i : Nat) (ws : WSnap)
    (hs : h.snaps[i]? = some ws) : (h.run ops).snaps[i]? = some ws := by
  obtain ⟨hi, e⟩ := List.getElem?_eq_some_iff.mp hs
  exact e ▸ List.prefix_iff_getElem?.mp (run_snaps_prefix h ops) i hi

/-- reset_restores: after Reset to any snapshot taken earlier in the history, the
    logical content of the world is exactly the snapshot's — whatever is in the
    mutable-account cache (accounts created after the snapshot are cleared, accounts
    deleted after it come back, pointer-equality shortcuts are sound). -/
theorem reset_restores {h : Hist} (r : Reachable h) (i : Nat) (ws : WSnap) (hs : h.snaps[i]? = some ws) :
    (h.w.reset ws).abs = absWSnap ws :=
  funext (reset_spec _ _ (reachable_inv r) ws
    (fun _ _ e => ⟨ws, List.mem_of_getElem? hs, e⟩)).1

/-- flush + reload from the database gives the snapshot's logical content -/
theorem reload_restores {h : Hist} (r : Reachable h) (i : Nat) (ws : WSnap) (hs : h.snaps[i]? = some ws) :
    (World.reload h.w.next ws).abs = absWSnap ws :=
  funext (reload_spec _ _ (reachable_inv r) ws
    (fun _ _ e => ⟨ws, List.mem_of_getElem? hs, e⟩)).1

/-- hash_canonical: for any root-hash function `H` of the abstract account map (C17),
    the state hash of GetSnapshot is a function of the logical content alone: two
    worlds reached by ANY two histories (other access order, cache clearing,
    reloads, resets, accounts emptied again vs never touched) with the same logical
    content have the same state hash. -/
theorem hash_canonical {Hash : Type} (H : (Nat → Option AcctData) → Hash) {h1 h2 : Hist}
    (r1 : Reachable h1) (r2 : Reachable h2) (e : h1.w.abs = h2.w.abs) :
    stateHash H (h1.w.getSnapshot).2 = stateHash H (h2.w.getSnapshot).2 := by
  unfold stateHash
  rw [(abs_getSnapshot r1).1, (abs_getSnapshot r2).1, e]

/-- in particular the hash does not change over ClearCache … -/
theorem hash_clearCache {Hash : Type} (H : (Nat → Option AcctData) → Hash) {h : Hist} (r : Reachable h) :
    stateHash H (h.w.clearCache.getSnapshot).2 = stateHash H (h.w.getSnapshot).2 := by
  exact hash_canonical H (h1 := h.step .clearCache) (h2 := h) (r.step _) r (abs_clearCache r)

/-- … nor over flush + reload from the hash, nor over Reset to the snapshot -/
theorem hash_reload_reset {Hash : Type} (H : (Nat → Option AcctData) → Hash) {h : Hist} (r : Reachable h)
    (i : Nat) (ws : WSnap) (hs : h.snaps[i]? = some ws) :
    stateHash H ((World.reload h.w.next ws).getSnapshot).2 = stateHash H ws ∧
    stateHash H ((h.w.reset ws).getSnapshot).2 = stateHash H ws := by
  have r1 := r.step (.reload i)
  have r2 := r.step (.reset i)
  simp only [Hist.step, hs] at r1 r2
  unfold stateHash
  constructor
  · rw [(abs_getSnapshot r1).1]; exact congrArg H (reload_restores r i ws hs)
  · rw [(abs_getSnapshot r2).1]; exact congrArg H (reset_restores r i ws hs)

/-- empty_indistinguishable: no snapshot of any history contains an empty account; an
    account is absent from the snapshot trie exactly when it is logically empty — whether
    it was never touched or touched and emptied again. -/
theorem empty_indistinguishable {h : Hist} (r : Reachable h) :
    (∀ ws ∈ h.snaps, ∀ a s, ws a = some s → s.isEmpty = false) ∧
    (∀ a, h.w.abs a = none ↔ (h.w.getSnapshot).2 a = none) := by
  have hi := reachable_inv r
  constructor
  · intro ws hm a s e
    exact (hi a).nonempty s (Or.inr ⟨ws, hm, e⟩)
  · intro a
    obtain ⟨fa, hf⟩ := flush_spec _ _ hi
    have ha := (fa a).1
    show h.w.abs a = none ↔ h.w.flush.trie a = none
    rw [← ha]
    cases ht : h.w.flush.trie a with
    | none => simp [absSnap]
    | some s =>
      have : s.isEmpty = false := (hf a).nonempty s (Or.inl ht)
      simp [absSnap, this]

/-! non-vacuity: a concrete history reaches a state with a stored snapshot; an account
    that was filled and emptied again is absent; reset/hypotheses are satisfiable -/
section Example
def exOps : List Op :=
  [.setBalance 0 5, .setValue 1 0 7, .deploy 3 9, .setObjGraph 3 1 4, .snapshot, .setObjGraph 3 2 5, .setBalance 0 0, .deleteValue 1 0, .setValue 2 1 3, .snapshot,
   .clearCache, .reset 0, .snapshot]
def exH : Hist := Hist.init.run exOps
example : Reachable exH := ⟨exOps, rfl⟩
example : exH.snaps.length = 3 := rfl
example : (exH.snaps[1]?.map fun ws => ((ws 0).isNone, (ws 1).isNone, (ws 2).isSome)) = some (true, true, true) := rfl
example : (exH.snaps[2]?.map fun ws => ((ws 0).map (·.hdr.bal), (ws 2).isNone)) = some (some 5, true) := rfl
/-- the object graph set after snapshot 0 is in snapshot 1 but not in snapshot 0 nor after Reset(0) -/
example : (exH.snaps.map fun ws => (ws 3).bind (·.hdr.graph)) = [some (1, 4), some (2, 5), some (1, 4)] := rfl
end Example

end Goloop.C14
