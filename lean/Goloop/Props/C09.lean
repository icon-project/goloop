/-
  Props/C09 — "Parallel transaction execution is equivalent to sequential execution".

  Proved here: the part of the mechanism that is sequential code – the lock-request bookkeeping
  (`applyLockRequests`/`getLocker`/`setLocker` run by the dispatcher over the block's request
  lists) – gives every declared account of every transaction exactly the dependency the schedule
  constraint needs: the LAST earlier transaction that may write the account (per-account write
  request or a world write lock), or none.  Consequently the transactions that may write one
  account are chained by dependencies in block order (`writers_are_chained`).

  On top of that: `serializable` (every schedule of the event system `Sim` = sequential execution),
  `serializable_with_retry` (the same with the retry pattern, Proofs/C09Retry) and `deadlock_free`,
  with witness theorems for the excluded block shapes.
-/
import Goloop.Proofs.C09Ser
import Goloop.Proofs.C09Retry
namespace Goloop.C09
open Goloop.C09.Proofs

/-- `lastWriter base pre a` really is the greatest index (counted from `base`) of a transaction in
    `pre` whose request list lets it modify `a`. -/
theorem lastWriter_spec (a : Nat) : ∀ (pre : List Tx) (base : Nat),
    (∀ k, lastWriter base pre a = some k →
      ∃ h : k - base < pre.length, base ≤ k ∧ mayWrite (pre[k - base]).reqs a = true ∧
        ∀ j (hj : j < pre.length), k - base < j → mayWrite (pre[j]).reqs a = false) ∧
    (lastWriter base pre a = none → ∀ j (hj : j < pre.length), mayWrite (pre[j]).reqs a = false) := by
  intro pre base
  obtain ⟨h1, h2⟩ := lastWriter_spec' a pre base
  refine ⟨fun k hk => ?_, fun hn j hj => h2 hn j _ (List.getElem?_eq_getElem hj)⟩
  obtain ⟨m, t, rfl, hm, hw, hafter⟩ := h1 k hk
  obtain ⟨hlt, rfl⟩ := List.getElem?_eq_some_iff.mp hm
  simp only [Nat.add_sub_cancel_left]
  exact ⟨hlt, Nat.le_add_right _ _, hw, fun j hj hmj => hafter j _ hmj (List.getElem?_eq_getElem hj)⟩

/-- For EVERY block (sequence of lock-request lists), every transaction `i` and every account entry
    the bookkeeping creates for it: the recorded dependency is the last earlier transaction that may
    write that account (write request on it, or world write lock), `none` if there is none. -/
theorem depend_is_last_writer (txs : List Tx) (i : Nat) (hi : i < txs.length) (lk : Locks)
    (hlk : (build txs)[i]? = some lk) (l : Las) (hl : l ∈ lk.las) :
    l.depend = lastWriter 0 (txs.take i) l.acct := by
  have : lkAt txs i = lk := by rw [lkAt, List.getD_eq_getElem?_getD, hlk]; rfl
  exact las_dep hi (this ▸ hl)

example : (build [⟨[⟨some 1, .write⟩], []⟩, ⟨[⟨none, .write⟩], []⟩, ⟨[⟨some 1, .read⟩, ⟨some 2, .write⟩], []⟩])[2]?.map
    (fun lk => lk.las) = some [⟨1, .read, some 1⟩, ⟨2, .write, some 1⟩] := by decide

/-- A transaction holds the world write lock (no per-account entries; every state access waits for
    ALL predecessors in `Realize`) exactly when its request list contains a world write request. -/
theorem world_lock_iff (c : Ctx) (i : Nat) (reqs : List Req) :
    ((applyLockRequests c i reqs).1.world = 2 ↔ hasWorldW reqs = true) ∧
    ((applyLockRequests c i reqs).1.world = 2 → (applyLockRequests c i reqs).1.las = []) := by
  unfold applyLockRequests
  by_cases hw : worldLockOf reqs = 2
  · simp [hw, (worldLockOf_eq_two reqs).mp hw]
  · simp [hw, (worldLockOf_ne_two hw).2]

/-- The transactions that may write one account are chained in block order: if `j < i` may write
    `a` and `i` has an entry for `a`, then `i` waits for some `k` with `j ≤ k < i` that may write `a`
    (and `k`, if it is not `j`, in turn waits for a writer between `j` and itself, and so on). -/
theorem writers_are_chained (txs : List Tx) (i : Nat) (hi : i < txs.length) (lk : Locks)
    (hlk : (build txs)[i]? = some lk) (l : Las) (hl : l ∈ lk.las)
    (j : Nat) (hj : j < i) (hw : mayWrite (txs[j]'(by omega)).reqs l.acct = true) :
    ∃ k, ∃ hk : k < i, l.depend = some k ∧ j ≤ k ∧ mayWrite (txs[k]'(by omega)).reqs l.acct = true := by
  have hd : l.depend = dep txs i l.acct := depend_is_last_writer txs i hi lk hlk l hl
  have hwr : ∀ k (hk : k < i), mayWrite (txs[k]'(Nat.lt_trans hk hi)).reqs l.acct = writer txs k l.acct :=
    fun k hk => by rw [writer, txAt_lt]
  rw [hwr j hj] at hw
  obtain ⟨h1, h2⟩ := dep_spec (Nat.le_of_lt hi) l.acct
  cases hlw : dep txs i l.acct with
  | none => rw [h2 hlw j hj] at hw; cases hw
  | some k =>
    obtain ⟨hk, hm, hafter⟩ := h1 k hlw
    refine ⟨k, hk, hd.trans hlw, Nat.le_of_not_lt fun hkj => ?_, (hwr k hk).trans hm⟩
    rw [hafter j hkj hj] at hw; cases hw

/-! ### serializability of the event system `Sim`

`Supported txs` (Proofs/C09Seq) states which blocks are covered:
* `noWorldRead`  – no request for a READ lock on the whole world (no handler makes one);
* `worldTouches` – a transaction holding the world WRITE lock has a non-empty program, i.e. it
  accesses the state before it commits (the worker always calls `ctx.UpdateSystemInfo()`);
* `valid`        – a write step goes to an account the transaction may write, or to an undeclared
  account (where the code returns nil and nothing happens); a write through a read-only account
  state panics in the code.
The two witness theorems below show that the first two hypotheses cannot be dropped.

A schedule is a list of transaction indices; `runSched` fires them one by one and yields `none` as
soon as one of them is not enabled, so `runSched … = some s` says "`s` is reached by a sequence of
enabled events" – any interleaving of program steps and Commits the blocking discipline admits. -/

/-- what the invariant of `Sim` says in terms of the sequential reference `runSeq` -/
theorem inv_conclusions (txs : List Tx) (nacc : Nat) (s : Sim) (h : Inv txs (initBal nacc) s) :
    (∀ i, i < txs.length → (s.sts.getD i {}).loc.obs <+: (runSeq nacc txs).2.getD i []) ∧
    ((∀ i, i < txs.length → s.isCommitted i = true) →
      s.real = (runSeq nacc txs).1 ∧ s.sts.map (fun st => st.loc.obs) = (runSeq nacc txs).2) := by
  rw [runSeq_eq]
  constructor
  · intro i hi
    have hloc := h.loc i hi
    have hpc := h.pcLe i hi
    simp only [stOf] at hloc hpc
    rw [hloc]
    simp only [List.getD_eq_getElem?_getD, List.getElem?_map, List.getElem?_range hi, Option.map_some,
      Option.getD_some]
    exact partialRun_obs_prefix _ _ _ _ _ _ hpc
  · intro hall
    constructor
    · refine List.ext_getElem (by rw [h.lenR, seqState_length]) fun a h1 h2 => ?_
      simpa [List.getD_eq_getElem?_getD, h1, h2] using h.fin a (fun j hj _ => hall j hj)
    · apply List.ext_getElem
      · simp [h.lenS]
      · intro i h1 h2
        have hi : i < txs.length := by simpa using h2
        have h1' : i < s.sts.length := by simpa using h1
        have hst : stOf s i = s.sts[i] := by
          simp [stOf, List.getD_eq_getElem?_getD, h1']
        simp only [List.getElem_map, List.getElem_range]
        rw [← hst, h.loc i hi, h.commPc i hi (hall i hi)]

/-- SERIALIZABLE. For every supported block, every account universe and EVERY schedule of enabled
    events:
    (a) at every moment, what each transaction has observed so far (every value a read returned,
        `none` for an undeclared account) is a prefix of what it observes in the sequential
        execution of the block – i.e. a read returns the value left by all earlier transactions in
        block order (and by the transaction's own earlier writes);
    (b) once every transaction is committed, the world state equals the sequential final state
        and every transaction's list of observations equals the sequential one. -/
theorem serializable (txs : List Tx) (hs : Supported txs) (nacc : Nat) (sched : List Nat) (s : Sim)
    (hrun : runSched txs (build txs) sched (simInit nacc txs) = some s) :
    (∀ i, i < txs.length → (s.sts.getD i {}).loc.obs <+: (runSeq nacc txs).2.getD i []) ∧
    ((∀ i, i < txs.length → s.isCommitted i = true) →
      s.real = (runSeq nacc txs).1 ∧ s.sts.map (fun st => st.loc.obs) = (runSeq nacc txs).2) := by
  exact inv_conclusions txs nacc s (inv_runSched hs sched _ s (inv_init hs nacc) hrun)

/-- The executable `simulate` that the correspondence run compares with the real code (token or
    priority schedules) is an instance: whatever it returns satisfies `serializable`. -/
theorem simulate_serializable (txs : List Tx) (hs : Supported txs) (nacc fuel : Nat) (sc : Sched)
    (hok : SchedOK txs.length sc) (s : Sim)
    (hsim : simulate txs (build txs) fuel (simInit nacc txs) sc = some s)
    (hall : ∀ i, i < txs.length → s.isCommitted i = true) :
    s.real = (runSeq nacc txs).1 ∧ s.sts.map (fun st => st.loc.obs) = (runSeq nacc txs).2 := by
  obtain ⟨sched, hrun⟩ := simulate_is_schedule txs (build txs) fuel _ sc s hok hsim
  exact (serializable txs hs nacc sched s hrun).2 hall

/-- the hypotheses are satisfiable by a block with conflicts, a world write lock and an unused lock -/
example : Supported [⟨[⟨some 1, .write⟩, ⟨some 0, .read⟩], [.r 0, .r 1, .w 1]⟩,
                     ⟨[⟨some 1, .write⟩], []⟩,
                     ⟨[⟨none, .write⟩], [.r 0, .w 1, .w 2]⟩,
                     ⟨[⟨some 1, .read⟩, ⟨some 2, .write⟩], [.r 1, .w 2, .r 3]⟩] :=
  ⟨by decide, by decide, by decide⟩

/-- DEADLOCK FREEDOM: in every state of `Sim` (reachable or not) in which some transaction of the
    block is not committed, some event is enabled – the least uncommitted transaction can always
    make its next program step or commit. -/
theorem deadlock_free (txs : List Tx) (s : Sim)
    (hunc : ∃ i, i < txs.length ∧ s.isCommitted i = false) :
    ∃ i, i < txs.length ∧ enabledTx txs (build txs) s i = true := by
  obtain ⟨i, hi, hc⟩ := hunc
  induction i using Nat.strongRecOn with
  | _ i ih =>
    by_cases hall : ∀ j, j < i → (stOf s j).committed = true
    · exact ⟨i, hi, least_enabled hi hc hall⟩
    · obtain ⟨j, hj⟩ := Classical.not_forall.mp hall
      obtain ⟨hji, hjc⟩ := Classical.not_imp.mp hj
      exact ih j hji (Nat.lt_trans hji hi) (Bool.eq_false_iff.mpr hjc)

/-- WITNESS that `noWorldRead` is needed: with a world READ lock the event system (and the real
    code: `blk g 3 3 w1:w1 R:r1,r2 w1:w1 p 2 1 0`) lets the world reader observe the write of a
    LATER transaction: transaction 1 reads 317 from account 1, sequentially it reads 115. -/
theorem world_read_lock_not_serializable :
    let txs : List Tx := [⟨[⟨some 1, .write⟩], [.w 1]⟩, ⟨[⟨none, .read⟩], [.r 1, .r 2]⟩, ⟨[⟨some 1, .write⟩], [.w 1]⟩]
    (runSched txs (build txs) [0, 0, 2, 2, 1, 1, 1] (simInit 3 txs)).map (fun s => s.sts.map (fun st => st.loc.obs))
      = some [[], [some 317, some 3000], []] ∧
    (runSeq 3 txs).2 = [[], [some 115, some 3000], []] := by
  decide

/-- WITNESS that `worldTouches` is needed: a world write locker that commits without touching the
    state (`blk g 3 3 w1:r1,w1 W:- w1:r1,w1 p 2 1 0`) lets transaction 2 run before transaction 0:
    transaction 2 reads the initial 2000 from account 1, sequentially it reads 34234. -/
theorem idle_world_writer_not_serializable :
    let txs : List Tx := [⟨[⟨some 1, .write⟩], [.r 1, .w 1]⟩, ⟨[⟨none, .write⟩], []⟩, ⟨[⟨some 1, .write⟩], [.r 1, .w 1]⟩]
    (runSched txs (build txs) [1, 2, 2, 2, 0, 0, 0] (simInit 3 txs)).map (fun s => s.sts.map (fun st => st.loc.obs))
      = some [[some 34436], [], [some 2000]] ∧
    (runSeq 3 txs).2 = [[some 2000], [], [some 34234]] := by
  decide

/-! ### executor retry (GetSnapshot at start, run, Reset, run again) – Model/C09Retry

`RSim` adds to `Sim` the events `snap i` (GetSnapshot with its real semantics per lock kind:
account locks – never blocks, records the resolved write-locked entries; world write lock – enabled
only when every predecessor is committed, then a copy of the real state) and `reset i` (Reset to
that snapshot; world write lock – the real state becomes the copy; account locks – every
write-locked entry goes back to its snapshot value or to `las.base`; the program starts again).
`retry[i]` says which transactions follow the pattern; a retrying transaction must take its snapshot
before its first step and may commit only after the Reset and the second run. -/

/-- The retry invariant (`RInv`: the invariant of `Sim` + the facts about the snapshot data) holds
    in every state reached by ANY schedule of enabled events (snapshots, steps, Commits, Resets in
    any admissible interleaving). -/
theorem retry_invariant_reachable (txs : List Tx) (hs : Supported txs) (retry : List Bool) (nacc : Nat)
    (evs : List Ev) (r : RSim)
    (hrun : runEv true txs retry (build txs) evs (rInit nacc txs) = some r) :
    RInv txs retry (initBal nacc) r :=
  rinv_run hs evs _ r (rinv_init hs retry nacc) hrun

/-- SERIALIZABLE WITH RETRY. For every supported block, every choice of retrying transactions,
    every account universe and EVERY schedule of enabled events of the retry system:
    (a) at every moment the observations of the current run of each transaction are a prefix of its
        sequential observations;
    (b) once every transaction is committed, the world state equals the sequential final state and
        every transaction's observations equal the sequential ones – a retrying transaction counts
        as its final run (`runSeq` knows nothing about retries). -/
theorem serializable_with_retry (txs : List Tx) (hs : Supported txs) (retry : List Bool) (nacc : Nat)
    (evs : List Ev) (r : RSim)
    (hrun : runEv true txs retry (build txs) evs (rInit nacc txs) = some r) :
    (∀ i, i < txs.length → (r.sim.sts.getD i {}).loc.obs <+: (runSeq nacc txs).2.getD i []) ∧
    ((∀ i, i < txs.length → r.sim.isCommitted i = true) →
      r.sim.real = (runSeq nacc txs).1 ∧ r.sim.sts.map (fun st => st.loc.obs) = (runSeq nacc txs).2) :=
  inv_conclusions txs nacc r.sim (retry_invariant_reachable txs hs retry nacc evs r hrun).inv

/-- non-vacuity: a supported block with a retrying world write locker and a retrying account locker,
    and a complete schedule of enabled events for it -/
example :
    let txs : List Tx := [⟨[⟨some 0, .write⟩, ⟨some 1, .read⟩], [.r 1, .r 0, .w 0]⟩, ⟨[⟨none, .write⟩], [.r 0, .w 0, .w 1]⟩]
    Supported txs ∧
    (runEv true txs [true, true] (build txs)
      [.snap 0, .act 0, .act 0, .act 0, .reset 0, .act 0, .act 0, .act 0, .act 0,
       .snap 1, .act 1, .act 1, .act 1, .reset 1, .act 1, .act 1, .act 1, .act 1] (rInit 2 txs)).map
        (fun r => (r.sim.real, r.sim.sts.map (fun st => st.committed))) = some ((runSeq 2 txs).1, [true, true]) :=
  ⟨⟨by decide, by decide, by decide⟩, by decide⟩

/-- WITNESS for the guard the proof relies on (seeded change C09-5): if the snapshot of the real
    state is taken BEFORE waiting for the predecessors (`guarded = false`), the block
    [tx0: write-lock account 0, read it, write it] [tx1: world write lock, retrying] has a schedule
    of enabled events – tx1 snapshots first, tx0 runs and commits, tx1 runs, resets, runs again –
    after which tx0's write is lost: tx1 reads 1000 instead of 17221 and the final state is
    [17322, 311809] instead of the sequential [293079, 275420].  With the guard the same schedule is
    not admissible (the snapshot event is not enabled), and the admissible one gives the sequential result. -/
theorem retry_snapshot_before_wait_not_serializable :
    let txs : List Tx := [⟨[⟨some 0, .write⟩], [.r 0, .w 0]⟩, ⟨[⟨none, .write⟩], [.r 0, .w 0, .w 1]⟩]
    let early : List Ev := [.snap 1, .act 0, .act 0, .act 0, .act 1, .act 1, .act 1, .reset 1, .act 1, .act 1, .act 1, .act 1]
    let late : List Ev := [.act 0, .act 0, .act 0, .snap 1, .act 1, .act 1, .act 1, .reset 1, .act 1, .act 1, .act 1, .act 1]
    (runEv false txs [false, true] (build txs) early (rInit 2 txs)).map (fun r => (r.sim.real, r.sim.sts.map (fun st => st.loc.obs)))
      = some ([17322, 311809], [[some 1000], [some 1000]]) ∧
    (runEv true txs [false, true] (build txs) early (rInit 2 txs)).map (fun r => r.sim.real) = none ∧
    (runEv true txs [false, true] (build txs) late (rInit 2 txs)).map (fun r => (r.sim.real, r.sim.sts.map (fun st => st.loc.obs)))
      = some (runSeq 2 txs) ∧
    runSeq 2 txs = ([293079, 275420], [[some 1000], [some 17221]]) := by
  decide

end Goloop.C09
